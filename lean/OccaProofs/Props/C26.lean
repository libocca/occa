/-
C26 — Mode-specific properties override generic ones only for their mode.

Model: OccaModel/Props.lean (getModeSpecificProps, getObjectSpecificProps, initialObjectProps, device::setup,
device::kernel/memory/streamProperties(extra), occa::settings()) as compositions of the JSON operations of C25.
Statements are member by member (`memberOf j k` / `lookup k kvs`), for property trees whose layers are
dictionary-like (`DictLike`: undefined or an object — a layer that is a number or a string makes the C++ throw
"Cannot apply operator + with different JSON types", which the model reproduces and the harness checks).
`over lower upper` is one layer over another for one member: the upper layer wins, objects present in both
are merged recursively (C25_mergeVal_spec).  Priority, lowest first:
   settings[obj]  settings[obj/modes/M]  settings[modes/M/obj]  user[obj]  user[obj/modes/M]  user[modes/M/obj]
   then per call:  stored  extra  extra[modes/M]
  generic entries overridden by the entries of the device's own mode     C26_mode_layering, C26_object_layering
  user-supplied properties override global settings                       C26_initial_layering, C26_device_layering
  per-call properties override the stored ones                            C26_percall_layering
  a leaf entry of a higher layer simply wins                              C26_higher_leaf_wins
  no "modes" member survives                                              C26_no_modes_key
  entries for other modes never take effect                               C26_other_modes_inert_mode / _top / _object / _device
-/
import OccaProofs.Lemmas.JsonGenTie
import OccaProofs.Lemmas.PropsLaws

namespace Occa.Json.C26

/-- getModeSpecificProps(M, props): generic members overridden by the members of props["modes/M"];
    the "modes" member itself is dropped -/
theorem C26_mode_layering (mode : Bytes) (props : Json) (hm : PlainKey mode) (hp : DictLike props)
    (hM : DictLike (readK [sModes, mode] props)) :
    ∃ r, modeSpecific mode props = .ok r ∧ DictLike r
      ∧ ∀ k, memberOf r k = if k = sModes then Option.none
          else over (memberOf props k) (memberOf (readK [sModes, mode] props) k) := by
  obtain ⟨r, h1, h2, _, h3⟩ := modeSpecific_dict mode props hm hp hM
  exact ⟨r, h1, h2, h3⟩

example : modeSpecific sSerial (.obj [([120], .num ⟨.i32, 1, []⟩), (sModes, .obj [(sOpenMP, .obj [([120], .num ⟨.i32, 3, []⟩)]), (sSerial, .obj [([120], .num ⟨.i32, 2, []⟩)])])])
    = .ok (.obj [([120], .num ⟨.i32, 2, []⟩)]) := by rfl

/-- getObjectSpecificProps(M, obj, props): props[obj] < props[obj/modes/M] < props[modes/M/obj] -/
theorem C26_object_layering (mode object : Bytes) (props : Json) (hm : PlainKey mode) (ho : PlainKey object)
    (h1 : DictLike (layer1 object props)) (h2 : DictLike (layer2 mode object props))
    (h3 : DictLike (layer3 mode object props)) :
    ∃ r, objectSpecific mode object props = .ok r ∧ DictLike r
      ∧ ∀ k, memberOf r k = if k = sModes then Option.none else objMember mode object props k := by
  obtain ⟨ab, hab, hdab, hmab, -⟩ := add_dict _ _ h1 h2
  obtain ⟨abc, habc, hdabc, hmabc, -⟩ := add_dict _ _ hdab h3
  obtain ⟨hdr, hmr⟩ := remove2_dict object sModes abc hdabc
  obtain ⟨hdr2, hmr2, -⟩ := remove1_dict sModes _ hdr
  refine ⟨removeK [sModes] (removeK [object, sModes] abc), ?_, hdr2, fun k => ?_⟩
  · rw [objectSpecific_keys hm ho, add3, hab]
    simp only [habc]
    rfl
  · rw [hmr2 k, hmr k]
    unfold objMember
    by_cases hko : k = object
    · subst hko; simp only [hmabc, hmab]
    · simp only [hko, if_false, hmabc, hmab]

/-- initialObjectProps: the three settings layers below the three user layers; `mode` is set last -/
theorem C26_initial_layering (settings props : Json) (mode object : Bytes) (hm : PlainKey mode) (ho : PlainKey object)
    (s1 : DictLike (layer1 object settings)) (s2 : DictLike (layer2 mode object settings))
    (s3 : DictLike (layer3 mode object settings))
    (u1 : DictLike (layer1 object props)) (u2 : DictLike (layer2 mode object props))
    (u3 : DictLike (layer3 mode object props)) :
    ∃ kvs, initialObject settings mode object props = .ok (.obj kvs) ∧ Sorted kvs
      ∧ ∀ k, lookup k kvs =
          if k = sMode then some (.str mode)
          else if k = sModes then Option.none
          else over (objMember mode object settings k) (objMember mode object props k) := by
  obtain ⟨s, hs, hds, hms⟩ := C26_object_layering mode object settings hm ho s1 s2 s3
  obtain ⟨u, hu, hdu, hmu⟩ := C26_object_layering mode object props hm ho u1 u2 u3
  obtain ⟨su, hsu, hdsu, hmsu, -⟩ := add_dict s u hds hdu
  obtain ⟨kvs, hk, hsorted, hmk⟩ := write1_dict sMode (.str mode) hdsu
  refine ⟨kvs, ?_, hsorted, fun k => ?_⟩
  · unfold initialObject
    rw [hs, hu]
    simp only [hsu, hk]
  · rw [hmk, hmsu k, hms k, hmu k]
    split
    · rfl
    · split <;> rfl

theorem devLayers_initial {settings : Json} {P : Obj} {mode o : Bytes} (L : DevLayers settings (.obj P) mode)
    (hm : PlainKey mode) (ho : PlainKey o) (h : o = sKernel ∨ o = sMemory ∨ o = sStream) :
    ∃ k, initialObject settings mode o (.obj P) = .ok (.obj k) := by
  obtain ⟨s1, s2, s3, u1, u2, u3⟩ := L.obj o h
  obtain ⟨k, hk, -⟩ := C26_initial_layering settings (.obj P) mode o hm ho s1 s2 s3 u1 u2 u3
  exact ⟨k, hk⟩

/-- device::setup: `device.properties()` = settings' device layers below (user < user[modes/M]); the
    kernel / memory / stream members are the initialObjectProps of C26_initial_layering; `mode` is the
    registered spelling of the mode found in the assembled properties -/
theorem C26_device_layering (settings : Json) (P : Obj) (mode : Bytes) (hP : Sorted P) (hm : PlainKey mode)
    (hmode : lookup sMode P = some (.str mode)) (L : DevLayers settings (.obj P) mode) :
    ∃ kvs ko me st, deviceProps settings (.obj P) = .ok (.obj kvs) ∧ Sorted kvs
      ∧ initialObject settings mode sKernel (.obj P) = .ok ko
      ∧ initialObject settings mode sMemory (.obj P) = .ok me
      ∧ initialObject settings mode sStream (.obj P) = .ok st
      ∧ ∀ k, lookup k kvs =
          if k = sMode then
            some (.str (canonicalMode (toStringJ ((over (objMember mode sDevice settings sMode)
              (over (some (.str mode)) (memberOf (readK [sModes, mode] (.obj P)) sMode))).getD .none))))
          else if k = sStream then some st
          else if k = sMemory then some me
          else if k = sKernel then some ko
          else if k = sModes then Option.none
          else over (objMember mode sDevice settings k)
                 (over (lookup k P) (memberOf (readK [sModes, mode] (.obj P)) k)) := by
  obtain ⟨d, hd, hdd, hmd⟩ := C26_object_layering mode sDevice settings hm plain_sDevice L.d1 L.d2 L.d3
  obtain ⟨m, hms, hdm, -, hmm⟩ := modeSpecific_dict mode (.obj P) hm (dictLike_obj hP) L.um
  obtain ⟨dp, hdp, hddp, hmdp, -⟩ := add_dict d m hdd hdm
  obtain ⟨kk, hkk⟩ := devLayers_initial L hm plain_sKernel (Or.inl rfl)
  obtain ⟨km, hkm⟩ := devLayers_initial L hm plain_sMemory (Or.inr (Or.inl rfl))
  obtain ⟨ks, hks⟩ := devLayers_initial L hm plain_sStream (Or.inr (Or.inr rfl))
  -- the four single-key assignments are `set`s, each on an ordered object
  obtain ⟨k1, e1, hs1, m1⟩ := write1_dict sKernel (.obj kk) hddp
  obtain ⟨k2, e2, hs2, m2⟩ := write1_dict sMemory (.obj km) (dictLike_obj hs1)
  obtain ⟨k3, e3, hs3, m3⟩ := write1_dict sStream (.obj ks) (dictLike_obj hs2)
  obtain ⟨k4, e4, hs4, m4⟩ := write1_dict sMode (.str (canonicalMode (toStringJ (readP sMode (.obj k3)))))
    (dictLike_obj hs3)
  have hk3 : ∀ q, lookup q k3 = if q = sStream then some (.obj ks) else if q = sMemory then some (.obj km)
      else if q = sKernel then some (.obj kk) else memberOf dp q := fun q => by
    rw [m3, memberOf_obj, m2, memberOf_obj, m1]
  have hdpm : ∀ q, memberOf dp q = if q = sModes then Option.none else over (objMember mode sDevice settings q)
      (over (lookup q P) (memberOf (readK [sModes, mode] (.obj P)) q)) := fun q => by
    rw [hmdp, hmd, hmm]
    split <;> rfl
  have hmd' : readP sMode (.obj k3) = (over (objMember mode sDevice settings sMode)
      (over (some (.str mode)) (memberOf (readK [sModes, mode] (.obj P)) sMode))).getD .none := by
    rw [readP, splitPath1 sMode plain_sMode, readK_one, memberOf_obj, hk3, if_neg (by decide), if_neg (by decide),
      if_neg (by decide), hdpm, if_neg (by decide), hmode]
  refine ⟨k4, .obj kk, .obj km, .obj ks, ?_, hs4, hkk, hkm, hks, fun k => ?_⟩
  · unfold deviceProps
    simp only [mode_of_props hmode, hd, hms, hdp, hkk, hkm, hks, e1, e2, e3, e4, bind, Except.bind]
  · rw [m4, memberOf_obj, hmd', hk3 k, hdpm k]

/-- kernelProperties(extra) etc.: the stored properties of the object below extra below extra[modes/M],
    M being the registered mode of the device -/
theorem C26_percall_layering (D : Obj) (mode object : Bytes) (extra : Json) (hm : PlainKey mode) (ho : PlainKey object)
    (hmode : lookup sMode D = some (.str mode)) (hs : DictLike (readK [object] (.obj D)))
    (he : DictLike extra) (hM : DictLike (readK [sModes, mode] extra)) :
    ∃ r, perCall (.obj D) object extra = .ok r ∧ DictLike r
      ∧ ∀ k, memberOf r k = over (memberOf (readK [object] (.obj D)) k)
          (if k = sModes then Option.none else over (memberOf extra k) (memberOf (readK [sModes, mode] extra) k)) := by
  obtain ⟨m, hms, hdm, -, hmm⟩ := modeSpecific_dict mode extra hm he hM
  obtain ⟨r, hr, hdr, hmr, -⟩ := add_dict _ m hs hdm
  refine ⟨r, ?_, hdr, fun k => by rw [hmr k, hmm k]⟩
  simp only [perCall, mode_of_props hmode, hms]
  rw [readP, splitPath1 object ho]
  exact hr

/-- a member that a higher layer defines with a value that is not an object is exactly that value,
    whatever the lower layers hold ("the first defined entry wins", in priority order) -/
theorem C26_higher_leaf_wins (lower : Option Json) (v : Json) (h : v.isObj = false) :
    over lower (some v) = some v ∧ over lower Option.none = lower :=
  ⟨over_leaf lower v h, rfl⟩

/-- no "modes" member survives in what getModeSpecificProps / getObjectSpecificProps /
    initialObjectProps return -/
theorem C26_no_modes_key (settings props : Json) (mode object : Bytes) (hm : PlainKey mode) (ho : PlainKey object)
    (hp : DictLike props) (hM : DictLike (readK [sModes, mode] props))
    (s1 : DictLike (layer1 object settings)) (s2 : DictLike (layer2 mode object settings))
    (s3 : DictLike (layer3 mode object settings))
    (u1 : DictLike (layer1 object props)) (u2 : DictLike (layer2 mode object props))
    (u3 : DictLike (layer3 mode object props)) :
    (∃ r, modeSpecific mode props = .ok r ∧ memberOf r sModes = Option.none)
      ∧ (∃ r, objectSpecific mode object props = .ok r ∧ memberOf r sModes = Option.none)
      ∧ (∃ r, initialObject settings mode object props = .ok r ∧ memberOf r sModes = Option.none) := by
  obtain ⟨r1, h1, -, m1⟩ := C26_mode_layering mode props hm hp hM
  obtain ⟨r2, h2, -, m2⟩ := C26_object_layering mode object props hm ho u1 u2 u3
  obtain ⟨k3, h3, -, m3⟩ := C26_initial_layering settings props mode object hm ho s1 s2 s3 u1 u2 u3
  refine ⟨⟨r1, h1, by rw [m1, if_pos rfl]⟩, ⟨r2, h2, by rw [m2, if_pos rfl]⟩, ⟨.obj k3, h3, ?_⟩⟩
  rw [memberOf_obj, m3, if_neg (by decide), if_pos rfl]

/-- entries for other modes never take effect (1): whatever is written under `modes/<M'>`, M' ≠ M,
    getModeSpecificProps(M, ·) returns the same value -/
theorem C26_other_modes_inert_mode (mode m' : Bytes) (x : Json) (P : Obj) (j' : Json) (hP : Sorted P)
    (hm : PlainKey mode) (hne : m' ≠ mode) (hw : write [sModes, m'] x (.obj P) = .ok j')
    (hM : DictLike (readK [sModes, mode] (.obj P))) :
    modeSpecific mode j' = modeSpecific mode (.obj P) := by
  have hfr : readK [sModes, mode] j' = readK [sModes, mode] (.obj P) :=
    readK_touchWith_frame hw (by simp [hne]) (by simp [hne.symm])
  obtain ⟨c, -, rfl⟩ := touchWith_cons_ok hw
  obtain ⟨K, hK, hKs⟩ := dictLike_setLit sModes c (dictLike_obj hP)
  obtain ⟨r, hr, hdr, hor, hmr⟩ := modeSpecific_dict mode (.obj P) hm (dictLike_obj hP) hM
  obtain ⟨r', hr', hdr', hor', hmr'⟩ := modeSpecific_dict mode _ hm (hK ▸ dictLike_obj hKs) (hfr ▸ hM)
  rw [hr, hr', dict_ext hdr' hdr (by rw [hor, hor', hK]; rfl) fun k => ?_]
  rw [hmr, hmr', hfr]
  split
  · rfl
  · next hk => rw [memberOf_setLit, if_neg hk]

/-- (2): whatever is written under `modes/<M'>`, getObjectSpecificProps(M, obj, ·) and hence
    initialObjectProps return the same value -/
theorem C26_other_modes_inert_top (settings : Json) (mode m' object : Bytes) (x j j' : Json) (hm : PlainKey mode)
    (ho : PlainKey object) (hos : object ≠ sModes) (hne : m' ≠ mode) (hw : write [sModes, m'] x j = .ok j') :
    objectSpecific mode object j' = objectSpecific mode object j
      ∧ initialObject settings mode object j' = initialObject settings mode object j := by
  have f1 : layer1 object j' = layer1 object j := readK_touchWith_frame hw (by simp) (by simp [hos])
  have f2 : layer2 mode object j' = layer2 mode object j :=
    readK_touchWith_frame hw (by simp [hos.symm]) (by simp [hos])
  have f3 : layer3 mode object j' = layer3 mode object j :=
    readK_touchWith_frame hw (by simp [hne]) (by simp)
  have h : objectSpecific mode object j' = objectSpecific mode object j := by
    rw [objectSpecific_keys hm ho, objectSpecific_keys hm ho, f1, f2, f3]
  exact ⟨h, by unfold initialObject; rw [h]⟩

/-- the argument of (3) needs neither an object at the root nor its ordering: the write replaces the member `object`
    by itself with a new "modes" member, and no layer reads that member's `modes/<M'>` -/
theorem initialObject_inert_object (settings : Json) (mode m' object : Bytes) (x j j' : Json)
    (hm : PlainKey mode) (ho : PlainKey object) (hos : object ≠ sModes) (hne : m' ≠ mode)
    (hw : write [object, sModes, m'] x j = .ok j')
    (s1 : DictLike (layer1 object settings)) (s2 : DictLike (layer2 mode object settings))
    (s3 : DictLike (layer3 mode object settings))
    (u1 : DictLike (layer1 object j)) (u2 : DictLike (layer2 mode object j)) (u3 : DictLike (layer3 mode object j)) :
    initialObject settings mode object j' = initialObject settings mode object j := by
  have f2 : layer2 mode object j' = layer2 mode object j :=
    readK_touchWith_frame hw (by simp [hne]) (by simp [hne.symm])
  have f3 : layer3 mode object j' = layer3 mode object j :=
    readK_touchWith_frame hw (by simp [hos]) (by simp [hos.symm])
  obtain ⟨c, hc, hj'⟩ := touchWith_cons_ok hw
  obtain ⟨c2, -, hc2⟩ := touchWith_cons_ok hc
  have l1 : layer1 object j' = setLit sModes c2 (layer1 object j) := by
    rw [hj', hc2]
    exact read_setLit object _ _
  obtain ⟨K, hK, hKs⟩ := dictLike_setLit sModes c2 u1
  obtain ⟨kvs, hr, hs, hl⟩ := C26_initial_layering settings j mode object hm ho s1 s2 s3 u1 u2 u3
  obtain ⟨kvs', hr', hs', hl'⟩ := C26_initial_layering settings j' mode object hm ho s1 s2 s3
    (by rw [l1, hK]; exact dictLike_obj hKs) (f2 ▸ u2) (f3 ▸ u3)
  rw [hr, hr', sorted_ext hs' hs fun k => ?_]
  rw [hl, hl']
  refine congrArg (ite _ _) ?_
  split
  · rfl
  · next hk =>
    unfold objMember
    rw [f2, f3, l1, memberOf_setLit, if_neg hk]

/-- (3): whatever is written under `<obj>/modes/<M'>`, initialObjectProps returns the same value -/
theorem C26_other_modes_inert_object (settings : Json) (mode m' object : Bytes) (x : Json) (P : Obj) (j' : Json)
    (hP : Sorted P) (hPw : WFO P) (hm : PlainKey mode) (ho : PlainKey object) (hos : object ≠ sModes) (hne : m' ≠ mode)
    (hw : write [object, sModes, m'] x (.obj P) = .ok j')
    (s1 : DictLike (layer1 object settings)) (s2 : DictLike (layer2 mode object settings))
    (s3 : DictLike (layer3 mode object settings))
    (u1 : DictLike (layer1 object (.obj P))) (u2 : DictLike (layer2 mode object (.obj P)))
    (u3 : DictLike (layer3 mode object (.obj P))) :
    initialObject settings mode object j' = initialObject settings mode object (.obj P) :=
  initialObject_inert_object settings mode m' object x _ j' hm ho hos hne hw s1 s2 s3 u1 u2 u3

/-- (4): at the level of the device: whatever is written under `modes/<M'>` of the user properties,
    device::setup assembles the same `device.properties()` -/
theorem C26_other_modes_inert_device (settings : Json) (P : Obj) (mode m' : Bytes) (x j' : Json) (hP : Sorted P)
    (hm : PlainKey mode) (hne : m' ≠ mode) (hmode : lookup sMode P = some (.str mode))
    (L : DevLayers settings (.obj P) mode) (hw : write [sModes, m'] x (.obj P) = .ok j') :
    deviceProps settings j' = deviceProps settings (.obj P) := by
  -- device::setup reads the user properties only through these, none of which sees the write
  have e0 : readP sMode j' = readP sMode (.obj P) := by
    rw [readP, readP, splitPath1 sMode plain_sMode]
    exact readK_touchWith_frame hw (by simp) (by simp [show sMode ≠ sModes by decide])
  have e1 := C26_other_modes_inert_mode mode m' x P j' hP hm hne hw L.um
  have e2 : ∀ o, PlainKey o → o ≠ sModes →
      initialObject settings mode o j' = initialObject settings mode o (.obj P) :=
    fun o ho hos => (C26_other_modes_inert_top settings mode m' o x _ j' hm ho hos hne hw).2
  unfold deviceProps
  simp only [e0, mode_of_props hmode, e1, e2 sKernel plain_sKernel (by decide),
    e2 sMemory plain_sMemory (by decide), e2 sStream plain_sStream (by decide)]

example : initialObject (.obj [(sKernel, .obj [([120], .num ⟨.i32, 1, []⟩)])]) sSerial sKernel
      (.obj [(sKernel, .obj [(sModes, .obj [(sOpenMP, .obj [([120], .num ⟨.i32, 8, []⟩)]), (sSerial, .obj [([121], .num ⟨.i32, 7, []⟩)])])])])
    = .ok (.obj [(sMode, .str sSerial), ([120], .num ⟨.i32, 1, []⟩), ([121], .num ⟨.i32, 7, []⟩)]) := by rfl

end Occa.Json.C26
