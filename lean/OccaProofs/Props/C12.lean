/-
C12 — The tokenizer never crashes and re-reads its own token spellings.

Model: OccaModel/Lex.lean (the repaired tokenizer: fix F16, FL1..FL6) over the generated
OccaGen/Operators.lean (operator table of getOperators) and OccaGen/Charsets.lean (character sets,
encoding bits, source-shape flags).  Lemmas: OccaProofs/Lemmas/Lex*.lean.

Clauses of the property:
  (1) tokenizing any byte string terminates without crashing or reading out of bounds
        C12_total_no_trap, C12_getToken_consumes (progress = the termination argument),
        C12_skip_in_bounds, C12_getHeader_in_bounds
  (2) operators are split by longest match
        C12_operator_longest, C12_operator_exact, C12_operator_never_fails
  (3) printed tokens are read back as themselves
        C12_unescape_escape, C12_escape_scans (strings/chars, fix F16), C12_string_value_in_range,
        C12_char_value_in_range (the scanners' ranges),
        C12_reread_identifier, C12_reread_operator, C12_reread_number, C12_reread_string,
        C12_reread_rawstring, C12_reread_char, C12_reread_line_comment, C12_reread_block_comment,
        C12_roundtrip, C12_roundtrip_tokens
      The well-formedness predicates (what the property calls "C/OKL tokens") are IdentWF, OpWF, NumWF,
      StrWF, RawWF, ChrWF, LineCommentWF, BlockCommentWF, collected in TokWF; a separator (SepWF, ItemWF) begins
      with a character of charcodes::whitespace, a newline after a line comment, and goes on with such
      characters and line continuations.
  (T) the source still has the statement shapes the model was written after
        C12_source_shape
-/
import OccaProofs.Lemmas.LexRound

namespace Occa.Lex.C12
open Occa Occa.Gen Occa.Lex

/-- (T) every statement shape the model relies on (including the repairs F16, FL1..FL6) is present in the
    current source; the flags are recomputed from the C++ on every run. -/
theorem C12_source_shape : ∀ p ∈ sourceShape, p.2 = true := by decide

example : sourceShape.length = 19 := by decide

/-- (1) Tokenizing any byte string returns: no read or pointer step beyond the terminating NUL (`Trap.oob`)
    and no non-termination of the token loop (`Trap.fuel`). -/
theorem C12_total_no_trap (s : Str) : ∃ res, tokenizeBytes s = .ok res :=
  let ⟨_, _, h⟩ := lexes_total (cstr s) (cstr_noNul s)
  ⟨_, h _ (Nat.lt_succ_self _) 0 []⟩

example : tokenizeBytes [DQ, 'a', 'b', 'c'] = .ok ⟨[], 1⟩ := by decide +kernel
example : tokenizeBytes ['R', DQ, 'a'] = .ok ⟨[.str 1 [] []], 1⟩ := by decide +kernel

/-- (1) progress: on every position that is not the end of the source, `getToken` returns and has consumed
    at least one character — the measure that bounds the `isEmpty()` loop. -/
theorem C12_getToken_consumes (r : Str) (hn : NoNul r) (hr : r ≠ []) :
    ∃ t e r', getToken r = .ok (t, e, r') ∧ Suffix r' r ∧ r'.length < r.length :=
  let ⟨(t, e, r'), h, p⟩ := getToken_progress r hn hr
  ⟨t, e, r', h, p⟩

example : NoNul ['\'', 'a'] ∧ ['\'', 'a'] ≠ [] := by decide

/-- (1) the skip loops (`skipTo`, `skipFrom`, whitespace) stay inside the buffer for every stop test:
    the look-ahead `fp.start[1]` after a backslash and the step `+= 1 + (fp.start[1] != 0)` are in bounds. -/
theorem C12_skip_in_bounds (stop : Char → Bool) (r : Str) : ∃ r', skipUntil stop r = .ok r' ∧ Suffix r' r :=
  skipUntil_ok stop r

example : skipUntil (· == 'x') ['a', '\\'] = .ok [] := by decide +kernel

/-- (1) `getHeader` (the `#include` path of the same file, repaired together with FL1) stays inside the buffer -/
theorem C12_getHeader_in_bounds (r : Str) (hn : NoNul r) : ∃ v e r', getHeader r = .ok (v, e, r') ∧ Suffix r' r :=
  let ⟨(v, e, r'), h, s⟩ := getHeader_ok r hn
  ⟨v, e, r', h, s⟩

example : getHeader ['<', 'a', 'b'] = .ok ([], 1, []) := by decide +kernel

/-- (2) `getLongest`: the operator found is a registered spelling that is a prefix of the input and no
    registered spelling that is a prefix of the input is longer. -/
theorem C12_operator_longest {r : Str} {id len : Nat} (h : longestOp r = some (id, len)) :
    ∃ sp, registered[id]? = some sp ∧ sp.isPrefixOf r = true ∧ len = sp.length ∧ 0 < len ∧
      ∀ sp' ∈ registered, sp'.isPrefixOf r = true → sp'.length ≤ len :=
  longestOp_some h

example : longestOp ['<', '<', '=', '='] = some (31, 3) := by decide +kernel
example : longestOp ['+', '+', '+'] = some (2, 2) := by decide +kernel

/-- (2) an operator spelling followed by a character with which no registered spelling continues is
    recognised as exactly that operator (ids are unique: the spellings are pairwise distinct). -/
theorem C12_operator_exact {id : Nat} {sp : Str} (hid : registered[id]? = some sp) (c : Char) (r : Str)
    (hext : ∀ sp' ∈ registered, (sp ++ [c]).isPrefixOf sp' = false) :
    longestOp (sp ++ c :: r) = some (id, sp.length) :=
  longestOp_exact hid c r hext

example : registered[20]? = some ['<', '<'] ∧ ∀ sp' ∈ registered, (['<', '<'] ++ ['>']).isPrefixOf sp' = false := by
  decide +kernel

/-- (2) `peekForOperator` cannot fail: a character that starts a registered operator is an operator itself -/
theorem C12_operator_never_fails (r : Str) (h : operatorCharcodes.contains (hd r) = true) : longestOp r ≠ none := by
  have hc : hd r ∈ operatorCharcodes := by simpa using h
  cases r with
  | nil => exact absurd hc (not_operatorCharcodes (Or.inr (Or.inl rfl)))
  | cons c t => exact longestOp_ne_none (single_registered hc) (by simp)

example : operatorCharcodes.contains (hd ['.', 'x']) = true := by
  simpa using mem_operatorCharcodes.mpr ⟨⟨['.'], by decide, rfl⟩, by decide⟩

/-- (3) strings and chars: `unescape` undoes `escape` on every value the scanners can produce
    (`ValUnits q`: plain characters — the delimiter included — and pairs `\x`, `x ≠ q`); holds at index 0
    because of fix F16. -/
theorem C12_unescape_escape {q : Char} (hq : q ≠ '\\') (hn : q ≠ NUL) {v : Str} (h : ValUnits q v) :
    unescape q (escape q v) = v :=
  have _ := h   -- not needed: the equation holds for every value; `ValUnits` is what the scan needs (C12_escape_scans)
  unescape_escape hq hn v

example : ValUnits DQ [DQ, 'a', '\\', '\\', DQ] :=
  Units.plain (by decide) (by decide) (Units.plain (by decide) (by decide)
    (Units.pair (by decide) (Units.plain (by decide) (by decide) Units.nil)))

/-- (3) the printed body of a string or char literal is crossed completely by the scanner's `skipTo`, which
    stops exactly at the closing delimiter -/
theorem C12_escape_scans {q : Char} (hq : q ≠ '\\') (hn : q ≠ NUL) {v : Str} (h : ValUnits q v) (r : Str) :
    skipTo [q, '\n'] (escape q v ++ q :: r) = .ok (q :: r) :=
  skipTo_escape hq hn h r

/-- (3) the well-formedness predicate of string values is exactly the scanner's range: every value that
    `getString` produces from NUL-free text lies in `ValUnits` (and therefore, by C12_reread_string,
    survives printing and re-reading) -/
theorem C12_string_value_in_range {r : Str} (hn : NoNul r) {v : Str} {e : Nat} {r' : Str}
    (h : getString 0 (DQ :: r) = .ok (v, true, e, r')) : ValUnits DQ v :=
  (((getString_ok 0 _ (noNul_cons (by decide) hn)).elim h).2 encR_zero).2 rfl

example : getString 0 [DQ, 'a', '\\', DQ, DQ, 'x'] = .ok (['a', DQ], true, 0, ['x']) := by decide +kernel

/-- (3) the same for character literals -/
theorem C12_char_value_in_range {r : Str} (hn : NoNul r) {v udf : Str} {e : Nat} {r' : Str}
    (h : getCharToken 0 ('\'' :: r) = .ok (some (.chr 0 v udf), e, r')) : ValUnits '\'' v :=
  ((getCharToken_ok 0 _ (noNul_cons (by decide) hn)).elim h).2.2 _ _ _ rfl

example : getCharToken 0 ['\'', '\\', '\'', '\'', '_', 'x'] = .ok (some (.chr 0 ['\''] ['_', 'x']), 0, []) := by decide +kernel

/-! ### per-kind re-read theorems: a printed token followed by a separator character `c` (any of
    `charcodes::whitespace`) is read back by `getToken` as exactly that token, with no error, leaving the
    position on `c` -/

/-- (3) identifiers (not operator words, not `true`/`false`; `true1`, `L`, `u8` are fine: FL2, FL3) -/
theorem C12_reread_identifier {w : Str} (hw : IdentWF w) {c : Char} (hc : IsWs c) (r : Str) :
    getToken (w ++ c :: r) = .ok (some (.ident w), 0, c :: r) :=
  getToken_ident hw hc r

example : IdentWF ['t', 'r', 'u', 'e', '1'] :=
  ⟨by decide +kernel, by decide +kernel, by decide +kernel, by decide, by decide⟩
example : IdentWF ['L'] := ⟨by decide +kernel, by decide +kernel, by decide +kernel, by decide, by decide⟩

/-- (3) every registered operator other than the two comment openers, including the word operators
    (`sizeof`, `sizeof...`, `new`, …) -/
theorem C12_reread_operator {id : Nat} {sp : Str} (h : OpWF id sp) {c : Char} (hc : IsWs c) (r : Str) :
    getToken (sp ++ c :: r) = .ok (some (.op id), 0, c :: r) :=
  getToken_op h hc r

example : OpWF 55 ['s', 'i', 'z', 'e', 'o', 'f', '.', '.', '.'] := ⟨by decide, by decide, by decide⟩
example : ∀ id, id < registered.length → id ≠ lineCommentId → id ≠ blockCommentId → ∃ sp, OpWF id sp :=
  fun id h h1 h2 => ⟨registered[id], ⟨by simp [h], h1, h2⟩⟩

/-- (3) numeric literals: `true`/`false`, binary, hexadecimal, decimal/octal/floating with exponents and
    any run of u/l/f suffix letters (a superset of the C grammar's suffixes) -/
theorem C12_reread_number {w : Str} (h : NumWF w) {c : Char} (hc : IsWs c) (r : Str) :
    getToken (w ++ c :: r) = .ok (some (.prim w), 0, c :: r) :=
  getToken_prim h hc r

example : NumWF ['1', '.', '5', 'e', '-', '3', 'f'] :=
  NumWF.dec (m := ['1', '.', '5']) (by decide) ⟨'1', by decide, by decide⟩
    (DecTail.exp (s1 := []) (e := 'e') (sg := ['-']) (ds := ['3']) (s2 := ['f'])
      (by decide) (by decide) (by decide) (by decide) (by decide) (by decide))
example : NumWF ['0', 'x', '1', 'F', 'u', 'L'] :=
  NumWF.hex (ds := ['1', 'F']) (suf := ['u', 'L']) (Or.inl rfl) (by decide) (by decide) (by decide)

/-- (3) string literals with prefix none/u8/u/U/L, escapes and udf -/
theorem C12_reread_string {enc : Nat} {v udf : Str} (h : StrWF enc v udf) {c : Char} (hc : IsWs c) (r : Str) :
    getToken (printTok (.str enc v udf) ++ c :: r) = .ok (some (.str enc v udf), 0, c :: r) :=
  getToken_str h hc r

example : StrWF encu8 [DQ, 'a'] ['_', 'k', 'm'] :=
  ⟨Or.inr (by decide), Units.plain (by decide) (by decide) (Units.plain (by decide) (by decide) Units.nil),
   Or.inr ⟨['k', 'm'], rfl, by decide⟩⟩

/-- (3) raw string literals R / u8R / uR / UR / LR with any NUL-free value (printed with a delimiter, FL6) -/
theorem C12_reread_rawstring {enc : Nat} {v udf : Str} (h : RawWF enc v udf) {c : Char} (hc : IsWs c) (r : Str) :
    getToken (printTok (.str enc v udf) ++ c :: r) = .ok (some (.str enc v udf), 0, c :: r) :=
  getToken_rawstr h hc r

example : RawWF encR ['a', ')', DQ, 'b'] [] := ⟨by decide, by decide, Or.inl rfl⟩
example : printTok (.str encR ['a', ')', '"', 'b'] []) = ['R', '"', '_', '(', 'a', ')', '"', 'b', ')', '_', '"'] := by
  decide +kernel

/-- (3) character literals with prefix none/u/U/L, escapes and udf -/
theorem C12_reread_char {enc : Nat} {v udf : Str} (h : ChrWF enc v udf) {c : Char} (hc : IsWs c) (r : Str) :
    getToken (printTok (.chr enc v udf) ++ c :: r) = .ok (some (.chr enc v udf), 0, c :: r) :=
  getToken_chr h hc r

example : ChrWF 0 ['\''] [] := ⟨Or.inl rfl, Units.plain (by decide) (by decide) Units.nil, Or.inl rfl⟩

/-- (3) line comments, followed by the newline that ends them -/
theorem C12_reread_line_comment {w : Str} (h : LineCommentWF w) (r : Str) :
    getToken (w ++ '\n' :: r) = .ok (some (.comment w), 0, '\n' :: r) :=
  getToken_lineComment h r

example : LineCommentWF ['/', '/', ' ', 'a', '\\', '\n', 'b'] :=
  ⟨⟨[' ', 'a', '\\', '\n', 'b'], rfl, Units.plain (by decide) (by decide) (Units.plain (by decide) (by decide)
    (Units.pair (by decide) (Units.plain (by decide) (by decide) Units.nil)))⟩⟩

/-- (3) block comments (`/*/ … */` and `/* \*/` included: FL4, FL5), followed by anything -/
theorem C12_reread_block_comment {w : Str} (h : BlockCommentWF w) (r : Str) :
    getToken (w ++ r) = .ok (some (.comment w), 0, r) :=
  getToken_blockComment h r

example : BlockCommentWF ['/', '*', '/', ' ', '\\', '*', '/'] := ⟨⟨['/', ' ', '\\'], rfl, by decide, by decide⟩⟩

/-- (3) The round trip: a list of well-formed tokens, each followed by a separator — a character of
    `charcodes::whitespace` (a newline after a line comment), then any whitespace characters and line
    continuations (backslash newline) — printed by the token printers and tokenized, gives back exactly those
    tokens, no errors, plus one newline token per newline of the separators that is not part of a continuation
    (and the end-of-source newline when the text ends in blanks). -/
theorem C12_roundtrip {l : List (Tok × Str)} (h : ∀ p ∈ l, ItemWF p) :
    tokenizeBytes (printSeq l) = .ok ⟨expectSeq l, 0⟩ :=
  roundtrip_tokenize h

/-- (3) … in particular the tokens other than newlines are the originals, in order -/
theorem C12_roundtrip_tokens {l : List (Tok × Str)} (h : ∀ p ∈ l, ItemWF p) :
    ∃ res, tokenizeBytes (printSeq l) = .ok res ∧ res.errors = 0 ∧
      res.toks.filter (· != .newline) = l.map (·.1) := by
  exact ⟨_, roundtrip_tokenize h, rfl, expectSeq_filter h⟩

example : ItemWF (.comment ['/', '/', 'x'], ['\n', '\\', '\n', ' ']) :=
  ⟨TokWF.lineComment ⟨⟨['x'], rfl, Units.plain (by decide) (by decide) Units.nil⟩⟩,
   SepWF.ws (by decide) (SepWF.cont (SepWF.ws (by decide) SepWF.nil)), by decide, fun _ => rfl⟩
example : tokenizeBytes (printSeq [(.ident ['a'], [' ']), (.op 2, ['\n', '\t'])]) =
    .ok ⟨[.ident ['a'], .op 2, .newline, .newline], 0⟩ := by decide +kernel

end Occa.Lex.C12
