/-
C22 — Every backend enforces the same OKL rules.

Model: lean/OccaModel/Okl.lean (`rulesOk`, written after okl::kernelIsValid and
oklForStatement, statement by statement).  Here: the property's rule list written declaratively
(`RulesSpec`), the proof that the procedure accepts exactly the kernels the rule list describes,
and the code-structure facts (re-extracted from the sources by translate/gen_okl.py on every run)
that make this one verdict the verdict of all seven translators.
-/
import OccaProofs.Lemmas.OklRules
import OccaGen.OklFacts

namespace Occa.Okl.C22

/-- The OKL rules, declaratively.
  * the kernel returns `void`;
  * there is an @outer and an @inner loop, every @outer/@inner loop has a valid header, and below
    every outer-most loop all chains of nested @outer/@inner loops are `oc` @outer loops followed
    by `ic` @inner loops with the same `1 ≤ oc, ic ≤ 3` (this is: @inner inside @outer, no @outer
    inside @inner, every @outer has an @inner below it, matching nesting across branches);
  * @shared/@exclusive are declared inside an @outer loop and outside every @inner loop, @shared
    variables are arrays with compile-time sizes, @shared/@exclusive variables are only used
    inside @inner loops;
  * the statement that captures a `break`/`continue` is not an @outer/@inner loop. -/
def RulesSpec (k : Kernel) : Prop :=
  k.retVoid = true ∧
  LoopsSpec (forest k.body) ∧
  (∀ x ∈ occs [] k.body, DeclOk x) ∧
  (∀ x ∈ occs [] k.body, BreakOk x)

/-- C22, main clause: the validation procedure of okl.cpp accepts a kernel if and only if the
    kernel follows the rule list — both directions, for every kernel. -/
theorem C22_rules_iff_spec (k : Kernel) : rulesOk k = true ↔ RulesSpec k :=
  (rulesOk_iff k).trans (and_congr_right' (and_congr (loopsOk_iff _)
    (and_congr (declsOk_iff k.body []) (breaksOk_iff k.body []))))

example : ∃ k : Kernel, RulesSpec k :=
  ⟨⟨true, .node ⟨.okl true false ⟨.ok, .const 0, .ok, some .lt, .unknown, .ok, some .inc, .none, false⟩ false, []⟩
      (.node ⟨.okl false true ⟨.ok, .const 0, .ok, some .lt, .const 8, .ok, some .inc, .none, false⟩ false, []⟩
        (.node ⟨.expr false false, []⟩ .nil .nil) .nil) .nil⟩,
   (C22_rules_iff_spec _).1 (by decide)⟩

/-- C22, "is rejected with an error" is an error and never a crash of the translator: the
    validation never traps (with the repair of F60; before it a constant zero step did). -/
theorem C22_never_traps (k : Kernel) : rulesRes k ≠ .trap :=
  Res.and_ne_trap (Res.ofBool_ne_trap _) (Res.and_ne_trap (loopsOk_ne_trap _)
    (Res.and_ne_trap (Res.ofBool_ne_trap _) (Res.ofBool_ne_trap _)))

example : ∃ h : Hdr, h.formsOk = true ∧ h.verdictUnrepaired = .trap ∧ h.verdict = .bad :=
  ⟨⟨.ok, .const 0, .ok, some .lt, .const 8, .ok, some .add, .const 0, false⟩, by decide⟩

/-! ### one direction per rule, in the words of the property -/

theorem rejected {k : Kernel} (h : ¬ RulesSpec k) : rulesOk k = false := by
  rwa [← Bool.not_eq_true, C22_rules_iff_spec]

/-- "a non-void return type" -/
theorem C22_rejects_nonvoid (k : Kernel) (h : k.retVoid = false) : rulesOk k = false :=
  rejected fun hs => Bool.false_ne_true (h ▸ hs.1)

/-- "no @outer or no @inner loop" -/
theorem C22_rejects_missing_loops (k : Kernel)
    (h : (∀ x ∈ loopHdrs (forest k.body), x.1 = false) ∨ (∀ x ∈ loopHdrs (forest k.body), x.1 = true)) :
    rulesOk k = false :=
  rejected fun ⟨_, ⟨⟨x, hx, hx1⟩, ⟨y, hy, hy1⟩, _⟩, _⟩ =>
    h.elim (fun h => Bool.false_ne_true ((h x hx).symm.trans hx1))
      (fun h => Bool.false_ne_true (hy1.symm.trans (h y hy)))

/-- "an invalid loop header" -/
theorem C22_rejects_invalid_header (k : Kernel) (h : ∃ x ∈ loopHdrs (forest k.body), x.2 ≠ .ok) :
    rulesOk k = false :=
  rejected fun ⟨_, ⟨_, _, hh, _⟩, _⟩ => let ⟨x, hx, hne⟩ := h; hne (hh x hx)

/-- "@inner outside @outer": some chain of loops starts with an @inner loop -/
theorem C22_rejects_inner_outside_outer (k : Kernel)
    (h : ∃ g ∈ chains (forest k.body), ∃ l ∈ g, l.head? = some false) : rulesOk k = false := by
  refine rejected fun ⟨_, ⟨_, _, _, hn⟩, _⟩ => ?_
  obtain ⟨g, hg, l, hl, hh⟩ := h
  obtain ⟨ic, oc, hw⟩ := hn g hg
  cases (hw l hl).head?.symm.trans hh

/-- "@outer inside @inner": some chain has an @outer loop directly below an @inner loop -/
theorem C22_rejects_outer_inside_inner (k : Kernel)
    (h : ∃ g ∈ chains (forest k.body), ∃ l ∈ g, ∃ a b, l = a ++ false :: true :: b) : rulesOk k = false := by
  refine rejected fun ⟨_, ⟨_, _, _, hn⟩, _⟩ => ?_
  obtain ⟨g, hg, l, hl, a, b, rfl⟩ := h
  obtain ⟨ic, oc, hw⟩ := hn g hg
  exact nest_no_outer_after_inner ((List.append_assoc a [false] _).trans (hw _ hl).1) (by simp) List.mem_cons_self

/-- "mismatched loop nesting across branches": two chains below the same outer-most loop differ -/
theorem C22_rejects_mismatched_nesting (k : Kernel)
    (h : ∃ g ∈ chains (forest k.body), ∃ l1 ∈ g, ∃ l2 ∈ g, l1 ≠ l2) : rulesOk k = false := by
  refine rejected fun ⟨_, ⟨_, _, _, hn⟩, _⟩ => ?_
  obtain ⟨g, hg, l1, h1, l2, h2, hne⟩ := h
  obtain ⟨ic, oc, hw⟩ := hn g hg
  exact hne ((hw l1 h1).1.trans (hw l2 h2).1.symm)

/-- "@shared or @exclusive declared in the wrong place", "a non-array or non-constant-size @shared" -/
theorem C22_rejects_bad_declaration (k : Kernel) (h : ∃ x ∈ occs [] k.body, ¬ DeclOk x) : rulesOk k = false :=
  rejected fun hs => let ⟨x, hx, hn⟩ := h; hn (hs.2.2.1 x hx)

/-- "break or continue directly in an OKL loop" -/
theorem C22_rejects_break_in_okl_loop (k : Kernel) (h : ∃ x ∈ occs [] k.body, ¬ BreakOk x) : rulesOk k = false :=
  rejected fun hs => let ⟨x, hx, hn⟩ := h; hn (hs.2.2.2 x hx)

/-- C22, "every backend": in the model of the seven translators a rule-breaking kernel is rejected
    by all of them, a rule-conforming one is accepted by all that support its attributes
    (CUDA and HIP have no translation for general @atomic regions). -/
theorem C22_backend_independent (k : Kernel) :
    (rulesOk k = false → (accepts k).2 = List.replicate 7 false) ∧
    (rulesOk k = true → (accepts k).2 =
      [true, true, !hasGeneralAtomic k.body, !hasGeneralAtomic k.body, true, true, true]) := by
  unfold rulesOk accepts
  cases h : rulesRes k <;> simp

open Occa.Gen.Okl in
/-- how a translator's `afterParsing` reaches `okl::kernelsAreValid(root)`, following the
    delegation / inheritance chain extracted from the sources -/
def reachesValidation : Nat → String → Bool
  | 0, _ => false
  | f + 1, t =>
    match validation.find? (fun x => x.1 == t) with
    | some (_, "direct", _) => true
    | some (_, _, via) => reachesValidation f via
    | none => false

/-- C22, "the same rules": the validation call is the same function in all seven translators
    (a code-structure fact, re-extracted from serial.cpp, openmp.cpp, withLauncher.cpp and the five
    launcher-based translators on every run), and it conjoins the four rule checks the model follows. -/
theorem C22_same_validator :
    (∀ t ∈ ["serial", "openmp", "cuda", "hip", "opencl", "metal", "dpcpp"], reachesValidation 4 t = true) ∧
    Occa.Gen.Okl.ruleFunctions = ["kernelHasValidReturnType", "kernelHasValidOklLoops",
      "kernelHasValidSharedAndExclusiveDeclarations", "kernelHasValidLoopBreakAndContinue"] :=
  ⟨by decide, rfl⟩

/-- the sources contain the repairs the model follows (F60 zero step, F61 continue in switch,
    F62 at most three nested loops, F63 @outer and @inner on one loop, F70 update direction) -/
theorem C22_source_has_repairs :
    Occa.Gen.Okl.zeroStepGuard = true ∧ Occa.Gen.Okl.continueSkipsSwitch = true ∧
    Occa.Gen.Okl.maxNestChecked = true ∧ Occa.Gen.Okl.bothAttrsInvalid = true ∧
    Occa.Gen.Okl.directionChecked = true := by
  decide

end Occa.Okl.C22
