/-
C14 — Constant folding computes what C++ computes.

  implementation model   OccaModel/Prim.lean   (primitive::load, the operator functions and
                         exprNode::evaluate, over the tables GENERATED from primitive.cpp / .hpp,
                         operator.cpp, binaryOpNode.cpp by translate/gen_prim.py)
  specification          OccaModel/CxxSem.lean (C++17 on LP64, written from the standard; validated
                         against g++/clang constant evaluation on every run of tools/checks/C14.py)

Clauses of the property and where they are proved:
  (a) value, signedness and width equal the C++ result whenever that is defined
                                   C14_agrees_partial  (full statement: C14_agrees_full, refuted by
                                   C14_agrees_full_fails for the three deviations kept as known findings
                                   F36 `~bool`, F37 `bool & bool`, F38 `c ? int : unsigned`)
  (b) literal text gets the C++ type            C14_literal_type, C14_literal_in_context   (no guard)
  (c) operands C++ does not evaluate are not evaluated
                                   C14_lazy_and, C14_lazy_or, C14_lazy_cond   (no guard, any operand)
  corollary: no trap / exception / host UB on a defined expression     C14_defined_no_trap
  (a'), (b') the same for expressions with floating literals   C14_agrees_float_partial, C14_float_literal_type
All theorems are about ALL expression trees (induction on the tree, no depth bound).
Floating point (DESIGN.md section 3): the IEEE operations themselves are never reasoned about — they
are Lean's runtime `Float`/`Float32` in both the specification and the model.  (a') and (b') show that
occa applies THE SAME operations to THE SAME operands in the same types as C++ prescribes (so the
results are equal whatever the operations compute); that Lean's `Float` operations are what the host's
IEEE hardware and g++'s constant folder compute is covered by the correspondence run only.
-/
import OccaProofs.Lemmas.PrimEval

namespace Occa.Prim.C14
open Occa Occa.CExpr Occa.CxxSem Occa.Gen Occa.Prim Occa.Prim.Lemmas

/-- (a), full strength: for every integer/boolean expression whose C++ result is defined, occa's
    evaluator returns exactly that value with exactly that type. -/
def C14_agrees_full : Prop :=
  ∀ (e : Expr) (v : Val), integral e = true → evalTop e = .val v → Prim.eval e = .ok (Prim.ofVal v)

/-- `~true`: C++ promotes to int and gives -2; primitive::tilde has `case bool_: return !p.value.bool_` -/
def witnessTildeBool : Expr := .un .bnot (.lit (.bool true))
/-- `true & false`: C++ gives int 0; primitive::bitAnd raises for retType bool_ -/
def witnessBoolBitAnd : Expr := .bin .band (.lit (.bool true)) (.lit (.bool false))
/-- `true ? 1 : 2u`: C++ gives unsigned 1; ternaryOpNode::evaluate returns the int operand unconverted -/
def witnessMixedCond : Expr :=
  .tern (.lit (.bool true)) (.lit (.int ⟨[], ['1'], []⟩)) (.lit (.int ⟨[], ['2'], ['u']⟩))

/-- (a) is false of the current code: three concrete witnesses (known findings F36, F37, F38). -/
theorem C14_agrees_full_fails : ¬ C14_agrees_full := by
  intro h
  have := h witnessTildeBool ⟨.int, -2⟩ (by decide) (by decide)
  revert this
  decide

example : evalTop witnessBoolBitAnd = .val ⟨.int, 0⟩ ∧ Prim.eval witnessBoolBitAnd = .err := by decide
example : evalTop witnessMixedCond = .val ⟨.uint, 1⟩ ∧ Prim.eval witnessMixedCond = .ok ⟨some .int, 1⟩ := by decide

/-- (a), the strongest true restriction: outside the three deviations (`clean`, a decidable syntactic
    guard over the C++ static types) occa's result is the C++ result — value, signedness and width —
    for every integer/boolean expression tree whose C++ result is defined. -/
theorem C14_agrees_partial (e : Expr) (v : Val) (hi : integral e = true) (hc : clean e = true)
    (h : evalTop e = .val v) : Prim.eval e = .ok (Prim.ofVal v) :=
  evalTop_agree (cleanF_of_integral e hi hc) h

/-- hypotheses of `C14_agrees_partial` are satisfiable by a non-trivial tree:
    `(0 && 1 / 0) + (-1 >> 1u) * 0xFFFFFFFF` -/
example :
    let e : Expr := .bin .add
      (.paren (.bin .land (.lit (.int ⟨['0'], [], []⟩)) (.bin .div (.lit (.int ⟨[], ['1'], []⟩)) (.lit (.int ⟨['0'], [], []⟩)))))
      (.bin .mul (.paren (.bin .shr (.un .neg (.lit (.int ⟨[], ['1'], []⟩))) (.lit (.int ⟨[], ['1'], ['u']⟩))))
        (.lit (.int ⟨['0', 'x'], "FFFFFFFF".toList, []⟩)))
    integral e = true ∧ clean e = true ∧ evalTop e = .val ⟨.uint, 1⟩ ∧ Prim.eval e = .ok ⟨some .uint, 1⟩ := by
  decide

/-- (b) Literal text gets the type C++ gives it: for every well-formed integer literal (any base,
    any of the 23 suffix spellings, any digits) and for `true` / `false`, primitive::load returns the
    type and value of [lex.icon] Table 7. -/
theorem C14_literal_type (l : Lit) (v : Val) (hl : integral (.lit l) = true) (h : litVal l = .val v) :
    loadTok l.text = Prim.ofVal v :=
  (lit_agree hl h).1

/-- (b) in context: the tokenizer hands primitive::load a pointer into the source text, not an isolated
    token.  Whatever follows the literal (`rest`: nothing, a blank, a closing parenthesis or an
    operator character — `Term`), load returns the C++ type and value and stops exactly at the end of
    the literal. -/
theorem C14_literal_in_context (l : Lit) (v : Val) (hl : integral (.lit l) = true) (h : litVal l = .val v)
    (rest : List Char) (hr : Term rest) (fuel : Nat) :
    load (fuel + 1) (l.text ++ rest) true = (Prim.ofVal v, rest) :=
  (lit_load hl h rest hr fuel).1

example : Term " + 1".toList := Or.inr ⟨' ', "+ 1".toList, rfl, by decide⟩
example : litVal (.int ⟨[], "2147483648".toList, []⟩) = .val ⟨.long, 2147483648⟩ := by decide
example : litVal (.int ⟨['0', 'x'], "FFFFFFFF".toList, []⟩) = .val ⟨.uint, 4294967295⟩ := by decide

/-- (a') The agreement extended to expressions with floating literals (decimal floating literals of the
    exactly converted subset, `f` suffix or not, mixed freely with integer and boolean operands):
    type and value of occa's result are the C++ result — as the same term over the IEEE operations.
    Guard `cleanF` = `clean` plus: `&&` / `||` with a floating operand need both operands of one type
    (occa tests the operands against zero after converting them to the larger type; that widening keeps
    "non-zero" is an IEEE fact nothing here assumes). -/
theorem C14_agrees_float_partial (e : Expr) (v : Val) (hc : cleanF e = true) (h : evalTop e = .val v) :
    Prim.eval e = .ok (Prim.ofVal v) :=
  evalTop_agree hc h

/-- the guard is satisfiable with floats: `(1 + 1.5f) * 2 < 0.5` (its *value* cannot be shown by kernel
    evaluation — IEEE operations are opaque to the kernel — the driver evaluates it: `f32`/`bool`) -/
example :
    cleanF (.bin .lt (.bin .mul (.paren (.bin .add (.lit (.int ⟨[], ['1'], []⟩)) (.lit (.float ⟨['1'], true, ['5'], none, ['f']⟩))))
        (.lit (.int ⟨[], ['2'], []⟩))) (.lit (.float ⟨['0'], true, ['5'], none, []⟩))) = true := by
  decide

/-- (b') Floating literal text gets the C++ type: `double`, or `float` with an f/F suffix — also behind
    an exponent (`1e5f`: primitive::load finds the suffix through its recursive call on the exponent). -/
theorem C14_float_literal_type (l : FloatLit) (v : Val) (h : floatLitVal l = .val v) :
    loadTok l.text = Prim.ofVal v ∧ (v.ty = .float ∨ v.ty = .double) :=
  floatlit_agree l v h

/-- (c) `&&`: when the left operand is false the right operand is not evaluated — the result does not
    depend on it at all, whatever it is (an expression that traps, raises, or is ill-formed). -/
theorem C14_lazy_and (l r : Expr) (p : Prim) (hl : Prim.eval l = .ok p) (hf : toBool p = .ok false) :
    Prim.eval (.bin .land l r) = .ok (Prim.ofVal (ofBool false)) :=
  eval_logic_model (Or.inl rfl) hl hf

/-- (c) `||`: when the left operand is true the right operand is not evaluated. -/
theorem C14_lazy_or (l r : Expr) (p : Prim) (hl : Prim.eval l = .ok p) (ht : toBool p = .ok true) :
    Prim.eval (.bin .lor l r) = .ok (Prim.ofVal (ofBool true)) :=
  eval_logic_model (Or.inr rfl) hl ht

/-- (c) `?:`: only the selected operand is evaluated. -/
theorem C14_lazy_cond (c t f : Expr) (p : Prim) (b : Bool) (hc : Prim.eval c = .ok p) (hb : toBool p = .ok b) :
    Prim.eval (.tern c t f) = if b then Prim.eval t else Prim.eval f :=
  eval_tern_model hc hb

/-- the guarded division of the property statement: `0 && 1 / 0` is false, `1 / 0` alone traps or raises -/
example :
    Prim.eval (.bin .land (.lit (.int ⟨['0'], [], []⟩)) (.bin .div (.lit (.int ⟨[], ['1'], []⟩)) (.lit (.int ⟨['0'], [], []⟩))))
      = .ok ⟨some .bool, 0⟩ := by decide

/-- Corollary of (a): on a defined expression the evaluator neither traps (SIGFPE), nor raises, nor
    executes undefined behaviour of its own. -/
theorem C14_defined_no_trap (e : Expr) (v : Val) (hi : integral e = true) (hc : clean e = true)
    (h : evalTop e = .val v) : Prim.eval e ≠ .trap ∧ Prim.eval e ≠ .err ∧ Prim.eval e ≠ .ub := by
  rw [C14_agrees_partial e v hi hc h]
  exact ⟨by simp, by simp, by simp⟩

end Occa.Prim.C14
