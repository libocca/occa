/-
C30 — With sharable devices, concurrent handle use is race-free.

Model: OccaModel/GcConc.lean (micro-steps of the reference protocol, arbitrary schedules, any
number of threads); lock scopes: OccaGen/LockRegions.lean (regenerated from the C++).

  C30_full_iff                 EVERY schedule of EVERY set of thread programs is safe (no double free, no use after
                               free, no lost reference, no leak) exactly when addRef is locked and the needsFree()
                               check + delete are in the critical section of the unlink; the three theorems
                               about `C30_full` are instances
  C30_locked_safe              … so when link, unlink+check+delete and the counter update are each one critical
                               section (`FullyLocked`)
  C30_counter_exact            … and then the byte counter at quiescence is exactly the sum of all updates
  C30_unlocked_check_races     if the check is outside that critical section, two threads dropping the last two
                               handles both see an empty ring and both delete (the generated table of the current
                               tree: unlink locked, check outside; an unlocked unlink races just the same)
  C30_nonatomic_counter_loses  if the counter update is a plain read-modify-write some schedule miscounts
  C30_unlocked_addRef_loses    if addRef is not locked some schedule loses a reference
The theorems are conditional on the lock configuration, so they keep checking whatever the table
says; the check (tools/checks/C30.py) reads the regenerated table to know which side applies.
What the model cannot exhibit: data races on plain fields as such, the C++ memory model, the
real mutex, races outside the reference protocol (kernel cache map, settings) — TSan only.
-/
import OccaModel.GcConc

namespace Occa.GcConc.C30

theorem inv_safe (s : State) (h : Inv s) : Safe s := by
  refine ⟨fun hd => ?_, fun hu => Bool.false_ne_true (h.no_uaf.symm.trans hu), fun ⟨x, hp, hn⟩ => hn (h.ptr_ring x hp),
    fun ⟨ha, hu, hr⟩ => h.no_leak hu ha hr⟩
  unfold DoubleFree at hd
  cases ha : s.alive
  · have := h.dead_once ha
    omega
  · have := h.alive_zero ha
    omega

theorem inv_init (hs : List Nat) (hne : hs ≠ []) : Inv (init hs) := by
  refine ⟨?_, ?_, ?_, ?_, ?_, ?_⟩ <;> simp [init, hne]

private theorem mem_addTo (r : List Nat) (h x : Nat) : x ∈ addTo r h ↔ x ∈ r ∨ x = h := by
  unfold addTo
  split <;> simp_all

private theorem addTo_ne_nil (r : List Nat) (h : Nat) : addTo r h ≠ [] :=
  List.ne_nil_of_mem ((mem_addTo r h h).2 (.inr rfl))

private theorem touch_of_ptr {s : State} (hi : Inv s) {h : Nat} (hp : s.ptr h = true) :
    s.alive = true ∧ touch s = s := by
  have hal := hi.ring_alive (List.ne_nil_of_mem (hi.ptr_ring h hp))
  exact ⟨hal, by simp [touch, hal]⟩

theorem inv_link (s : State) (h src : Nat) (hi : Inv s) : Inv (exec s (.link h src)) := by
  simp only [exec]
  split
  · obtain ⟨hal, ht⟩ := touch_of_ptr hi ‹_›
    simp only [ht]
    refine ⟨fun x hx => (mem_addTo _ _ _).2 ?_, fun _ => hal, hi.dead_once, hi.alive_zero, hi.no_uaf,
      fun _ _ => addTo_ne_nil _ _⟩
    by_cases hxh : x = h
    · exact .inr hxh
    · exact .inl (hi.ptr_ring x (by simpa [setPtr, hxh] using hx))
  · exact hi

theorem inv_release (s : State) (h : Nat) (hi : Inv s) : Inv (exec s (.release h)) := by
  simp only [exec]
  split
  · obtain ⟨hal, ht⟩ := touch_of_ptr hi ‹_›
    simp only [ht]
    have hptr : ∀ x, setPtr s.ptr h false x = true → x ∈ s.ring.erase h := by
      intro x hx
      simp only [setPtr] at hx
      split at hx
      · cases hx
      · exact (List.mem_erase_of_ne ‹_›).2 (hi.ptr_ring x hx)
    unfold destroyIfNeeded
    split
    · -- the last reference: the object is destroyed, once
      rename_i hc
      simp only [Bool.and_eq_true, List.isEmpty_iff] at hc
      exact ⟨hptr, fun hne => absurd hc.2 hne, fun _ => congrArg (· + 1) (hi.alive_zero hal), nofun, hi.no_uaf, nofun⟩
    · rename_i hc
      exact ⟨hptr, fun _ => hal, hi.dead_once, hi.alive_zero, hi.no_uaf,
        fun hu _ he => hc (Bool.and_eq_true_iff.2 ⟨hu, List.isEmpty_iff.2 he⟩)⟩
  · exact hi

/-- the micro-steps that keep `Inv`: the two atomic ring steps, and every counter step, of which `Inv` says nothing -/
def keepsInv : Micro → Bool
  | .link _ _ | .release _ | .ctrAdd _ | .ctrRead _ | .ctrWrite _ _ => true
  | _ => false

theorem inv_exec_keeps (s : State) (m : Micro) (ha : keepsInv m = true) (hi : Inv s) : Inv (exec s m) := by
  cases m <;> simp [keepsInv] at ha
  case link => exact inv_link s _ _ hi
  case release => exact inv_release s _ hi
  all_goals exact ⟨hi.ptr_ring, hi.ring_alive, hi.dead_once, hi.alive_zero, hi.no_uaf, hi.no_leak⟩

/-- A step of thread `t` replaces its entry `m :: ms` of the program list by `ms`; with the list taken apart
    around that entry, what a step does to a property of all programs is a fact about `++` and `::`. -/
theorem runSched_preserves (P : State → List (List Micro) → Prop)
    (step : ∀ s pre m ms post, P s (pre ++ (m :: ms) :: post) → P (exec s m) (pre ++ ms :: post)) (sched : List Nat) :
    ∀ s ps, P s ps → P (runSched s ps sched).1 (runSched s ps sched).2 := by
  induction sched with
  | nil => exact fun s ps h => h
  | cons t rest ih =>
    intro s ps h
    unfold runSched
    split
    · rename_i m ms hg
      obtain ⟨ht, he⟩ := List.getElem?_eq_some_iff.1 hg
      have e : ps = ps.take t ++ (m :: ms) :: ps.drop (t + 1) := by
        rw [← he, ← List.drop_eq_getElem_cons ht, List.take_append_drop]
      rw [List.set_eq_take_append_cons_drop, if_pos ht]
      exact ih _ _ (step s _ m ms _ (Eq.mp (congrArg (P s) e) h))
    · exact ih _ _ h

def All (P : Micro → Bool) (ps : List (List Micro)) : Prop := ∀ p ∈ ps, ∀ m ∈ p, P m = true

private theorem all_step {P : Micro → Bool} {pre post : List (List Micro)} {m : Micro} {ms : List Micro}
    (h : All P (pre ++ (m :: ms) :: post)) : All P (pre ++ ms :: post) ∧ P m = true := by
  simp only [All, List.forall_mem_append, List.forall_mem_cons] at h ⊢
  obtain ⟨hpre, ⟨hm, hms⟩, hpost⟩ := h
  exact ⟨⟨hpre, hms, hpost⟩, hm⟩

theorem inv_runSched (sched : List Nat) (s : State) (ps : List (List Micro)) (hi : Inv s) (ha : All keepsInv ps) :
    Inv (runSched s ps sched).1 :=
  (runSched_preserves (fun s ps => Inv s ∧ All keepsInv ps)
    (fun s _ m _ _ h =>
      have ⟨ha', hm⟩ := all_step h.2
      ⟨inv_exec_keeps s m hm h.1, ha'⟩) sched s ps ⟨hi, ha⟩).1

theorem expandAll_all {P : Micro → Bool} {c : LockCfg} (h : ∀ t o, (expand c t o).all P = true)
    (progs : List (List Op)) : All P (expandAll c progs) := by
  intro p hp m hm
  unfold expandAll at hp
  rw [List.mem_iff_getElem] at hp
  obtain ⟨i, hi, rfl⟩ := hp
  simp only [List.getElem_zipWith, expandProg, List.mem_flatMap] at hm
  obtain ⟨o, _, ho⟩ := hm
  exact List.all_eq_true.1 (h _ o) m ho

def FullyLocked (c : LockCfg) : Prop := c.addRefLocked = true ∧ c.checkInsideLock = true ∧ c.counterAtomic = true

theorem expand_atomic (c : LockCfg) (hc : FullyLocked c) (t : Nat) (o : Op) : (expand c t o).all Micro.atomic = true := by
  obtain ⟨h1, h2, h3⟩ := hc
  cases o <;> simp only [expand, h1, h2, h3, if_true] <;> rfl

/-- The property, for a lock configuration `c`: every schedule of every set of thread programs,
    starting from an object referenced by the handles `hs`, is safe. -/
def C30_full (c : LockCfg) : Prop :=
  ∀ (hs : List Nat), hs ≠ [] → ∀ (progs : List (List Op)) (sched : List Nat),
    Safe (runSched (init hs) (expandAll c progs) sched).1

/-- `removeRefLocked` and `counterAtomic` play no part: with the check outside, the last two handles race whether or
    not the unlink itself is locked, and every counter step keeps `Inv`. -/
theorem C30_full_iff (c : LockCfg) : C30_full c ↔ c.addRefLocked = true ∧ c.checkInsideLock = true := by
  constructor
  · intro hf
    obtain ⟨a, r, k, ca⟩ := c
    cases a
    · exact absurd ⟨1, rfl, show 1 ∉ [0, 2] by decide⟩ (hf [0] (by simp) [[.acquire 1 0], [.acquire 2 0]] [0, 1, 0, 1]).2.2.1
    cases k
    · cases r
      · exact absurd (Nat.le_refl 2) (hf [0, 1] (by simp) [[.drop 0], [.drop 1]] [0, 0, 1, 1, 0, 1]).1
      · exact absurd (Nat.le_refl 2) (hf [0, 1] (by simp) [[.drop 0], [.drop 1]] [0, 1, 0, 1]).1
    · exact ⟨rfl, rfl⟩
  · intro ⟨h1, h2⟩ hs hne progs sched
    refine inv_safe _ (inv_runSched sched _ _ (inv_init hs hne) (expandAll_all (fun t o => ?_) progs))
    cases o <;> simp only [expand, h1, h2, if_true]
    case alloc => split <;> rfl
    all_goals rfl

/-- With the unlink, the needsFree() check and the delete in one critical section (and addRef
    locked), every interleaving of any number of threads is safe. -/
theorem C30_locked_safe (c : LockCfg) (hc : FullyLocked c) : C30_full c :=
  (C30_full_iff c).2 ⟨hc.1, hc.2.1⟩

/-- non-vacuity: a fully locked configuration exists and a 3-thread program has the claimed safety -/
example : Safe (runSched (init [0]) (expandAll ⟨true, true, true, true⟩
    [[.acquire 1 0, .drop 1], [.acquire 2 0, .drop 2], [.drop 0]]) [0, 1, 2, 1, 0, 2]).1 :=
  C30_locked_safe _ ⟨rfl, rfl, rfl⟩ [0] (by simp) _ _

/-- the counter change a micro-step performs when it is an atomic update -/
def delta : Micro → Int
  | .ctrAdd d => d
  | _ => 0

def pendingSum (ps : List (List Micro)) : Int :=
  (ps.map fun p => (p.map delta).sum).sum

private theorem touch_counter (s : State) : (touch s).counter = s.counter := by
  unfold touch; split <;> rfl

private theorem exec_counter_atomic (s : State) (m : Micro) (ha : m.atomic = true) :
    (exec s m).counter = s.counter + delta m := by
  cases m <;> simp only [Micro.atomic, Bool.false_eq_true] at ha <;> simp only [exec, delta, Int.add_zero]
  case link => split <;> simp only [touch_counter]
  case release =>
    split
    · simp only [destroyIfNeeded]; split <;> exact touch_counter s
    · rfl

theorem counter_conserved (sched : List Nat) (s : State) (ps : List (List Micro)) (ha : All Micro.atomic ps) :
    (runSched s ps sched).1.counter + pendingSum (runSched s ps sched).2 = s.counter + pendingSum ps :=
  (runSched_preserves (fun s' ps' => All Micro.atomic ps' ∧ s'.counter + pendingSum ps' = s.counter + pendingSum ps)
    (fun s' pre m ms post h => by
      obtain ⟨ha', hm⟩ := all_step h.1
      refine ⟨ha', ?_⟩
      rw [exec_counter_atomic s' m hm, ← h.2]
      simp only [pendingSum, List.map_append, List.map_cons, List.sum_append, List.sum_cons]
      omega) sched s ps ⟨ha, rfl⟩).2

/-- At quiescence (no thread has a step left) the counter equals the sum of all updates,
    whatever the schedule was: allocations and frees that cancel leave it at its initial value. -/
theorem C30_counter_exact (c : LockCfg) (hc : FullyLocked c) (hs : List Nat) (progs : List (List Op))
    (sched : List Nat) (hq : pendingSum (runSched (init hs) (expandAll c progs) sched).2 = 0) :
    (runSched (init hs) (expandAll c progs) sched).1.counter = pendingSum (expandAll c progs) := by
  have := counter_conserved sched (init hs) _ (expandAll_all (expand_atomic c hc) progs)
  rw [hq] at this
  simpa [init] using this

/-- If the needsFree() check runs outside the critical section of the unlink (the shape of all six
    remove*Ref functions in the current tree), two threads dropping the last two handles can both
    see an empty ring: the object is destroyed twice and read after its destruction. -/
theorem C30_unlocked_check_races (c : LockCfg) (h1 : c.removeRefLocked = true) (h2 : c.checkInsideLock = false) :
    ¬ C30_full c :=
  fun hf => Bool.false_ne_true (h2.symm.trans ((C30_full_iff c).1 hf).2)

/-- A non-atomic counter update loses an update under the schedule read₀, read₁, write₀, write₁. -/
theorem C30_nonatomic_counter_loses (c : LockCfg) (h : c.counterAtomic = false) :
    (runSched (init [0]) (expandAll c [[.alloc 8], [.alloc 8]]) [0, 1, 0, 1]).1.counter = 8 := by
  obtain ⟨a, r, k, ca⟩ := c
  cases h
  rfl

/-- An unlocked addRef loses a reference: two concurrent copies, one link is overwritten. -/
theorem C30_unlocked_addRef_loses (c : LockCfg) (h : c.addRefLocked = false) : ¬ C30_full c :=
  fun hf => Bool.false_ne_true (h.symm.trans ((C30_full_iff c).1 hf).1)

end Occa.GcConc.C30
