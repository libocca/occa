/-
C16 — The OKL front end reports malformed input instead of crashing.

What is PROVED here is deliberately small and exactly delimited: the token window
`occa::lang::tokenContext_t` (src/occa/internal/lang/tokenContext.cpp), through which the whole
statement parser reads its input.  The model (OccaModel/FrontEnd.lean) follows the C++ statement by
statement and makes the trapping operations explicit: unchecked `tokens[tokenIndices[i]]` reads, the
C cast to `pairOperator_t*`, the undefined 64-bit shift inside `bitfield::operator>>`, and the
default-inserting `pairs[pos]` of `getNextOperator` (non-termination = `hang`).  The operator table
the theorems quantify over is regenerated from operator.cpp on every run (OccaGen/PairOps.lean).

All of (a)–(d) are for token lists that are `Typed`: every operator token refers to an operator object of
operator.cpp (a row of the regenerated table).
  (a) setup never traps                                              C16_tokctx_setup_total
  (b) unbalanced brackets are reported: no error flag ⇒ every opening bracket is bound to a later
      closing bracket of its kind and every closing bracket is bound   C16_tokctx_unbalanced_reported
  (c) after a successful setup, every history of navigation calls with arbitrary integer arguments
      stays inside the token vector, never traps, never hangs          C16_tokctx_history_safe
  (d) getNextOperator terminates: false for a context whose setup reported an error (kept as
      C16_getNextOperator_full / _full_fails), true otherwise          C16_getNextOperator_partial
  (e) bitfield::operator>> : undefined shift for shift = 128 (C16_bitfield_shr_full_fails), none for
      the only use in the front end, `>> 1`                            C16_bitfield_shr_partial
  (f) the C cast `(pairOperator_t*) op` is applied only to pair operators   C16_pair_cast_sound

Everything else of the property (tokenizer, preprocessor, statement parser, type loaders, attribute
transforms, the seven backends' tree surgery, recursion depth) is NOT modelled: for that part the
check is exploration (harness/fuzz_okl.cpp), see design-notes/C16.md.
-/
import OccaProofs.Lemmas.FrontEndNav

namespace Occa.FrontEnd.C16

/-! ### example tokens: `x ( y ; ) ]`-style lists built from the generated table -/

def opOf (name : String) : Tok :=
  match Gen.PairOps.ops.find? (fun e => e.1 == name) with
  | some (_, _, b1, b2, p) => .op ⟨⟨b1, b2⟩, p⟩
  | none => .other false

def exBalanced : Array Tok := #[.other false, opOf "parenthesesStart", .other true, opOf "bracketStart", opOf "bracketEnd",
                                opOf "semicolon", opOf "parenthesesEnd", opOf "semicolon"]
def exUnclosed : Array Tok := #[.other false, opOf "parenthesesStart"]
def exMismatch : Array Tok := #[opOf "parenthesesStart", opOf "bracketEnd"]

/-- `opOf` returns a row of the table `knownOps` is built from -/
private theorem opOf_known (name : String) (o : Op) (h : opOf name = .op o) : o ∈ knownOps := by
  unfold opOf at h
  split at h
  · next e =>
    cases h
    exact List.mem_map.mpr ⟨_, List.mem_of_find?_eq_some e, rfl⟩
  · cases h

private theorem exBalanced_typed : Typed exBalanced := .of_mem fun o h => by
  simp only [exBalanced, List.mem_toArray, List.mem_cons, List.not_mem_nil, or_false, reduceCtorEq, false_or] at h
  rcases h with h | h | h | h | h | h <;> exact opOf_known _ _ h.symm

private theorem exUnclosed_typed : Typed exUnclosed := .of_mem fun o h => by
  simp only [exUnclosed, List.mem_toArray, List.mem_cons, List.not_mem_nil, or_false, reduceCtorEq, false_or] at h
  exact opOf_known _ _ h.symm

/-- The rows `opOf` finds for the names used below.  Looking a name up compares strings, which is by
    far the dearest part of evaluating anything built with `opOf`; the examples rewrite with these
    first and evaluate a term without strings. -/
private theorem opOf_eqs :
    opOf "parenthesesStart" = .op ⟨.ofPair Gen.PairOps.parenthesesStartMask, true⟩ ∧
    opOf "parenthesesEnd" = .op ⟨.ofPair Gen.PairOps.parenthesesEndMask, true⟩ ∧
    opOf "bracketStart" = .op ⟨.ofPair Gen.PairOps.bracketStartMask, true⟩ ∧
    opOf "bracketEnd" = .op ⟨.ofPair Gen.PairOps.bracketEndMask, true⟩ ∧
    opOf "semicolon" = .op ⟨.ofPair Gen.PairOps.semicolonMask, false⟩ := by decide +kernel

/-- (a) For every list of tokens whose operator tokens refer to operator objects of operator.cpp,
    `tokenContext_t::setup` returns normally: no out-of-bounds read, no bad cast, no undefined
    shift, no exception. -/
theorem C16_tokctx_setup_total (tokens : Array Tok) (ht : Typed tokens) :
    ∃ c, setup tokens = .ok c :=
  let ⟨c, h, _⟩ := setup_total tokens ht
  ⟨c, h⟩

example : ∃ c, setup exBalanced = .ok c := C16_tokctx_setup_total _ exBalanced_typed

/-- (b) If `setup` does not raise `hasError`, the pair map is a complete matching: bindings go
    forward and stay inside the list, join an opening bracket with a closing bracket of the same
    kind (the C++ test), every opening bracket has a binding and every closing bracket is one.
    Contrapositive: an unclosed, unopened or mismatched bracket sets `hasError`, and the parser
    stops (`success &= !tokenContext.hasError`). -/
theorem C16_tokctx_unbalanced_reported (tokens : Array Tok) (ht : Typed tokens) (c : Ctx)
    (hs : setup tokens = .ok c) (he : c.hasError = false) :
    PairsBounded c ∧ PairsMatch c ∧ Covered c ∧ ClosersCovered c :=
  let ⟨_, hb, hm, h⟩ := setup_spec ht hs
  ⟨hb, hm, h he⟩

example : (match setup exBalanced with | .ok c => c.hasError | _ => true) = false := by
  rw [exBalanced]
  simp only [opOf_eqs]
  decide +kernel
example : (match setup exUnclosed with | .ok c => c.hasError | _ => false) = true := by
  rw [exUnclosed]
  simp only [opOf_eqs]
  decide +kernel
example : (match setup exMismatch with | .ok c => c.hasError | _ => false) = true := by
  rw [exMismatch]
  simp only [opOf_eqs]
  decide +kernel

/-- (c) After a `setup` that reported no error, every sequence of navigation calls (`set`, `push`,
    `pop`, `popAndSkip`, `pushPairRange`, `operator[]`, `end`, `getClosingPair(Token)`,
    `getNextOperator`, `getPrintToken`) with arbitrary integer arguments runs to completion: every token read is
    inside the vectors, nothing hangs; calls that raise occa::exception (pop of an empty stack,
    pushPairRange without a pair) are allowed by the property and leave the context unchanged. -/
theorem C16_tokctx_history_safe (tokens : Array Tok) (ht : Typed tokens) (c : Ctx)
    (hs : setup tokens = .ok c) (he : c.hasError = false) (ops : List NavOp) :
    ∃ c', c.run ops = .ok c' :=
  ((setup_good ht hs he).run ops).imp fun _ h => h.1

example : (do let c ← setup exBalanced
              let c' ← c.run [.push2 1 100, .set1 (-3), .at 7, .pop, .pop, .next semicolonM, .pushPairRange,
                              .closingTok, .popAndSkip]
              pure (c.hasError, c.pairs, c'.tp) : Res _) = .ok (false, [(1, 5), (2, 3)], ⟨0, 7⟩) := by
  rw [exBalanced]
  simp only [opOf_eqs]
  decide +kernel

/-- the window never leaves the token list (the invariant behind (c)) -/
theorem C16_tokctx_window_in_bounds (tokens : Array Tok) (ht : Typed tokens) (c : Ctx)
    (hs : setup tokens = .ok c) (he : c.hasError = false) (ops : List NavOp) (c' : Ctx)
    (hr : c.run ops = .ok c') :
    0 ≤ c'.tp.start ∧ c'.tp.start ≤ c'.tp.stop ∧ c'.tp.stop ≤ (c'.tokenIndices.size : Int) :=
  have hv := ((setup_good ht hs he).of_run hr).valid
  ⟨hv.lo, hv.mid, hv.hi⟩

/-- full strength: on every context produced by `setup`, `getNextOperator` terminates -/
def C16_getNextOperator_full : Prop :=
  ∀ (tokens : Array Tok), Typed tokens → ∀ c, setup tokens = .ok c →
    ∀ m, ∃ fuel, c.getNextOperator m fuel ≠ .hang

/-- An opener `o` at position 1, after a non-operator, that no binding covers: `pairs[1]`
    default-inserts 0 and the loop comes back to position 1 for ever.  The states it visits are
    `(0, [])`, `(1, [])` and `(1, [(1, 0)])`. -/
private theorem hang_of_unbound (c : Ctx) (m : Bitfield) (s : Bool) (o : Op) (hstop : (1 : Int) < c.tp.stop)
    (h0 : c.getToken 0 = .ok (.other s)) (h1 : c.getToken 1 = .ok (.op o))
    (hm : (o.opType.and m).toBool = false) (hs : (o.opType.and pairStartM).toBool = true) :
    ∀ fuel pos pairs, (pos = 0 ∧ pairs = []) ∨ (pos = 1 ∧ (pairs = [] ∨ pairs = [(1, 0)])) →
      getNextOperatorLoop c m fuel pos pairs = .hang := by
  intro fuel
  induction fuel with
  | zero => intros; rfl
  | succ n ih =>
    have h0' : (0 : Int) < c.tp.stop := by omega
    rintro pos pairs (⟨rfl, rfl⟩ | ⟨rfl, rfl | rfl⟩) <;> unfold getNextOperatorLoop
    · simp only [h0', if_true, h0, ok_bind]
      exact ih _ _ (.inr ⟨rfl, .inl rfl⟩)
    all_goals
      simp only [hstop, if_true, h1, ok_bind, hm, Bool.false_eq_true, if_false, hs, lookup]
      exact ih _ _ (.inr ⟨rfl, .inr rfl⟩)

/-- witness: `x (` — setup reports the unclosed parenthesis; a later `getNextOperator(semicolon)`
    reads `pairs[1]`, gets the default 0, and returns to position 1 for ever.  (Not reachable through
    parser_t, which stops on `hasError`; it is the reason (c) needs `hasError = false`.) -/
theorem C16_getNextOperator_full_fails : ¬ C16_getNextOperator_full := by
  intro h
  have e : setup exUnclosed = .ok ⟨#[.other false, .op ⟨.ofPair Gen.PairOps.parenthesesStartMask, true⟩],
      #[0, 1], [], [], true, false, [], ⟨0, 2⟩⟩ := by
    rw [exUnclosed]
    simp only [opOf_eqs]
    decide +kernel
  obtain ⟨fuel, hf⟩ := h exUnclosed exUnclosed_typed _ e semicolonM
  apply hf
  unfold Ctx.getNextOperator
  rw [hang_of_unbound _ semicolonM false ⟨.ofPair Gen.PairOps.parenthesesStartMask, true⟩
    (by decide) (by decide) (by decide) (by decide) (by decide) fuel _ _ (.inl ⟨rfl, rfl⟩)]
  rfl

/-- (d) the strongest true restriction: on a context whose setup reported no error (and after any
    navigation history), `getNextOperator` returns within `size + 1` iterations, does not touch the
    pair map, and answers -1 or a position inside the window. -/
theorem C16_getNextOperator_partial (tokens : Array Tok) (ht : Typed tokens) (c : Ctx)
    (hs : setup tokens = .ok c) (he : c.hasError = false) (ops : List NavOp) (c' : Ctx)
    (hr : c.run ops = .ok c') (m : Bitfield) :
    ∃ r, c'.getNextOperator m (c'.size.toNat + 1) = .ok (c', r) ∧ (r = -1 ∨ (0 ≤ r ∧ r < c'.size)) :=
  ((setup_good ht hs he).of_run hr).getNextOperator_ok m

/-- full strength: `operator>>` has no undefined behaviour for any shift -/
def C16_bitfield_shr_full : Prop := ∀ (x : Bitfield) (shift : Int), x.shr shift ≠ .trap

/-- witness: `shift == 128` passes the `shift > 2 * bSize` test and evaluates `b1 >> 64` -/
theorem C16_bitfield_shr_full_fails : ¬ C16_bitfield_shr_full :=
  fun h => h ⟨1, 1⟩ 128 ((shr_trap_iff _ _).mpr rfl)

/-- (e) no undefined shift for every shift other than 128; in particular for `>> 1`, the only
    use in the front end (findPairs) -/
theorem C16_bitfield_shr_partial (x : Bitfield) (shift : Int) (h : shift ≠ 128) : x.shr shift ≠ .trap :=
  fun e => h ((shr_trap_iff x shift).mp e)

example : (Bitfield.mk 3 5).shr 1 = .ok ⟨1, 2 + 9223372036854775808⟩ := by decide +kernel

/-- (f) every operator object of operator.cpp whose opType has a `pair` bit is constructed as a
    `pairOperator_t`, so `(pairOperator_t*) token->to<operatorToken>().op` reads a real `pairStr`;
    and the C++ kind test `start.opType == (end.opType >> 1)` holds exactly for `{}`, `[]`, `()`,
    `<<< >>>` (re-checked against the regenerated table on every run). -/
theorem C16_pair_cast_sound :
    (∀ o ∈ knownOps, (o.opType.and pairM).toBool = true → o.isPairOp = true) ∧
    (∀ a ∈ knownOps, ∀ b ∈ knownOps, (a.opType.and pairStartM).toBool = true →
       (b.opType.and pairM).toBool = true → (b.opType.and pairStartM).toBool = false →
       (b.opType.shr 1 = .ok a.opType ↔ b.opType = ⟨2 * a.opType.b1, 2 * a.opType.b2⟩)) := by
  refine ⟨knownOps_pair_isPairOp, fun a ha b hb hs => ?_⟩
  -- swept with the test on `a` outside the loop over `b`, which then runs for the four openers only
  revert b
  revert a
  decide +kernel

end Occa.FrontEnd.C16
