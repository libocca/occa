/-
C07 — Editing an included header always invalidates stale cached kernels.

Model: OccaModel/DepHash.lean (device::applyDependencyHash, dependency recording, cache lookup,
build) over OccaModel/CacheKey.lean and the generated OccaGen/CacheKeyFields.lean.  Parameters,
all universally quantified: hash function, JSON encoder, hash rendering, mode constant, device
hash, directory naming `dir`, include scanner `incl`, expansion fuel, compiler `compile`,
initial file system.
Statement of the property, clause by clause:
  "every build … runs code that reflects the current contents of all files it includes"
        C07_every_build_current   after ANY finite history of writes/removals/builds from an
                                  empty cache, a completed build (hit or miss) runs
                                  compile(configuration, expansion under the CURRENT files)
  "a build never reuses a binary compiled against an older version of an included file"
        C07_hit_is_fresh          a hit means every recorded dependency exists with its recorded
                                  hash, and the reused binary is the one compiled from the
                                  current expansion
  termination of the key resolution (the F11 defect was a non-terminating resolution)
        C07_resolve_terminates    for EVERY hash function, within cache size + 1 iterations
        C07_no_chain_error        without collisions the visited-directory guard never fires
  tie to the source
        C07_table_shape           applyDependencyHash hashes one labelled object per step, with
                                  full-width renderings, in a loop with the guard
The hypotheses `e.Inj` are the idealisation "no collisions of the hash, the encoder, the
renderings and the 64-bit directory names".
-/
import OccaProofs.Lemmas.DepHash
import OccaProofs.Lemmas.DepHashWF
import OccaProofs.Lemmas.HashExact
import OccaModel.DepHashExact

namespace Occa.DepHash.C07
open Occa.CacheKeyBase Occa.CacheKey Occa.DepHash

variable {κ σ δ β : Type} [DecidableEq κ] [DecidableEq δ]

/-- Tie to the source: the regenerated description of device::applyDependencyHash. -/
theorem C07_table_shape : ChainShape := chainShape

/-- The key resolution terminates for every hash function, every file system, every cache
    (reachable or not) and every start key: cache size + 1 iterations suffice. -/
theorem C07_resolve_terminates (e : DEnv κ σ δ) (fs : FS) (cache : Cache κ δ β) (K : κ) :
    resolve e fs cache (cache.length + 1) [] K ≠ .outOfFuel :=
  resolve_fuel e fs cache _ [] K List.nodup_nil nofun (Nat.le_refl _)

/-- Without collisions the resolution of a configuration's key never raises the chain error. -/
theorem C07_no_chain_error (e : DEnv κ σ δ) (hi : e.Inj (fun _ => True)) (fs : FS) (cache : Cache κ δ β)
    (c : Config) (K' : κ) : resolve e fs cache (cache.length + 1) [] (baseKey e.toEnv c) ≠ .cycle K' := by
  obtain ⟨K, _, h, _⟩ := resolve_base e hi.on fs cache cacheW_all c (Config.ok_all _ _)
  rw [h]
  nofun

/-- The cache after any history starting from an empty cache. -/
def reached (e : DEnv κ σ δ) (compile : String × List (Option J) → List (String × String) → β)
    (fs0 : FS) (ops : List Op) : State κ δ β :=
  run e compile { fs := fs0, cache := [] } ops

/-- The property: after any finite history of file writes, removals and builds (each build
    updating the shared cache), every build
    * that completes — served from the cache or compiled now — runs the binary the compiler
      yields for its configuration and the CURRENT contents of all transitively included files,
    * is rejected only when the current files have no expansion (an included file is missing),
    * never fails in the key resolution. -/
theorem C07_every_build_current (e : DEnv κ σ δ) (hi : e.Inj (fun _ => True))
    (compile : String × List (Option J) → List (String × String) → β)
    (fs0 : FS) (ops : List Op) (c : Config) :
    (∀ b, ((build e compile (reached e compile fs0 ops).fs (reached e compile fs0 ops).cache c).2.1 = .hit b ∨
           (build e compile (reached e compile fs0 ops).fs (reached e compile fs0 ops).cache c).2.1 = .miss b) →
        ∃ x, expand e.incl (reached e compile fs0 ops).fs e.depth (e.incl c.src) = some x ∧
          b = compile c.view x) ∧
    ((build e compile (reached e compile fs0 ops).fs (reached e compile fs0 ops).cache c).2.1 = .parseError →
        expand e.incl (reached e compile fs0 ops).fs e.depth (e.incl c.src) = Option.none) ∧
    (build e compile (reached e compile fs0 ops).fs (reached e compile fs0 ops).cache c).2.1 ≠ .chainError :=
  run_current e hi.on compile (fun _ _ _ => cacheW_all) fs0 ops (fun _ _ => Config.ok_all _ _) c
    (Config.ok_all _ _)

/-- Reuse is fresh: if, after any history, a build is served from the cache (entry `ent` of the
    directory of the resolved key `K`), then every dependency recorded in that entry exists and
    has its recorded hash, the current expansion of the kernel's includes exists, and the reused
    binary is exactly what the compiler yields for the current configuration and expansion. -/
theorem C07_hit_is_fresh (e : DEnv κ σ δ) (hi : e.Inj (fun _ => True))
    (compile : String × List (Option J) → List (String × String) → β)
    (fs0 : FS) (ops : List Op) (c : Config) (b : β)
    (hit : (build e compile (reached e compile fs0 ops).fs (reached e compile fs0 ops).cache c).2.1 = .hit b) :
    (∃ K ent, (reached e compile fs0 ops).cache.lookup (e.dir K) = some ent ∧ ent.bin = b ∧
        ∀ p h, (p, h) ∈ ent.deps →
          ∃ txt, (reached e compile fs0 ops).fs p = some txt ∧ e.H (e.raw txt) = h) ∧
    ∃ x, expand e.incl (reached e compile fs0 ops).fs e.depth (e.incl c.src) = some x ∧
      b = compile c.view x := by
  obtain ⟨K, ent, hres, hl, hb⟩ := found_of_hit e compile _ _ c hit
  exact ⟨⟨K, ent, hl, hb, scanDeps_unchanged e _ ent.deps (resolve_found_spec e _ _ _ _ _ hres ent hl)⟩,
    (C07_every_build_current e hi compile fs0 ops c).1 b (Or.inl hit)⟩

/-- The property with the JSON encoder instantiated by the MODEL of json::dumpToString, whose
    injectivity on well-formed values is proved (Lemmas/JsonDump.lean) instead of assumed.
    Side conditions that take its place: the property values of every configuration built are
    well-formed JSON, the hash renderings are well-formed JSON values (they are JSON strings), and
    the paths produced by the include scanner contain no `"` (they become object keys of the
    chained key, which json::dumpToString does not escape).  Still assumed: no collisions of the
    hash function, of the renderings and of the directory names. -/
theorem C07_every_build_current_dump (e : DEnv κ String δ) (henc : e.enc = dump)
    (hH : Function.Injective e.H) (hraw : Function.Injective e.raw)
    (hfull : Function.Injective e.full) (htweak : Function.Injective e.tweak)
    (hdir : Function.Injective e.dir) (hfw : ∀ k, (e.full k).WF)
    (hincl : ∀ t p, p ∈ e.incl t → keyOk p)
    (compile : String × List (Option J) → List (String × String) → β)
    (fs0 : FS) (ops : List Op) (hops : ∀ c, Op.build c ∈ ops → c.WF) (c : Config) (hc : c.WF) :
    (∀ b, ((build e compile (reached e compile fs0 ops).fs (reached e compile fs0 ops).cache c).2.1 = .hit b ∨
           (build e compile (reached e compile fs0 ops).fs (reached e compile fs0 ops).cache c).2.1 = .miss b) →
        ∃ x, expand e.incl (reached e compile fs0 ops).fs e.depth (e.incl c.src) = some x ∧
          b = compile c.view x) ∧
    ((build e compile (reached e compile fs0 ops).fs (reached e compile fs0 ops).cache c).2.1 = .parseError →
        expand e.incl (reached e compile fs0 ops).fs e.depth (e.incl c.src) = Option.none) ∧
    (build e compile (reached e compile fs0 ops).fs (reached e compile fs0 ops).cache c).2.1 ≠ .chainError := by
  exact run_current e ⟨(e.toEnv.inj_dump henc hH hraw hfull htweak).on, fun _ _ _ _ h => hdir h⟩ compile
    (cacheW_of_inv e hfw hincl compile) fs0 ops (fun c hc => ok_of_wf e.toEnv hfw c (hops c hc)) c
    (ok_of_wf e.toEnv hfw c hc)

/-- The form that applies to the real, non-injective hash: with the dump model as encoder and
    injective embedding / renderings / mode constant (as in the C++), after any history of
    well-formed configurations a build can be stale, wrongly rejected or fail in the key
    resolution ONLY IF the hash function has a collision or two different keys share a cache
    directory (the 64-bit directory names). -/
theorem C07_stale_build_needs_collision (e : DEnv κ String δ) (henc : e.enc = dump)
    (hraw : Function.Injective e.raw) (hfull : Function.Injective e.full)
    (htweak : Function.Injective e.tweak) (hfw : ∀ k, (e.full k).WF)
    (hincl : ∀ t p, p ∈ e.incl t → keyOk p)
    (compile : String × List (Option J) → List (String × String) → β)
    (fs0 : FS) (ops : List Op) (hops : ∀ c, Op.build c ∈ ops → c.WF) (c : Config) (hc : c.WF) :
    (∃ x y : String, x ≠ y ∧ e.H x = e.H y) ∨ (∃ k k' : κ, k ≠ k' ∧ e.dir k = e.dir k') ∨
    ((∀ b, ((build e compile (reached e compile fs0 ops).fs (reached e compile fs0 ops).cache c).2.1 = .hit b ∨
           (build e compile (reached e compile fs0 ops).fs (reached e compile fs0 ops).cache c).2.1 = .miss b) →
        ∃ x, expand e.incl (reached e compile fs0 ops).fs e.depth (e.incl c.src) = some x ∧
          b = compile c.view x) ∧
    ((build e compile (reached e compile fs0 ops).fs (reached e compile fs0 ops).cache c).2.1 = .parseError →
        expand e.incl (reached e compile fs0 ops).fs e.depth (e.incl c.src) = Option.none) ∧
    (build e compile (reached e compile fs0 ops).fs (reached e compile fs0 ops).cache c).2.1 ≠ .chainError) := by
  by_cases h1 : ∃ x y : String, x ≠ y ∧ e.H x = e.H y
  · exact Or.inl h1
  by_cases h2 : ∃ k k' : κ, k ≠ k' ∧ e.dir k = e.dir k'
  · exact Or.inr (Or.inl h2)
  exact Or.inr (Or.inr (C07_every_build_current_dump e henc (injective_of_no_collision h1) hraw hfull htweak
    (injective_of_no_collision h2) hfw hincl compile fs0 ops hops c hc))

set_option linter.unusedVariables false in -- `hdev`: the device hash is rendered into the key, never read back
/-- The closed form for the exact model: `exactDEnv` is the very instance the driver runs
    (lean/Driver/Cache.lean: the hash_t model of C27, the dump model, the 16-character directory
    names of io::hashDir, the scanner for `#include "…"` lines), whose hit/miss decisions and keys the
    runner compares with the real builds.  After any history of builds of configurations with
    well-formed property values, a build is stale, wrongly rejected or fails in the key resolution
    only if two different strings have the same `occa::hash`, or two different hashes have the same
    16-character directory name.  (getFullString is injective on well-formed hashes only; every key
    the chain meets is a hash of a string, hence well-formed: `DEnv.InjOn`.) -/
theorem C07_exact_stale_build_needs_collision (openmp : Bool) (dev : Hash.Lanes) (hdev : Hash.WellFormed dev)
    (depth : Nat)
    (compile : String × List (Option J) → List (String × String) → β)
    (fs0 : FS) (ops : List Op) (hops : ∀ c, Op.build c ∈ ops → c.WF) (c : Config) (hc : c.WF) :
    (∃ x y : String, x ≠ y ∧ hashStr x = hashStr y) ∨
    (∃ k k' : WLanes, k ≠ k' ∧ shortStr k.1 = shortStr k'.1) ∨
    ((∀ b, ((build (exactDEnv openmp dev depth) compile (reached (exactDEnv openmp dev depth) compile fs0 ops).fs
              (reached (exactDEnv openmp dev depth) compile fs0 ops).cache c).2.1 = .hit b ∨
           (build (exactDEnv openmp dev depth) compile (reached (exactDEnv openmp dev depth) compile fs0 ops).fs
              (reached (exactDEnv openmp dev depth) compile fs0 ops).cache c).2.1 = .miss b) →
        ∃ x, expand scanIncludes (reached (exactDEnv openmp dev depth) compile fs0 ops).fs depth (scanIncludes c.src) = some x ∧
          b = compile c.view x) ∧
    ((build (exactDEnv openmp dev depth) compile (reached (exactDEnv openmp dev depth) compile fs0 ops).fs
        (reached (exactDEnv openmp dev depth) compile fs0 ops).cache c).2.1 = .parseError →
        expand scanIncludes (reached (exactDEnv openmp dev depth) compile fs0 ops).fs depth (scanIncludes c.src) = Option.none) ∧
    (build (exactDEnv openmp dev depth) compile (reached (exactDEnv openmp dev depth) compile fs0 ops).fs
        (reached (exactDEnv openmp dev depth) compile fs0 ops).cache c).2.1 ≠ .chainError) := by
  by_cases h1 : ∃ x y : String, x ≠ y ∧ hashStr x = hashStr y
  · exact Or.inl h1
  by_cases h2 : ∃ k k' : WLanes, k ≠ k' ∧ shortStr k.1 = shortStr k'.1
  · exact Or.inr (Or.inl h2)
  -- no collisions among well-formed hashes, and the chain only meets those
  have hi : (exactDEnv openmp dev depth).InjOn Hash.WellFormed J.WFtop :=
    ⟨exactEnv_injOn openmp dev (injective_of_no_collision h1), fun a b ha hb h =>
      Classical.byContradiction fun hn => h2 ⟨⟨a, ha⟩, ⟨b, hb⟩, fun e => hn (congrArg Subtype.val e), h⟩⟩
  have hfw : ∀ k, ((exactDEnv openmp dev depth).full k).WF := fun _ => trivial
  exact Or.inr (Or.inr (run_current _ hi compile (cacheW_of_inv _ hfw scanIncludes_keyOk compile) fs0 ops
    (fun c hc => ok_of_wf _ hfw c (hops c hc)) c (ok_of_wf _ hfw c hc)))

/-- Why F11 needed a different chaining rather than a better hash: with the historical step —
    fold the current hashes of the recorded files into the key with a self-inverse operation
    (`^`) and recurse — two recorded files that have been given the same new contents lead back
    to the same key, and the resolution runs out of every amount of fuel, for every hash
    function. -/
theorem C07_fold_chaining_diverges (e : DEnv κ σ δ) (op : κ → κ → κ) (hop : ∀ k z, op (op k z) z = k)
    (fs : FS) (K : κ) (a b t : String) (h₁ h₂ : κ) (bin : β)
    (hne : e.H (e.raw t) ≠ h₁) (ha : fs a = some t) (hb : fs b = some t) (fuel : Nat) :
    foldResolve e op fs [(e.dir K, ({ deps := [(a, h₁), (b, h₂)], bin := bin } : Entry κ β))] fuel K
      = .outOfFuel := by
  induction fuel with
  | zero => rfl
  | succ n ih =>
    have hs : scanDeps e fs [(a, h₁), (b, h₂)] =
        ([(a, e.H (e.raw t)), (b, e.H (e.raw t))],
          (false || decide (e.H (e.raw t) ≠ h₂)) || decide (e.H (e.raw t) ≠ h₁)) := by
      simp only [scanDeps, ha, hb]
    have hch : (scanDeps e fs [(a, h₁), (b, h₂)]).2 ≠ false := by
      rw [hs, decide_eq_true hne, Bool.or_true]
      nofun
    -- the two equal new hashes cancel: the "next" key is `K` again
    rw [foldResolve, lookup_cons_eq, if_pos rfl]
    simp only [if_neg hch]
    simp only [hs, List.map_cons, List.map_nil, List.foldl_cons, List.foldl_nil, hop]
    exact ih

/-! ### the hypotheses are satisfiable -/

/-- a collision-free instance: keys, hashed values and directory names are JSON values -/
def freeEnv : DEnv J J J where
  H := id
  enc := id
  raw := J.str
  full := id
  short := id
  tweak := id
  dev := J.null
  dir := id
  incl := fun _ => []
  depth := 8

example : (freeEnv).Inj (fun _ => True) :=
  ⟨⟨fun _ _ h => h, fun _ _ _ _ h => h, fun _ _ h => J.str.inj h, fun _ _ h => h, fun _ _ h => h⟩, fun _ _ h => h⟩

/-- the theorems apply to it (equality of JSON values is decidable classically) -/
noncomputable example (fs0 : FS) (ops : List Op) (c : Config) :=
  @C07_every_build_current J J J (List (String × String)) (Classical.typeDecidableEq J) (Classical.typeDecidableEq J)
    freeEnv ⟨⟨fun _ _ h => h, fun _ _ _ _ h => h, fun _ _ h => J.str.inj h, fun _ _ h => h, fun _ _ h => h⟩, fun _ _ h => h⟩
    (fun _ x => x) fs0 ops c

end Occa.DepHash.C07
