/-
C29 — C API values keep their value and type through conversions.

"For any scalar, string, null or JSON value passed through the C API (occaType constructors,
 occaJson set/get on objects and arrays, occaJsonGet* accessors, and kernel-argument conversion),
 reading it back yields the same value and the same C type, and C handles created by the API stay
 valid until occaFree."

Models: OccaModel/CApi.lean (values, occa::primitive, json paths/arrays), OccaModel/CApiHandles.lean
(handle table), both over the tables of OccaGen/CTypes.lean which are regenerated from
include/occa/c/types.h and src/occa/internal/c/types.cpp on every run: a changed tag, member,
sizeof or switch case re-checks every theorem below.

Clause by clause:
  constructors            C29_scalar_roundtrip, C29_scalar_value, C29_public_ctor_type, C29_special_values
  occa::primitive         C29_prim_roundtrip_typed, C29_prim_roundtrip, C29_int_value_preserved, C29_untyped_overload_total
  json set/get (value+type)  C29_json_scalar_set_get, C29_json_bool_set_get, C29_json_string_null_set_get
  json paths / histories  C29_json_set_get_path, C29_json_set_frame, C29_json_history, C29_json_handle_set_get
  json arrays             C29_array_push_get, C29_array_history, C29_array_get_grows_keeps, C29_array_insert
  kernel arguments        C29_kernelarg_bytes, C29_kernelarg_public_ctor, C29_kernelarg_pointers, C29_kernelarg_bool_rejected
  handles                 C29_handles_safe, C29_handles_no_leak, C29_null_document_not_leaked, C29_entry_point_ownership
Conversions between *different* numeric types that involve float/double are computed with Lean's
runtime floats in the model and are only tested by the correspondence run (DESIGN.md section 3).
-/
import OccaProofs.Lemmas.CApiValues
import OccaProofs.Lemmas.CApiJson
import OccaProofs.Lemmas.CApiHandles

namespace Occa.CApi.C29
open Occa.CApi Occa.Gen.CTypes

/-- Every `newOccaType<T>` (all 11 scalar C types), every argument bit pattern `v`, whatever the
    uninitialised union contained (`garbage`): the member a C programmer reads back holds exactly
    the argument (`bool`: 0/1), the tag is the tag of `T` and of no other type, `bytes = sizeof(T)`,
    the value is defined and not owned. -/
theorem C29_scalar_roundtrip (c : CTy) (garbage v : Nat) :
    fromOcca c (ofScalar c garbage v) = argBits c v ∧
    (ofScalar c garbage v).tag = (ctorSpec c).1 ∧
    (∀ c', (ctorSpec c').1 = (ofScalar c garbage v).tag → c' = c) ∧
    (ofScalar c garbage v).bytes = c.bytes ∧
    (ofScalar c garbage v).hdrOk = true ∧ (ofScalar c garbage v).needsFree = false :=
  ⟨fromOcca_ofScalar c garbage v, rfl, fun c' h => spec_tag_injective c' c h, spec_bytes c, rfl, spec_needsFree c⟩

example : fromOcca .i8 (ofScalar .i8 0xdeadbeefcafe1234 0xfb) = 0xfb ∧ (ofScalar .i8 0xdeadbeefcafe1234 0xfb).tag = tagInt8 := by
  decide

/-- the value read back is the argument itself for every non-bool type (all of its bits) -/
theorem C29_scalar_value (c : CTy) (hc : c ≠ .bool) (garbage v : Nat) :
    fromOcca c (ofScalar c garbage v) = v % 2 ^ c.bits := by
  rw [fromOcca_ofScalar, argBits_of_ne_bool c hc]

/-- Every public constructor of include/occa/c/types.h (`occaBool` … `occaULong`, `occaFloat`,
    `occaDouble`) builds the value through `newOccaType<T>` for the fixed-width `T` that has the
    width and signedness of its C parameter type (LP64, plain char signed): same C type. -/
theorem C29_public_ctor_type (k : Ctor) (garbage v : Nat) :
    construct k garbage v = some (ofScalar k.cParam garbage v) := by
  rw [construct, ctorTarget_eq]; rfl

example : (construct .uchar 0 200).map (fun t => (t.tag, fromOcca .u8 t)) = some (tagUint8, 200) := by decide
example : (construct .long 7 (2 ^ 64 - 2)).map (fun t => (t.tag, t.bytes, fromOcca .i64 t)) = some (tagInt64, 8, 2 ^ 64 - 2) := by decide

/-- occaTrue / occaFalse are the bool values 1 / 0; occaNull, occaDefault, occaUndefined keep their kind -/
theorem C29_special_values :
    fromOcca .bool occaTrue = 1 ∧ fromOcca .bool occaFalse = 0 ∧ occaTrue.tag = tagBool ∧ occaFalse.tag = tagBool ∧
    occaNull.tag = tagNull ∧ occaNull.hdrOk = true ∧ occaDefault.tag = tagDefault ∧ occaUndefined.hdrOk = false := by
  decide

/-- `newOccaType(occa::c::primitive(t), t.type) = t` for every numeric scalar: converting to
    occa::primitive and back with the value's own tag returns the same value and type
    (`garbage'` = the uninitialised bytes of the new occaType, they are never read). -/
theorem C29_prim_roundtrip_typed (c : CTy) (hc : c ≠ .bool) (garbage garbage' v : Nat) :
    (toPrim (ofScalar c garbage v)).map (fun p => ofPrimTyped p (ctorSpec c).1 garbage') =
      some (.ok (ofScalar c garbage' v)) ∧
    fromOcca c (ofScalar c garbage' v) = argBits c v := by
  refine ⟨?_, fromOcca_ofScalar c garbage' v⟩
  rw [toPrim_ofScalar c hc, Option.map_some, ofPrimTyped_self, ofScalar_argBits]

/-- the same through the untyped overload `newOccaType(const primitive&)` -/
theorem C29_prim_roundtrip (c : CTy) (hc : c ≠ .bool) (garbage garbage' v : Nat) :
    (toPrim (ofScalar c garbage v)).map (fun p => ofPrim p garbage') = some (.ok (ofScalar c garbage' v)) := by
  rw [toPrim_ofScalar c hc, Option.map_some, ofPrim_self, ofScalar_argBits]

/-- The same *value*, not only the same bits: a stored integer or bool read back through
    `occaJsonGetNumber` with ANY integer type that can represent it (e.g. an int8 read as int64, a
    uint32 read as uint64, a bool read as int) has the same mathematical value. -/
theorem C29_int_value_preserved (dst src : CTy) (v : Nat) (hs : src.isFloat = false) (hd : dst.isFloat = false)
    (hdb : dst ≠ .bool) (hfit : dst.lo ≤ intVal src v ∧ intVal src v ≤ dst.hi) :
    intVal dst (convTo dst src v) = intVal src v := by
  rw [convTo_int_eq dst src v hs hd hdb]
  exact intVal_wrap dst _ hdb hfit

example : intVal .i64 (convTo .i64 .i8 0xfb) = -5 ∧ intVal .i8 0xfb = -5 := by decide

/-- The untyped overload has a case for every primitive type a json number can have (bool
    included: the case the repair adds), and no C entry point of src/c/*.cpp calls it anyway. -/
theorem C29_untyped_overload_total : (∀ c : CTy, untypedPrim c = some c) ∧ untypedPrimCallSites = 0 :=
  ⟨untypedPrim_eq, rfl⟩

/-- what `occaJsonGetNumber(j, tag)` answers for a json number -/
def getNumber (j : J) (tag garbage : Nat) : Option (Res OType) :=
  match j with
  | .num p => some (ofPrimTyped p tag garbage)
  | _ => none

/-- Every scalar (all 11 C types, bool included) stored with occaJsonObjectSet / occaJsonArrayPush /
    occaJsonArrayInsert becomes a json number that remembers its C type; reading it with
    `occaJsonGetNumber(j, <tag of the type>)` returns the same value with the same tag and size;
    it reads as a json boolean iff it was a bool. -/
theorem C29_json_scalar_set_get (c : CTy) (garbage garbage' v : Nat) :
    ∃ j, inferJsonPlain (ofScalar c garbage v) = .ok j ∧
      j = .num ⟨some c, argBits c v⟩ ∧
      j.isNumber = true ∧ (j.isBool = true ↔ c = .bool) ∧
      getNumber j (ctorSpec c).1 garbage' = some (.ok (ofScalar c garbage' v)) ∧
      fromOcca c (ofScalar c garbage' v) = argBits c v ∧ (ofScalar c garbage' v).tag = (ctorSpec c).1 := by
  refine ⟨_, inferJsonPlain_ofScalar c garbage v, rfl, rfl, ?_, by rw [getNumber, ofPrimTyped_self, ofScalar_argBits],
    fromOcca_ofScalar c garbage' v, rfl⟩
  simp [J.isBool]

/-- booleans: occaJsonGetBoolean returns the value that was stored (occaBool, occaTrue, occaFalse) -/
theorem C29_json_bool_set_get (garbage v : Nat) :
    inferJsonPlain (ofScalar .bool garbage v) = .ok (.num ⟨some .bool, argBits .bool v⟩) ∧
    (argBits .bool v ≠ 0 ↔ v % 2 ^ 8 ≠ 0) := by
  refine ⟨inferJsonPlain_ofScalar .bool garbage v, ?_⟩
  show (if v % 2 ^ 8 = 0 then 0 else 1) ≠ 0 ↔ _
  split <;> simp [*]

/-- strings (any bytes), null and NULL pointers keep their value and kind; pointers, structs,
    undefined and default values are rejected with an error instead of being stored as something else -/
theorem C29_json_string_null_set_get (s : List Nat) :
    inferJsonPlain (occaString s) = .ok (.str s) ∧
    inferJsonPlain occaNull = .ok .null ∧
    inferJsonPlain (occaPtr true) = .ok .null ∧
    (inferJsonPlain (occaPtr false) matches .err) ∧ (inferJsonPlain (occaStruct 16) matches .err) ∧
    (inferJsonPlain occaUndefined matches .err) ∧ (inferJsonPlain occaDefault matches .err) := by
  refine ⟨rfl, rfl, rfl, rfl, rfl, rfl, rfl⟩

/-- `occaJsonObjectSet(j, path, v)` then `occaJsonObjectGet(j, path, …)`: whatever the document was
    (uninitialised or any object), whatever the path (plain key, `a/b/c`, escaped slash, empty),
    a successful set is read back unchanged — any json value, nested documents included. -/
theorem C29_json_set_get_path (ks : List Key) (v j j' : J) (h : setPath ks v j = .ok j') :
    getPath ks j' = some v :=
  getPath_setPath ks v j j' h

example : ∃ j', setPath (splitPath [0x61, 0x2f, 0x62]) (.str [1, 2]) .none = .ok j' ∧
    getPath (splitPath [0x61, 0x2f, 0x62]) j' = some (.str [1, 2]) :=
  ⟨_, rfl, rfl⟩

/-- a set leaves every other path as it was (other = the two paths separate at some key) -/
theorem C29_json_set_frame (ks ks' : List Key) (v j j' : J) (h : setPath ks v j = .ok j')
    (hd : diverge ks ks' = true) : getPath ks' j' = getPath ks' j :=
  getPath_setPath_frame ks ks' v j j' h hd

/-- Histories: after ANY sequence of successful sets whose paths are pairwise equal or separate
    (no path is a proper prefix of another), every path reads back the LAST value written to it. -/
theorem C29_json_history (ws : List (List Key × J)) (j j' : J) (h : applySets ws j = .ok j')
    (hd : ∀ a ∈ ws, ∀ b ∈ ws, a.1 = b.1 ∨ diverge a.1 b.1 = true)
    (ks : List Key) (v : J) (hl : lastWrite ks ws = some v) : getPath ks j' = some v := by
  obtain ⟨w, hw, rfl⟩ := lastWrite_mem hl
  rw [getPath_applySets _ ws j j' h fun a ha => hd a ha w hw, hl]
  rfl

example : ∃ j', applySets [([[1]], .null), ([[2]], .str [7]), ([[1]], .str [9])] .none = .ok j' ∧
    getPath [[1]] j' = some (.str [9]) ∧ getPath [[2]] j' = some (.str [7]) :=
  ⟨_, rfl, rfl, rfl⟩

/-- The same through a handle at ANY depth of a document (a handle obtained by any chain of
    occaJsonObjectGet / occaJsonArrayGet designates the node at `p`): after
    `occaJsonObjectSet(handle, path, v)` the value is found under `p ++ path` of the owning document,
    i.e. `occaJsonObjectGet(handle, path, …)` and a get from the owner both see it. -/
theorem C29_json_handle_set_get (doc doc' node node' : J) (p : List Step) (ks : List Key) (v : J)
    (hnode : resolve p doc = some node)
    (hset : setPath ks v (prepObject node) = .ok node')
    (hdoc : modifyAt p (fun _ => node') doc = some doc') :
    resolve (p ++ ks.map .key) doc' = some v := by
  rw [resolve_append, resolve_modifyAt p _ doc doc' hdoc, hnode]
  simp only [Option.map, Option.bind, resolve_keys]
  exact getPath_setPath ks v _ _ hset

/-- occaJsonArrayPush then occaJsonArrayGet(size-1) returns the pushed value; earlier places keep theirs -/
theorem C29_array_push_get (a : List J) (v : J) :
    (a ++ [v])[a.length]? = some v ∧ ∀ i, i < a.length → (a ++ [v])[i]? = a[i]? :=
  ⟨by simp, fun i hi => List.getElem?_append_left hi⟩

/-- histories of pushes: place `a.length + i` holds the i-th pushed value -/
theorem C29_array_history (a vs : List J) (i : Nat) :
    (vs.foldl (fun acc v => acc ++ [v]) a)[a.length + i]? = vs[i]? := by
  rw [List.foldl_append_eq_append, ← List.flatMap_def, List.flatMap_singleton',
    List.getElem?_append_right (Nat.le_add_right _ _), Nat.add_sub_cancel_left]

/-- occaJsonArrayGet past the end grows the array (a quirk of json::operator[]) but never changes
    what was stored; the new place is uninitialised, not a copy of anything -/
theorem C29_array_get_grows_keeps (a : List J) (n : Nat) :
    (∀ i, i < a.length → (growTo a n)[i]? = a[i]?) ∧ (a.length ≤ n → (growTo a n)[n]? = some .none) :=
  ⟨fun i hi => growTo_get a n i hi, growTo_target a n⟩

/-- occaJsonArrayInsert(i, v): place i holds v, places before keep their value, places after shift by one -/
theorem C29_array_insert (a : List J) (i : Nat) (v : J) (hi : i ≤ a.length) :
    (insertAt a i v)[i]? = some v ∧ (∀ k, k < i → (insertAt a i v)[k]? = a[k]?) ∧
    (∀ k, i ≤ k → (insertAt a i v)[k + 1]? = a[k]?) :=
  ⟨insertAt_get a i v hi, fun k hk => insertAt_before a i k v hk hi, fun k hk => insertAt_after a i k v hk hi⟩

/-- For every numeric scalar type the kernel receives exactly `sizeof(T)` bytes and they are the
    little-endian bytes of the C value (whatever the unused union bytes contained). -/
theorem C29_kernelarg_bytes (c : CTy) (hc : c ≠ .bool) (garbage v : Nat) :
    ∃ bs, kernelArgOf (ofScalar c garbage v) = .bytes bs ∧ bs.length = c.bytes ∧
      (∀ b ∈ bs, b < 256) ∧ fromLE bs = v % 2 ^ c.bits := by
  refine ⟨_, kernelArgOf_ofScalar c hc garbage v, leBytes_length _ _, leBytes_lt _ _, ?_⟩
  rw [fromLE_leBytes, argBits_of_ne_bool c hc, bits_eq, Nat.pow_mul]
  exact Nat.mod_mod _ _

/-- the same for every public integer/float constructor: the kernel gets the bytes of the C argument -/
theorem C29_kernelarg_public_ctor (k : Ctor) (hk : k ≠ .bool) (garbage v : Nat) :
    ∃ t bs, construct k garbage v = some t ∧ kernelArgOf t = .bytes bs ∧ bs.length = k.cParam.bytes ∧
      fromLE bs = v % 2 ^ k.cParam.bits := by
  have hc : k.cParam ≠ .bool := fun e => by cases k <;> cases e; exact hk rfl
  obtain ⟨bs, h1, h2, _, h4⟩ := C29_kernelarg_bytes k.cParam hc garbage v
  exact ⟨_, bs, C29_public_ctor_type k garbage v, h1, h2, h4⟩

/-- strings and structs are passed as the pointer with `value.bytes`; occaNull and occaPtr(NULL) as a null pointer -/
theorem C29_kernelarg_pointers (s : List Nat) (n : Nat) :
    kernelArgOf (occaString s) = .pointer (.str s) s.length ∧
    kernelArgOf (occaStruct n) = .pointer .opaque n ∧
    kernelArgOf occaNull = .nullPtr ∧ kernelArgOf (occaPtr true) = .nullPtr := by
  exact ⟨rfl, rfl, rfl, rfl⟩

/-- documented limit of the API: a bool (occaBool/occaTrue/occaFalse), like handles other than
    memory, is refused as kernel argument with an error — never passed with another value or size -/
theorem C29_kernelarg_bool_rejected (garbage v : Nat) :
    kernelArgOf (ofScalar .bool garbage v) = .error ∧ kernelArgOf occaUndefined = .error ∧ kernelArgOf occaDefault = .error := by
  refine ⟨rfl, rfl, rfl⟩

/-- Any C program (any history of create / struct copy / borrowed handle / API use / occaFree) that
    follows the ownership discipline on variable names — use only assigned, unretired variables;
    freeing an owning handle retires every variable that designates the same object, freeing a
    borrowed handle retires only that variable — never dereferences or deletes a freed object
    (no use after free, no double free) and never uses an unassigned variable. -/
theorem C29_handles_safe (ops : List HOp) (h : PState.init.wf ops = true) :
    ∀ o ∈ (HState.init.run ops).2, o = .ok := by
  rw [wf_eq_runP, Option.isSome_iff_exists] at h
  obtain ⟨p, hp⟩ := h
  exact (run_sim inv_init ops hp).2

/-- …and if every group of variables it created has been released at the end, no object is left
    allocated: nothing leaks. -/
theorem C29_handles_no_leak (ops : List HOp) (p : PState) (h : PState.init.runP ops = some p)
    (hall : ∀ g v, p.vars g = some v → p.released v.group = true) :
    ∀ o, (HState.init.run ops).1.alloc o = false := by
  intro o
  cases ha : (HState.init.run ops).1.alloc o with
  | false => rfl
  | true =>
    obtain ⟨s, v, hv, hr⟩ := (run_sim inv_init ops h).1.alloc_unreleased ha
    rw [hall s v hv] at hr
    cases hr

/-- occaJsonParse / occaJsonRead of a null document return occaNull, which designates no object:
    the heap json the entry point allocated is released on that path (generated from the source),
    so the machine's `create` is only ever performed for handles the program can free. -/
theorem C29_null_document_not_leaked : nullJsonFreesOwned = true := by decide

/-- The `create` and `borrow` steps of the machine are what src/c/json.cpp does (generated from the
    source): occaCreateJson / occaJsonParse return owning handles (needsFree), occaJsonObjectGet /
    occaJsonArrayGet return borrowed ones — freeing an element handle never deletes part of a document. -/
theorem C29_entry_point_ownership :
    createOwning = true ∧ parseOwning = true ∧ objectGetOwning = false ∧ arrayGetOwning = false ∧
    releases tagJson true = true ∧ releases tagJson false = false := by decide

/-- a non-trivial history satisfying the hypotheses: a json document, a borrowed child handle, a
    struct copy, frees of the borrowed handle and of the owner through its copy -/
example :
    let ops : List HOp := [.create 1 tagJson true, .borrow 2 1, .copy 3 1, .use 2, .free 2, .use 3, .free 3,
                           .create 4 tagDtype true, .use 4, .free 4]
    PState.init.wf ops = true ∧ (HState.init.run ops).2 = List.replicate 10 .ok := by
  decide

/-- the discipline is necessary: using the original after freeing through a copy is a use after
    free in the machine (and the discipline rejects that program) -/
example :
    let ops : List HOp := [.create 1 tagJson true, .copy 2 1, .free 2, .use 1]
    PState.init.wf ops = false ∧ (HState.init.run ops).2 = [.ok, .ok, .ok, .trap] := by
  decide

end Occa.CApi.C29
