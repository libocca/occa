/-
C02 — Device memory behaves like an aliased byte array; misuse raises errors.

Model: OccaModel/Mem.lean (the host backends' occa::memory / modeMemory_t / serial::buffer, repaired
code: fixes F03, F04, F35, F36, F37, F38).  Lemmas: OccaProofs/Lemmas/MemState.lean, MemFits.lean, MemOps.lean,
Mem.lean, MemBytes.lean, MemReject.lean.

Tie (T): C02_guards_as_modelled — the regenerated guard table of the C++ equals the transcribed one.

Statement of the property, clause by clause:
  (a) every read returns what a byte-array model predicts            C02_views_in_bounds, C02_handle_in_bounds,
      (reads/writes go to exactly the addressed bytes of the buffer)  C02_write_read, C02_copyTo_reads, C02_copy_moves_bytes,
                                                                      C02_writes_confined
  (b) slices and casts share their parent's bytes                     C02_slice_within_parent, C02_slice_alias, C02_cast_alias,
                                                                      C02_slice_write_parent_read, C02_parent_write_slice_read,
                                                                      C02_alias_persistent, C02_wrap_shares_host
  (c) clones do not                                                   C02_clone_fresh, C02_clone_isolated, C02_malloc_fresh
  (d) out-of-range / negative / uninitialised requests raise          C02_rejects_exactly_partial (full statement:
                                                                      C02_rejects_exactly_full, refuted by F05)
  (e) ... without modifying any memory                                C02_err_frame
  (f) ... and without crashing                                        C02_no_trap
-/
import OccaProofs.Lemmas.MemReject
import OccaProofs.Lemmas.MemBytes
import OccaProofs.Lemmas.MemGuards

namespace Occa.Mem.C02
open Occa.Mem

/-! ### tie: the model's guards are the guards of the current source -/

/-- The guard events (early returns, initialisation asserts, byte/offset computations, OCCA_ERROR
    conditions, memcpy/memmove) of every memory function, regenerated from /repo's current sources,
    are exactly — and in exactly the order — those the model was transcribed from; the OpenMP
    device still inherits the serial memory code. -/
theorem C02_guards_as_modelled :
    Occa.Gen.memGuards = guardsModelled ∧ Occa.Gen.ompUsesSerialMemory = true := ⟨rfl, rfl⟩

/-! ### (a) every view stays inside its buffer, over all histories -/

/-- Invariant over all histories: every `modeMemory_t` lies inside its buffer, every handle points
    to an existing `modeMemory_t`, the wrapped host arrays keep their length. -/
theorem C02_views_in_bounds (ops : List Op) : Inv (run init ops) := run_inv init_inv ops

/-- The same, read at a handle: whatever an initialised handle addresses is inside its buffer. -/
theorem C02_handle_in_bounds (ops : List Op) (x : Nat) (p : View) (h : view? (run init ops) x = some p) :
    ∃ b, (run init ops).bufs[p.buf]? = some b ∧ p.off + p.size ≤ b.length :=
  (C02_views_in_bounds ops).viewOk h

example : view? (run init [.malloc 0 4 4 none, .slice 1 0 1 2]) 1 = some ⟨2, 4, 8, 4⟩ := by decide

/-! ### (e) a request that raises modifies nothing (nor does one that traps: `step_frame`) -/

/-- Error results leave the whole state (all buffers, all views, all handles) unchanged. -/
theorem C02_err_frame (s : State) (op : Op) (e : Err) (h : (step s op).2 = .err e) : (step s op).1 = s :=
  step_frame (fun o ho => by rw [h] at ho; cases ho)

example : (step (run init [.malloc 0 4 4 none]) (.slice 1 0 3 2)).2 = .err .range := by decide

/-! ### (f) no history crashes -/

/-- No operation of any history traps, provided the caller's raw host pointers address arrays as
    long as the (in-range part of the) request — the only thing the API cannot check. -/
theorem C02_no_trap (ops : List Op) (hc : ContractAll init ops) : Res.trap ∉ results init ops :=
  results_noTrap init_inv hc

/-- One step, from any state satisfying the invariant. -/
theorem C02_no_trap_step (s : State) (h : Inv s) (op : Op) (hc : Contract s op) : (step s op).2 ≠ .trap :=
  step_noTrap h hc

example : ContractAll init [.malloc 0 4 4 none, .copyFromMem 0 1 1 0 0, .copyToMem 0 1 1 0 0, .slice 2 0 (-1) 1] :=
  ⟨trivial, trivial, trivial, trivial, trivial⟩

/-! ### (a) reads and writes address exactly the requested bytes of the buffer -/

/-- A successful `copyFrom(host pointer, count, offset)` through an initialised handle overwrites
    exactly the bytes `[offset, offset+count)` (in elements of the handle's dtype) of the handle's
    range with the host data; as seen through ANY view `q` (the handle itself, a parent, a slice,
    a cast, an unrelated memory) every other byte is unchanged. -/
theorem C02_write_read {s s' : State} (h : Inv s) {v : Nat} {p : View} {data : List UInt8} {cnt off : Int}
    {o : Option (List Byte)} (hp : view? s v = some p) (hs : step s (.copyFromHost v data cnt off) = (s', .ok o)) :
    ((p.esz : Int) * off).toNat + (countBytes p cnt).toNat ≤ p.size ∧
    ∀ (q : View) (j : Nat), byteAt s' q j =
      if q.buf = p.buf ∧ p.off + ((p.esz : Int) * off).toNat ≤ q.off + j ∧
          q.off + j < p.off + ((p.esz : Int) * off).toNat + (countBytes p cnt).toNat
      then (data[q.off + j - (p.off + ((p.esz : Int) * off).toNat)]?).map some else byteAt s q j := by
  obtain ⟨hf, hl, b, hb, rfl⟩ := copyFromHost_ok hp hs
  have hin := (h.viewOk hp).le hb
  have hbd := hf.bounds
  have hlen := length_take_map_some hl
  refine ⟨hbd.2.2, fun q j => ?_⟩
  rw [byteAt_setBuf_writeAt hb (by omega), hlen]
  split
  · have : q.off + j - (p.off + ((p.esz : Int) * off).toNat) < (countBytes p cnt).toNat := by omega
    simp only [List.getElem?_map, List.getElem?_take, this, if_true]
  · rfl

example : (step (run init [.malloc 0 4 1 none, .slice 1 0 1 2]) (.copyFromHost 1 [7, 8] 2 0)).2 = .ok none := by decide

/-- A successful `copyTo(host pointer, count, offset)` changes nothing and returns exactly the
    bytes `[offset, offset+count)` of the handle's range. -/
theorem C02_copyTo_reads {s s' : State} (h : Inv s) {v cap : Nat} {p : View} {cnt off : Int}
    {o : Option (List Byte)} (hp : view? s v = some p) (hs : step s (.copyToHost v cap cnt off) = (s', .ok o)) :
    s' = s ∧ ∃ out, o = some out ∧ out.length = (countBytes p cnt).toNat ∧
      ((p.esz : Int) * off).toNat + out.length ≤ p.size ∧
      ∀ k, k < out.length → out[k]? = byteAt s p (((p.esz : Int) * off).toNat + k) := by
  obtain ⟨rfl, hf, _, b, hb, rfl⟩ := copyToHost_ok hp hs
  have hin := (h.viewOk hp).le hb
  have hbd := hf.bounds
  have hlen : (readAt b (p.off + ((p.esz : Int) * off).toNat) (countBytes p cnt).toNat).length =
      (countBytes p cnt).toNat := readAt_length (by omega)
  refine ⟨rfl, _, rfl, hlen, by omega, fun k hk => ?_⟩
  rw [getElem?_readAt (by omega)]
  unfold byteAt
  rw [hb, Nat.add_assoc]
  rfl

example : (step (run init [.malloc 0 2 1 (some [5, 6]), .slice 1 0 1 1]) (.copyToHost 1 1 1 0)).2 = .ok (some [some 6]) := by
  decide

/-- A successful device-to-device `d.copyFrom(src, count, destOffset, srcOffset)` moves the bytes the
    source range held before the call into the destination range (also when the two ranges overlap
    inside one buffer) and changes no other byte of any view. -/
theorem C02_copy_moves_bytes {s : State} (h : Inv s) {d src : Nat} {cnt doff soff : Int} {dv sv : View}
    {o : Option (List Byte)} (hd : view? s d = some dv) (hsv : view? s src = some sv)
    (hok : (step s (.copyFromMem d src cnt doff soff)).2 = .ok o) :
    ((sv.esz : Int) * soff).toNat + (countBytes dv cnt).toNat ≤ sv.size ∧
    ((dv.esz : Int) * doff).toNat + (countBytes dv cnt).toNat ≤ dv.size ∧
    ∀ (q : View) (j : Nat), byteAt (step s (.copyFromMem d src cnt doff soff)).1 q j =
      if q.buf = dv.buf ∧ dv.off + ((dv.esz : Int) * doff).toNat ≤ q.off + j ∧
          q.off + j < dv.off + ((dv.esz : Int) * doff).toNat + (countBytes dv cnt).toNat
      then byteAt s sv (((sv.esz : Int) * soff).toNat + (q.off + j - (dv.off + ((dv.esz : Int) * doff).toNat)))
      else byteAt s q j := by
  simp only [step, doCopyFromMem, hd, hsv] at hok ⊢
  cases hcg : copyGuards dv dv sv cnt doff soff with
  | error e => rw [hcg] at hok; cases hok
  | ok t =>
    obtain ⟨fd, fs, rfl⟩ := copyGuards_ok_iff.mp hcg
    have g1 := fs.bounds.2.2
    have g2 := fd.bounds.2.2
    exact ⟨g1, g2, fun q j => copyBytes_spec (h.viewOk hd) (h.viewOk hsv) g1 g2 q j⟩

example : results init [.malloc 0 4 1 (some [1, 2, 3, 4]), .copyFromMem 0 0 3 1 0, .copyToHost 0 4 (-1) 0] =
    [.ok none, .ok none, .ok (some [some 1, some 1, some 2, some 3])] := by decide

/-- Memory safety of the model, for EVERY operation: a byte of an existing buffer that lies outside
    the range of the handle written through (`Dest`: the receiver of `copyFrom`, the destination of a
    device-to-device copy; no handle at all for every other operation) keeps its value.  So neither a
    copy nor slice / cast / clone / malloc / free / setDtype can modify memory it was not pointed at. -/
theorem C02_writes_confined {s : State} (h : Inv s) (op : Op) (hop : ∀ hb off data, op ≠ .hostWrite hb off data)
    (q : View) (j : Nat) (hq : q.buf < s.bufs.length)
    (hout : ∀ p, Dest s op = some p → q.buf ≠ p.buf ∨ q.off + j < p.off ∨ p.off + p.size ≤ q.off + j) :
    byteAt (step s op).1 q j = byteAt s q j :=
  step_writes_confined h op hop q j hq hout

example : Dest (run init [.malloc 0 4 1 none, .malloc 1 4 1 none]) (.copyFromMem 1 0 4 0 0) = some ⟨3, 0, 4, 1⟩ := by decide

/-! ### (b) slices, offsets and casts share their parent's bytes -/

/-- A successful `d = src.slice(off, cnt)` (or `src + off`, `cnt = -1`) yields a view of the same
    buffer, `off` whole elements into the parent, and INSIDE the handle it was taken from — never
    before its start (F04), never past its end. -/
theorem C02_slice_within_parent {s : State} {d src : Nat} {off cnt : Int} {p : View} {o : Option (List Byte)}
    (hp : view? s src = some p) (hok : (step s (.slice d src off cnt)).2 = .ok o) :
    ∃ c, view? (step s (.slice d src off cnt)).1 d = some c ∧ c.buf = p.buf ∧ c.esz = p.esz ∧ 0 ≤ off ∧
      (c.off : Int) = p.off + (p.esz : Int) * off ∧ p.off ≤ c.off ∧ c.off + c.size ≤ p.off + p.size ∧
      (c.size : Int) = (p.esz : Int) * (if cnt = -1 then p.len - off else cnt) := by
  obtain ⟨c, hsv, hc, _⟩ := slice_ok hp (Prod.ext rfl hok)
  obtain ⟨h1, h2, h3, h4, h5, h6⟩ := sliceView_ok hsv
  have : 0 ≤ (p.esz : Int) * off := Int.mul_nonneg (Int.natCast_nonneg _) h3
  exact ⟨c, hc, h1, h2, h3, h4, by omega, h5, h6⟩

/-- ... and therefore reads the parent's bytes: in EVERY state, byte `j` of the slice is byte
    `esz*off + j` of the parent (a write through one is read through the other, both ways). -/
theorem C02_slice_alias {s : State} {d src : Nat} {off cnt : Int} {p : View} {o : Option (List Byte)}
    (hp : view? s src = some p) (hok : (step s (.slice d src off cnt)).2 = .ok o) :
    ∃ c, view? (step s (.slice d src off cnt)).1 d = some c ∧
      ∀ (t : State) (j : Nat), byteAt t c j = byteAt t p (((p.esz : Int) * off).toNat + j) := by
  obtain ⟨c, hc, hb, _, h0, ho, _, _, _⟩ := C02_slice_within_parent hp hok
  have : 0 ≤ (p.esz : Int) * off := Int.mul_nonneg (Int.natCast_nonneg _) h0
  exact ⟨c, hc, fun t j => byteAt_alias t hb (by omega) j⟩

example : view? (step (run init [.malloc 0 8 2 none, .slice 1 0 2 5]) (.slice 2 1 1 (-1))).1 2 = some ⟨2, 6, 8, 2⟩ := by
  decide

/-- End to end: take a slice `d = src.slice(off, cnt)`, write `k` elements at element `i` through the
    slice, then read `k` elements at element `off + i` through the PARENT: the read succeeds and
    returns exactly the bytes written. -/
theorem C02_slice_write_parent_read {s s1 s2 : State} (h : Inv s) {d src cap : Nat} {off cnt k i : Int} {p : View}
    {data : List UInt8} {o1 o2 : Option (List Byte)}
    (hp : view? s src = some p) (hne : src ≠ d) (hk : k ≠ -1)
    (h1 : step s (.slice d src off cnt) = (s1, .ok o1))
    (h2 : step s1 (.copyFromHost d data k i) = (s2, .ok o2))
    (hcap : ((p.esz : Int) * k).toNat ≤ cap) :
    step s2 (.copyToHost src cap k (off + i)) =
      (s2, .ok (some ((data.take ((p.esz : Int) * k).toNat).map some))) := by
  obtain ⟨c, hsv, hc, hi⟩ := slice_ok hp h1
  obtain ⟨hi1, hp1⟩ := hi h
  obtain ⟨hf, _, b, _, hs2⟩ := copyFromHost_ok hc h2
  obtain ⟨hcb, hcp, hpos, hfp⟩ := fits_of_slice hsv hk hf
  have hp2 : view? s2 src = some p := by rw [hs2]; exact hp1 hne
  have := read_after_write hi1 hc hp2 h2 (sliceView_ok hsv).1.symm (hcp.trans hcb.symm) hpos.symm hfp
    (by rw [hcb]; exact hcap)
  rwa [hcb] at this

example : results init [.malloc 0 4 2 (some [1, 2, 3, 4, 5, 6, 7, 8]), .slice 1 0 1 2, .copyFromHost 1 [9, 9] 1 1, .copyToHost 0 2 1 2] =
    [.ok none, .ok none, .ok none, .ok (some [some 9, some 9])] := by decide

/-- ... and the other way round: write `k` elements at element `off + i` through the PARENT, read `k`
    elements at element `i` through the slice: a successful read returns exactly the bytes written. -/
theorem C02_parent_write_slice_read {s s1 s2 s3 : State} (h : Inv s) {d src cap : Nat} {off cnt k i : Int} {p : View}
    {data : List UInt8} {o1 o2 o3 : Option (List Byte)}
    (hp : view? s src = some p) (hne : src ≠ d) (hk : k ≠ -1)
    (h1 : step s (.slice d src off cnt) = (s1, .ok o1))
    (h2 : step s1 (.copyFromHost src data k (off + i)) = (s2, .ok o2))
    (h3 : step s2 (.copyToHost d cap k i) = (s3, .ok o3)) :
    o3 = some ((data.take ((p.esz : Int) * k).toNat).map some) := by
  obtain ⟨c, hsv, hc, hi⟩ := slice_ok hp h1
  obtain ⟨hi1, hp1⟩ := hi h
  obtain ⟨_, _, b, _, hs2⟩ := copyFromHost_ok (hp1 hne) h2
  have hc2 : view? s2 d = some c := by rw [hs2]; exact hc
  obtain ⟨_, hfc, hcap, _⟩ := copyToHost_ok hc2 h3
  obtain ⟨hcb, hcp, hpos, _⟩ := fits_of_slice hsv hk hfc
  have := read_after_write hi1 (hp1 hne) hc2 h2 (sliceView_ok hsv).1 (hcb.trans hcp.symm) hpos hfc
    (by rw [hcp, ← hcb]; exact hcap)
  rw [h3, hcp] at this
  exact (Res.ok.inj (Prod.mk.inj this).2)

/-- A successful `d = src.cast(dtype)` yields a view of the same bytes (the whole elements of the
    source dtype), only the element size differs. -/
theorem C02_cast_alias {s : State} {d src e : Nat} {p : View} {o : Option (List Byte)}
    (hp : view? s src = some p) (hok : (step s (.cast d src e)).2 = .ok o) :
    ∃ c, view? (step s (.cast d src e)).1 d = some c ∧ c.buf = p.buf ∧ c.off = p.off ∧ c.esz = e ∧
      (c.size : Int) = (p.esz : Int) * p.len ∧ c.size ≤ p.size ∧
      ∀ (t : State) (j : Nat), byteAt t c j = byteAt t p j := by
  obtain ⟨_, _, _, ⟨p', c, hp', hsv, rfl⟩, _, hc, _⟩ := assignTo_new (castExpr_yields s src e) id hok
  rw [hp] at hp'; cases hp'
  obtain ⟨h1, h2, h3, h4, h5, h6⟩ := sliceView_ok hsv
  simp only [if_true, Int.mul_zero, Int.add_zero, Int.sub_zero] at h4 h6
  have ho : c.off = p.off := by omega
  refine ⟨{ c with esz := e }, hc, h1, ho, rfl, h6, by simp only []; omega, fun t j => ?_⟩
  have := byteAt_alias t (c := { c with esz := e }) (p := p) (k := 0) h1 (by simp only []; omega) j
  simpa using this

example : view? (step (run init [.malloc 0 10 1 none, .cast 1 0 4]) (.cast 2 1 1)).1 2 = some ⟨2, 0, 8, 1⟩ := by decide

/-- `modeMemory_t` objects are never moved or resized: an aliasing relation between two of them
    (same buffer, `k` bytes apart) holds after every later history, whatever happens to the handle
    variables, dtypes and contents. -/
theorem C02_alias_persistent {s : State} {mc mp : Nat} {c p : View} {k : Nat}
    (hc : s.mems[mc]? = some c) (hp : s.mems[mp]? = some p) (hb : c.buf = p.buf) (ho : c.off = p.off + k)
    (ops : List Op) :
    ∃ c' p', (run s ops).mems[mc]? = some c' ∧ (run s ops).mems[mp]? = some p' ∧
      c'.size = c.size ∧ p'.size = p.size ∧
      ∀ j, byteAt (run s ops) c' j = byteAt (run s ops) p' (k + j) := by
  obtain ⟨c', hc', e1, e2, e3⟩ := run_memsLe s ops mc c hc
  obtain ⟨p', hp', f1, f2, f3⟩ := run_memsLe s ops mp p hp
  exact ⟨c', p', hc', hp', e3, f3, fun j => byteAt_alias _ (by rw [e1, f1, hb]) (by rw [e2, f2, ho]) j⟩

/-! ### (c) clones do not share -/

/-- A successful `d = src.clone()` of a non-empty memory yields a view that sits alone in a FRESH
    buffer (no existing `modeMemory_t` refers to it), has the source's size and dtype, holds a copy
    of the source's bytes, and leaves every byte of every older buffer as it was. -/
theorem C02_clone_fresh {s : State} (h : Inv s) {d src : Nat} {p : View} {o : Option (List Byte)}
    (hp : view? s src = some p) (hz : p.size ≠ 0) (hok : (step s (.clone d src)).2 = .ok o) :
    ∃ c, view? (step s (.clone d src)).1 d = some c ∧ c.buf = s.bufs.length ∧ c.off = 0 ∧
      c.size = p.size ∧ c.esz = p.esz ∧
      (∀ (m : Nat) (v : View), s.mems[m]? = some v → v.buf ≠ c.buf) ∧
      (∀ j, j < p.size → byteAt (step s (.clone d src)).1 c j = byteAt s p j) ∧
      (∀ (q : View), q.buf < s.bufs.length → ∀ j, byteAt (step s (.clone d src)).1 q j = byteAt s q j) := by
  obtain ⟨s1, c, hx, ⟨p', hp', rfl, hb⟩, hst, hc, _⟩ :=
    assignTo_new (cloneExpr_yields s src) (fun hN => hz (hN p hp)) hok
  rw [hp] at hp'; cases hp'
  have hk : ((p.size : Int) * ((1 : Nat) : Int)).toNat = p.size := by omega
  rw [hst] at hc
  rw [show (step s (.clone d src)).1 = setVar s1 d (some s.mems.length) from hst]
  exact ⟨{ rootView s (p.size : Int) 1 with esz := p.esz }, hc, rfl, rfl, hk, rfl,
    fun m v hv hb => absurd (h.buf_lt hv) (by rw [hb]; exact Nat.lt_irrefl _), fun j hj => hb h j hj,
    fun q hq j => byteAt_kept hx.bufs hq j⟩

example : results init [.malloc 0 2 2 (some [1, 2, 3, 4]), .clone 1 0, .copyFromHost 0 [9, 9] 1 0, .copyToHost 1 4 (-1) 0] =
    [.ok none, .ok none, .ok none, .ok (some [some 1, some 2, some 3, some 4])] := by decide

/-- Consequently writes do not cross between a clone and its source (or anything else): a write
    through a handle whose buffer differs from a view's buffer leaves every byte of that view. -/
theorem C02_clone_isolated {s s' : State} (h : Inv s) {v : Nat} {p c : View} {data : List UInt8} {cnt off : Int}
    {o : Option (List Byte)} (hp : view? s v = some p) (hne : c.buf ≠ p.buf)
    (hs : step s (.copyFromHost v data cnt off) = (s', .ok o)) (j : Nat) : byteAt s' c j = byteAt s c j := by
  rw [(C02_write_read h hp hs).2 c j, if_neg (fun hx => hne hx.1)]

/-! ### fresh allocations and wrapped host arrays -/

/-- A successful non-empty `malloc(n, dtype, ptr)` yields a view that sits alone in a fresh buffer
    holding the caller's `n·esz` initial bytes (indeterminate bytes when no pointer is given); no
    older buffer changes. -/
theorem C02_malloc_fresh {s : State} (h : Inv s) {v : Nat} {n : Int} {e : Nat} {data : Option (List UInt8)}
    {o : Option (List Byte)} (hn : n ≠ 0) (hok : (step s (.malloc v n e data)).2 = .ok o) :
    ∃ c, view? (step s (.malloc v n e data)).1 v = some c ∧ c.buf = s.bufs.length ∧ c.off = 0 ∧
      (c.size : Int) = n * (e : Int) ∧ c.esz = e ∧
      (∀ (m : Nat) (w : View), s.mems[m]? = some w → w.buf ≠ c.buf) ∧
      (data = none → bytesOf (step s (.malloc v n e data)).1 c = List.replicate c.size none) ∧
      (∀ dt, data = some dt → bytesOf (step s (.malloc v n e data)).1 c = (dt.take c.size).map some) ∧
      (∀ (q : View), q.buf < s.bufs.length → ∀ j, byteAt (step s (.malloc v n e data)).1 q j = byteAt s q j) := by
  obtain ⟨s1, c, hx, ⟨_, hnn, rfl, hb, hl⟩, hst, hc, _⟩ := assignTo_new (mallocExpr_yields s n e data) hn hok
  rw [hst] at hc
  rw [show (step s (.malloc v n e data)).1 = setVar s1 v (some s.mems.length) from hst]
  have hbytes : bytesOf (setVar s1 v (some s.mems.length)) (rootView s n e) = initBytes (n * (e : Int)).toNat data :=
    bytesOf_whole hb rfl hl
  refine ⟨rootView s n e, hc, rfl, rfl, Int.toNat_of_nonneg hnn, rfl,
    fun m w hw hb => absurd (h.buf_lt hw) (by rw [hb]; exact Nat.lt_irrefl _), ?_, ?_,
    fun q hq j => byteAt_kept hx.bufs hq j⟩
  · rintro rfl; rw [hbytes]; rfl
  · rintro dt rfl; rw [hbytes]; rfl

/-- A successful `wrapMemory(ptr, n, dtype)` yields a view of the caller's own array from its first
    byte: the memory and the array are the same bytes (a `hostWrite` is read through the handle and
    a `copyFrom` through the handle is seen by the caller). -/
theorem C02_wrap_shares_host {s : State} {v hb : Nat} {n : Int} {e : Nat} {o : Option (List Byte)}
    (hok : (step s (.wrap v hb n e)).2 = .ok o) :
    ∃ c, view? (step s (.wrap v hb n e)).1 v = some c ∧ c.buf = hb ∧ c.off = 0 ∧
      (c.size : Int) = n * (e : Int) ∧ c.esz = e ∧ hb < nHostBufs := by
  obtain ⟨_, _, _, ⟨rfl, hnn, hlt⟩, _, hc, _⟩ := assignTo_new (wrapExpr_yields s hb n e) id hok
  exact ⟨_, hc, rfl, rfl, Int.toNat_of_nonneg hnn, rfl, hlt⟩

example : view? (run init [.wrap 0 1 4 2]) 0 = some ⟨1, 0, 8, 2⟩ := by decide

/-! ### (d) exactly the invalid requests are rejected -/

/-- Full statement: an operation raises iff the request is negative, out of the range of a handle
    it names, or names an uninitialised handle. -/
def C02_rejects_exactly_full : Prop :=
  ∀ (s : State) (op : Op), Inv s → EszPos s → op.wf → (Rejected s op ↔ Invalid s op)

/-- Refuted by the current code (finding F05): `memory().slice(0, 1)` returns an uninitialised
    memory instead of raising. -/
theorem C02_rejects_exactly_full_fails : ¬ C02_rejects_exactly_full := by
  intro hf
  have := (hf init (.slice 0 1 0 1) init_inv init_eszPos trivial).mpr trivial
  obtain ⟨e, he⟩ := this
  cases he

/-- Strongest true restriction: outside the early-return shapes of F05 (`Silent`: the receiver of
    slice / + / clone / host copy is uninitialised, or both operands of a device-to-device copy are),
    an operation raises iff the request is invalid.  In particular a negative offset or count, a
    range past the end of the handle, a one-sided uninitialised copy, cast/setDtype of an
    uninitialised handle are all rejected, and nothing valid is. -/
theorem C02_rejects_exactly_partial (s : State) (op : Op) (h : Inv s) (hp : EszPos s) (hw : op.wf)
    (hs : ¬ Silent s op) : Rejected s op ↔ Invalid s op :=
  step_rejected_iff hp hw hs

/-- The same along any history from the initial state. -/
theorem C02_rejects_exactly_history (ops : List Op) (hws : ∀ o ∈ ops, o.wf) (op : Op) (hw : op.wf)
    (hs : ¬ Silent (run init ops) op) : Rejected (run init ops) op ↔ Invalid (run init ops) op :=
  step_rejected_iff (run_eszPos init_eszPos hws) hw hs

example : ¬ Silent (run init [.malloc 0 4 4 none, .slice 1 0 2 2]) (.slice 2 1 (-1) 1) ∧
    Invalid (run init [.malloc 0 4 4 none, .slice 1 0 2 2]) (.slice 2 1 (-1) 1) := by
  constructor
  · intro h
    have h' : view? (run init [.malloc 0 4 4 none, .slice 1 0 2 2]) 1 = none := h
    revert h'; decide
  · show sliceBad _ _ _; left; decide

/-- Inside the F05 region the operation is a no-op on memory: no buffer and no `modeMemory_t`
    changes (the assigned handle, if any, becomes uninitialised). -/
theorem C02_silent_is_noop (s : State) (op : Op) (hs : Silent s op) :
    (step s op).2 = .ok none ∧ (step s op).1.bufs = s.bufs ∧ (step s op).1.mems = s.mems := by
  cases op with
  | slice d src off cnt =>
    have hv : view? s src = none := hs
    simp [step, doSlice, sliceExpr, hv, assignTo, setVar]
  | clone d src =>
    have hv : view? s src = none := hs
    simp [step, doClone, cloneExpr, hv, assignTo, setVar]
  | copyFromHost v data cnt off =>
    have hv : view? s v = none := hs
    simp [step, doCopyFromHost, hv]
  | copyToHost v cap cnt off =>
    have hv : view? s v = none := hs
    simp [step, doCopyToHost, hv]
  | copyFromMem d src cnt doff soff =>
    have hv : view? s d = none ∧ view? s src = none := hs
    simp [step, doCopyFromMem, hv.1, hv.2]
  | copyToMem src d cnt doff soff =>
    have hv : view? s src = none ∧ view? s d = none := hs
    simp [step, doCopyToMem, hv.1, hv.2]
  | _ => exact absurd hs id

end Occa.Mem.C02
