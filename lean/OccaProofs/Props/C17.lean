/-
C17 — every backend visits exactly the iterations of each OKL loop.

Model: OccaModel/Loop.lean (numbers), OccaModel/LoopExpr.lean (trees and their printed text).
Clauses of the property:
  (a) launcher backends: the launch size and the index→iterator map reproduce the sequential loop's
      iterator values, each once, for every comparison / operand order / update form / positive step and
      for every operand value incl. empty and "negative" ranges           C17_launch_eq_seq, C17_each_once,
                                                                             C17_empty_range, C17_nest
  (b) Serial/OpenMP keep the loop                                          C17_kept_loop
  (c) operands are used as complete expressions whatever operators they contain
                                                                            C17_count_expr_value, C17_value_expr_value,
                                                                            C17_count_expr_faithful, C17_value_expr_faithful
                                                                            (+ C17_count_expr_old_misread: the tree built
                                                                            before fix F23)
  recorded finding that restricts (a): F72 (`long` iterators on 32-bit-unsigned thread indices): `_full`,
  `_full_fails`, `_partial`.  F70 (comparison and update direction disagree) is fixed: the translators reject
  such headers (C17_valid_enforced, C17_invalid_direction_rejected); C17_direction_full_fails keeps the witness.
-/
import OccaProofs.Lemmas.ExprCount
import OccaProofs.Lemmas.ExprGrammar

namespace Occa.Loop.C17
open Occa Occa.Loop Occa.LoopExpr

/-- Fuel: the sequential loop of the model is the C loop — running it with *any* larger amount of fuel
    gives the same list, so `seqIters` is not an artefact of the fuel bound. -/
theorem C17_seq_fuel (h : Header) (hv : h.Valid) (hs : 0 < h.step) (n : Nat) (hn : h.fuel ≤ n) :
    runFuel h n h.init = seqIters h :=
  (runFuel_closed h hv hs n (Nat.le_trans (count_le_fuel h hs) hn)).trans (seqIters_closed h hv hs).symm

example : (⟨3, 17, .le, true, .addEq 4⟩ : Header).Valid ∧ 0 < (⟨3, 17, .le, true, .addEq 4⟩ : Header).step := by decide

/-- (a) The threads launched for an OKL loop compute exactly the iterator values of the sequential loop,
    in index order: for all integer `init`, `bound`, all four comparisons, both operand orders,
    `++ -- += -=` with any positive step, whether the range is non-empty, empty or negative. -/
theorem C17_launch_eq_seq (h : Header) (hv : h.Valid) (hs : 0 < h.step) (hr : h.DimInRange) :
    launchIters h = seqIters h :=
  launchIters_eq_seq h hv hs hr

example : launchIters ⟨7, -2, .ge, true, .subEq 3⟩ = [7, 4, 1, -2] := by decide
example : launchIters ⟨0, -5, .lt, true, .addEq 3⟩ = [] ∧ count ⟨0, -5, .lt, true, .addEq 3⟩ = -1 := by decide

/-- (a) "each once": the sequential loop never takes a value twice, hence neither does the launch. -/
theorem C17_each_once (h : Header) (hv : h.Valid) (hs : 0 < h.step) : (seqIters h).Nodup :=
  seqIters_nodup h hv hs

example : (⟨10, 1, .gt, false, .subEq 4⟩ : Header).Valid = False ∧ (⟨10, 1, .lt, false, .subEq 4⟩ : Header).Valid ∧
    seqIters ⟨10, 1, .lt, false, .subEq 4⟩ = [10, 6, 2] ∧ (⟨10, 1, .lt, false, .subEq 4⟩ : Header).DimInRange := by decide

/-- (a) run-time bounds that make the loop empty — by any amount — launch nothing. -/
theorem C17_empty_range (h : Header) (hv : h.Valid) (hs : 0 < h.step) (hr : h.DimInRange)
    (hempty : h.test h.init = false) : launchIters h = [] := by
  rw [C17_launch_eq_seq h hv hs hr]
  unfold seqIters Header.fuel runFuel
  simp [hempty]

example : (⟨0, -100, .lt, true, .addEq 3⟩ : Header).test 0 = false := by decide

/-- (a) a perfect nest of independent OKL loops: the launch (one dimension per loop, suppressed as a whole
    when any dimension is noop) visits the iterator tuples of the sequential nest, in the same order. -/
theorem C17_nest (hs : List Header) (hok : ∀ h ∈ hs, h.Valid ∧ 0 < h.step ∧ h.DimInRange) :
    launchNest hs = seqNest hs := by
  unfold launchNest
  induction hs with
  | nil => rfl
  | cons h r ih =>
    obtain ⟨⟨v, s, d⟩, hr⟩ := List.forall_mem_cons.mp hok
    rw [seqNest, ← C17_launch_eq_seq h v s d, ← ih hr, launchIters, launched, List.any_cons]
    cases isNoopDim (toUDim (count h))
    · -- this dimension is launched as it is; a noop dimension further in empties the sequential nest as well
      rw [Bool.false_or, if_neg Bool.false_ne_true]
      split
      · simp
      · rfl
    · rfl

example : launchNest [⟨0, 2, .lt, true, .inc⟩, ⟨5, 3, .gt, true, .dec⟩] = [[0, 5], [0, 4], [1, 5], [1, 4]] := by decide

/-- (b) Serial and OpenMP print the loop header they were given (attributes dropped), so the C++ compiler
    runs the original sequential loop. -/
theorem C17_kept_loop (l : LoopSpec) : hostLines false [.loop l] false = [forText l] := rfl

/-! ### (c) operands as complete expressions -/

/-- The count tree evaluates to the model's `count` of the evaluated header, whatever the operand
    expressions are (tree level: grouping is what the tree says). -/
theorem C17_count_expr_value (l : LoopSpec) (env : String → Int) :
    eval env (countExpr l) = count (l.header env) := by
  rw [countExpr_eq]
  refine eval_divStep l env ?_
  rw [Header.span, ← eval_larger, ← eval_smaller, header_inclusive]
  split <;> simp [eval]

/-- Same for the iterator reconstruction `(init) ± ((s) * (index))`. -/
theorem C17_value_expr_value (l : LoopSpec) (env : String → Int) (magic : String) :
    eval env (valueExpr l magic) = valueOf (l.header env) (env magic) := by
  rw [valueOf_eq, Header.adv, header_positiveUpdate, header_step, valueExpr]
  cases l.step <;> cases l.positive <;> simp [eval, LoopSpec.header]

/-- The printer adds no parentheses, so what the backend compiler reads is decided by the C expression
    grammar (`Derives`, OccaProofs/Lemmas/ExprGrammar.lean: the stratified grammar over the precedence
    table regenerated from operator.cpp, which `occa_prec_is_cxx` shows to be the C++ one).
    For operand expressions of *every* operator class — they only have to be `Grouped` themselves, as
    everything the OKL parser produced is — the text emitted for a launch dimension is the rendering of a
    token sequence that the grammar derives as a tree `r` whose value is the model's `count`. -/
theorem C17_count_expr_faithful (l : LoopSpec) (hi : Grouped l.init) (hb : Grouped l.bound)
    (hst : ∀ s, l.step = some s → Grouped s) :
    ∃ (r : Expr) (ts : List Tok), renderAll ts = print (countExpr l) ∧ Derives 16 ts r ∧
      ∀ env, eval env r = count (l.header env) := by
  obtain ⟨ts, h1, h2⟩ := grouped_reads (countRead l) (countRead_grouped l hi hb hst)
  exact ⟨countRead l, ts, by rw [h1, countRead_print], h2, countRead_value l⟩

example : Grouped (.bin "|" (.var "a") (.tern (.var "c") (.lit 1) (.lit 2))) = False := by decide
example : Grouped (.tern (.bin "&" (.var "a") (.var "b")) (.lit 1) (.bin "||" (.var "c") (.var "a"))) := by decide

/-- The iterator reconstruction `(init) ± ((s) * (index))` is read as built. -/
theorem C17_value_expr_faithful (l : LoopSpec) (magic : String) (hi : Grouped l.init)
    (hst : ∀ s, l.step = some s → Grouped s) :
    ∃ ts : List Tok, renderAll ts = print (valueExpr l magic) ∧ Derives 16 ts (valueExpr l magic) := by
  apply grouped_reads
  have hm : Fits 3 (wrap (.var magic)) := fits_wrap rfl
  unfold valueExpr
  cases hstep : l.step with
  | none => exact (fits_bin _ (prec_pm l.positive) (fits_wrap hi).mono hm.mono).grouped
  | some s =>
    exact (fits_bin _ (prec_pm l.positive) (fits_wrap hi).mono
      (fits_wrap (fits_bin "*" prec_mul (fits_wrap (hst s hstep)).mono hm.mono).grouped).mono).grouped

/-- Before fix F23 (`bound` pasted without parentheses) the text for `for (o = N; o > a + b; --o)` was
    `N - a + b`: the grammar derives it as `(N - a) + b`, whose value differs from the count
    (N = 9, a = 2, b = 3: 10 work-groups for 4 iterations). -/
theorem C17_count_expr_old_misread :
    let l : LoopSpec := { var := "o", attr := .outer, index := none, ityp := "int", init := .var "N", cmp := .gt,
                          boundOnRight := true, bound := .bin "+" (.var "a") (.var "b"), positive := false,
                          post := false, step := none }
    let r : Expr := .bin "+" (.bin "-" (.var "N") (.var "a")) (.var "b")
    let env : String → Int := fun n => if n = "N" then 9 else if n = "a" then 2 else 3
    (∃ ts, renderAll ts = print (countExprOld l) ∧ Derives 16 ts r) ∧ eval env r = 10 ∧ count (l.header env) = 4 := by
  intro l r env
  obtain ⟨ts, h1, h2⟩ := grouped_reads r (by decide)
  exact ⟨⟨ts, h1.trans (by decide), h2⟩, by decide, by decide⟩

/-- F72: with a `long` iterator on CUDA/HIP/Metal the reconstruction is evaluated in `unsigned int`. -/
def C17_u32_long_full : Prop :=
  ∀ h : Header, h.Valid → 0 < h.step → h.DimInRange → launchItersU32 h = seqIters h

theorem C17_u32_long_full_fails : ¬ C17_u32_long_full := by
  intro hf
  have := hf ⟨-2, 1, .lt, true, .inc⟩ (by decide) (by decide) (by decide)
  revert this
  decide

/-- … it is right exactly when every visited value is a non-negative 32-bit number. -/
theorem C17_u32_long_partial (h : Header) (hv : h.Valid) (hs : 0 < h.step) (hr : h.DimInRange)
    (hnn : ∀ x ∈ seqIters h, 0 ≤ x ∧ x < 4294967296) : launchItersU32 h = seqIters h := by
  rw [← C17_launch_eq_seq h hv hs hr] at hnn ⊢
  refine List.map_congr_left fun k hk => ?_
  obtain ⟨h0, h1⟩ := hnn _ (List.mem_map_of_mem hk)
  exact Int.emod_eq_of_lt h0 h1

/-- Since fix F70 the `oklForStatement` constructor rejects every header whose update moves away from the bound:
    the translators accept a header only if its evaluated form is `Valid`, for every operand value.  So the
    hypothesis `Valid` of `C17_launch_eq_seq` holds of every loop that is translated at all. -/
theorem C17_valid_enforced (l : LoopSpec) (env : String → Int) :
    directionOk l = true ↔ (l.header env).Valid := by
  have hu : directionOk l = ((l.header env).upward == l.positive) := by
    rw [directionOk, Header.upward, LoopSpec.header]
    cases l.cmp <;> cases l.boundOnRight <;> rfl
  rw [Header.Valid, header_positiveUpdate, hu, beq_iff_eq]

theorem C17_invalid_direction_rejected (l : LoopSpec) (t : Option TileSpec) (h : directionOk l = false)
    (hokl : l.attr ≠ .none) : nestRejected [(l, t)] = true := by
  simp [nestRejected, loopRejected, h, hokl]

/-- F70 (before the fix OKL never checked that comparison and update agree): without `Valid` the statement is
    false — this is why the guard is needed. -/
def C17_direction_full : Prop :=
  ∀ h : Header, 0 < h.step → h.DimInRange → launchIters h = seqIters h

theorem C17_direction_full_fails : ¬ C17_direction_full := by
  intro hf
  have := hf ⟨0, 3, .gt, true, .inc⟩ (by decide) (by decide)
  revert this
  decide

end Occa.Loop.C17
