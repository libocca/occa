/-
C11 — Dtype and kernel-metadata JSON serialisation round-trips.

Model: OccaModel/Dtype.lean (dtype_t as a value, toJson / fromJson key by key as in
src/dtype/dtype.cpp, argMetadata_t / kernelMetadata_t as in lang/kernelMetadata.cpp), over the
generated OccaGen/Builtins.lean.  Lemmas: OccaProofs/Lemmas/Dtype.lean.

Statement of the property, clause by clause:
  (a) serialising any dtype and reading it back yields an equivalent value: same kind, names,
      field order, element types and byte size
        C11_roundtrip, C11_roundtrip_value, C11_roundtrip_stable, C11_equiv_observables,
        C11_accepted_json_roundtrips
  (b) cast compatibility between any two dtypes is unchanged by the round trip
        C11_cast_invariant, C11_equiv_cast
  (c) the same for any kernel's argument metadata
        C11_meta_roundtrip, C11_meta_norm_spec
  (d) obligations on the *current* source, re-checked on every run against the regenerated tables
        C11_code_shape, C11_builtins_wellformed

All theorems quantify over all dtype trees (any depth, width, names, sizes).  `Dtype.WF` is what
the API guarantees (addField / addEnumerator reject duplicates; `prim n` is a builtin scalar).
"Names": a leaf keeps its name; the own name of an enum / tuple / struct / union node is by
design an *argument* of toJson (`dtype::toJson(d)` passes none, tests/src/dtype.cpp pins the JSON
text), so the read-back node is named by that argument — stated exactly by `C11_roundtrip_value`.
-/
import OccaProofs.Lemmas.Dtype

namespace Occa.Dtype.C11
open Occa Occa.Dtype

/-! ### (d) the current source has the shape the model follows -/

/-- The repairs the model follows are present in the source the tables were generated from:
    enum sizes are written and read (F14), struct/tuple/union sizes are recomputed by fromJson (F14),
    addField()/tuple() use bytes() (F14b), "builtin" is written only for the builtin itself (F15b),
    leaves are compared structurally (F15), fromJson marks metadata initialized. -/
theorem C11_code_shape :
    Gen.enumWritesBytes = true ∧ Gen.fromJsonRestoresBytes = true ∧ Gen.bytesViaAccessor = true ∧
    Gen.builtinByIdentity = true ∧ Gen.leafStructural = true ∧ Gen.fromJsonMarksInitialized = true := by
  decide

/-- every dtype `dtype_t::getBuiltin` can return (for any key, known or not) is well formed:
    the element of every registered vector is a builtin scalar (checked on the generated table,
    `builtin_table_ok` in Lemmas/Dtype.lean). -/
theorem C11_builtins_wellformed (key : String) : (getBuiltin key).WF := getBuiltin_wf key

example : getBuiltin "float4" = .tuple "float4" (.prim "float") 4 := by
  simp [getBuiltin, Gen.builtinMap, registeredByName, Gen.dtypeTuples, List.find?]

/-! ### (a) the round trip of a dtype -/

/-- Reading back the JSON of any well-formed dtype succeeds (with any fuel ≥ the nesting depth,
    in particular `d.depth`) and returns exactly `Dtype.norm n d`: the same tree with the node's
    own name replaced by the name given to toJson and nested node names dropped. -/
theorem C11_roundtrip_value (d : Dtype) (n : String) (fuel : Nat) (hw : d.WF) (hf : d.depth ≤ fuel) :
    Dtype.fromJson fuel (d.toJson n) = .ok (Dtype.norm n d) := by
  obtain ⟨hE, hR, -, hI, -⟩ := C11_code_shape
  exact Dtype.fromJson_toJson hE hR hI d n fuel hw hf

/-- Clause (a): `fromJson (toJson d) = ok d'` with `d'` equivalent to `d` — same kind, field names
    and order, element types, leaf names and sizes (`Equiv`), same `bytes()`, same flattened
    element types, and `name()` is the leaf's name resp. the name the node was serialised under. -/
theorem C11_roundtrip (d : Dtype) (n : String) (hw : d.WF) :
    ∃ d', Dtype.fromJson d.depth (d.toJson n) = .ok d' ∧ d.Equiv d' ∧ d'.bytes = d.bytes ∧
      d'.flatten = d.flatten ∧ d'.name = (if d.isComposite then n else d.name) ∧ d'.WF :=
  ⟨Dtype.norm n d, C11_roundtrip_value d n d.depth hw (Nat.le_refl _), Dtype.equiv_norm d n,
   Dtype.bytes_norm d n, Dtype.flatten_norm d n, Dtype.name_norm d n, Dtype.wf_norm d n hw⟩

example : (Dtype.struct "foo" (.cons "a" (.prim "double") (.cons "v" (.tuple "" (.custom "myc" 12) 2) .nil))).WF := by
  simp only [Dtype.WF, Fields.WF, Fields.names]
  decide +kernel

/-- The read-back value serialises to the same JSON again and reads back as itself: a second
    trip (build.json rewritten from loaded metadata) changes nothing. -/
theorem C11_roundtrip_stable (d : Dtype) (n : String) (hw : d.WF) :
    (Dtype.norm n d).toJson n = d.toJson n ∧
    Dtype.fromJson d.depth ((Dtype.norm n d).toJson n) = .ok (Dtype.norm n d) := by
  refine ⟨Dtype.toJson_norm d n n, ?_⟩
  rw [Dtype.toJson_norm d n n]
  exact C11_roundtrip_value d n d.depth hw (Nat.le_refl _)

/-- The converse direction, for ARBITRARY json (hand-edited or foreign build.json): whatever
    `fromJson` accepts — any value, any fuel — is a well-formed dtype, so it serialises and reads
    back to an equivalent dtype of the same size. -/
theorem C11_accepted_json_roundtrips (fuel : Nat) (j : Json) (d : Dtype) (n : String)
    (h : Dtype.fromJson fuel j = .ok d) :
    d.WF ∧ ∃ d', Dtype.fromJson d.depth (d.toJson n) = .ok d' ∧ d.Equiv d' ∧ d'.bytes = d.bytes :=
  ⟨Dtype.fromJson_wf fuel j d h, Dtype.norm n d,
   C11_roundtrip_value d n d.depth (Dtype.fromJson_wf fuel j d h) (Nat.le_refl _),
   Dtype.equiv_norm d n, Dtype.bytes_norm d n⟩

example : Dtype.fromJson 2 (.obj [("type", .str "tuple"), ("dtype", .obj [("type", .str "builtin"), ("name", .str "int8")]),
    ("size", .num 3)]) = .ok (.tuple "" (.prim "char") 3) := by
  simp [Dtype.fromJson, Json.get, Json.has, List.find?, Json.toStr?, Json.isNumber, Json.toInt, isBuiltinKey, getBuiltin,
        Gen.builtinMap, registeredByName, Gen.dtypeTuples, isPrimName, pure, Except.pure]

/-- What `Equiv` gives an observer: equivalent dtypes have the same `bytes()`, the same
    flattened element types and agree on being the `byte` wildcard. -/
theorem C11_equiv_observables (d d' : Dtype) (h : d.Equiv d') :
    d.bytes = d'.bytes ∧ d.flatten = d'.flatten ∧ isByte d = isByte d' :=
  Dtype.Equiv.props d d' h

/-! ### (b) the cast relation -/

/-- Clause (b): cast compatibility (including a trap, if there were one) between any two dtypes is
    the same before and after the round trip, with either or both sides read back from JSON under
    any names. -/
theorem C11_cast_invariant (a b : Dtype) (n m : String) (ha : a.WF) (hb : b.WF) :
    ∃ a' b', Dtype.fromJson a.depth (a.toJson n) = .ok a' ∧ Dtype.fromJson b.depth (b.toJson m) = .ok b' ∧
      canCast a' b' = canCast a b ∧ canCast a' b = canCast a b ∧ canCast a b' = canCast a b :=
  ⟨Dtype.norm n a, Dtype.norm m b, C11_roundtrip_value a n a.depth ha (Nat.le_refl _),
   C11_roundtrip_value b m b.depth hb (Nat.le_refl _),
   canCast_congr (isByte_norm a n) (Dtype.flatten_norm a n) (isByte_norm b m) (Dtype.flatten_norm b m),
   canCast_congr (isByte_norm a n) (Dtype.flatten_norm a n) rfl rfl,
   canCast_congr rfl rfl (isByte_norm b m) (Dtype.flatten_norm b m)⟩

/-- More generally the cast relation respects `Equiv` on both sides. -/
theorem C11_equiv_cast (a a' b b' : Dtype) (ha : a.Equiv a') (hb : b.Equiv b') :
    canCast a b = canCast a' b' :=
  canCast_congr (C11_equiv_observables a a' ha).2.2 (C11_equiv_observables a a' ha).2.1
    (C11_equiv_observables b b' hb).2.2 (C11_equiv_observables b b' hb).2.1

example : canCast (.custom "myc" 12) (.tuple "" (.custom "myc" 12) 2) = .ok true := by rfl

/-! ### (c) kernel argument metadata -/

/-- Clause (c): the JSON of any kernel's metadata (name, argument list) reads back, with any fuel ≥
    the deepest argument dtype, as `m.norm`. -/
theorem C11_meta_roundtrip (m : KernelMeta) (fuel : Nat) (hw : m.WF) (hf : m.depth ≤ fuel) :
    KernelMeta.fromJson fuel m.toJson = .ok m.norm := by
  obtain ⟨hE, hR, -, hI, -, hM⟩ := C11_code_shape
  exact KernelMeta.fromJson_toJson hE hR hI hM m fuel hw hf

/-- `m.norm` is `m` up to equivalence of the argument dtypes: same kernel name, same number and
    order of arguments, same const / pointer flags and argument names, equivalent dtypes with the
    same sizes; and it is marked initialized. -/
theorem C11_meta_norm_spec (m : KernelMeta) :
    m.norm.initialized = true ∧ m.norm.name = m.name ∧ m.norm.arguments.length = m.arguments.length ∧
    ∀ i (h : i < m.arguments.length),
      let a := m.arguments[i]
      let a' := m.norm.arguments[i]'(by simpa [KernelMeta.norm] using h)
      a'.isConst = a.isConst ∧ a'.isPtr = a.isPtr ∧ a'.name = a.name ∧ a.dtype.Equiv a'.dtype ∧
      a'.dtype.bytes = a.dtype.bytes := by
  refine ⟨rfl, rfl, by simp [KernelMeta.norm], ?_⟩
  intro i h
  simp [KernelMeta.norm, ArgMeta.norm, Dtype.equiv_norm, Dtype.bytes_norm]

example : (KernelMeta.mk true "k" [⟨true, true, .tuple "" (.prim "int") 4, "x"⟩, ⟨false, false, .prim "long", "n"⟩]).WF := by
  simp only [KernelMeta.WF, List.forall_mem_cons, Dtype.WF]
  exact ⟨by decide +kernel, by decide +kernel, nofun⟩

end Occa.Dtype.C11
