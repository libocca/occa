/-
C09 — Concurrent builds of the same kernel all succeed and agree.

Model: OccaModel/BuildFS.lean.  Events carry the id of the process that performs them; a trace of several
processes is any interleaving of their steps.  The discipline `accepts` is about the WHOLE interleaved
trace: it records the owner of every temp name, rejects the re-use of a temp name by anybody and every
access to another process's temp name ("temp names of different processes are distinct").
  every intermediate state of every interleaving is Good; every read of a final name sees a
  complete file                                                         C09_interleaving_good
  the same from per-process acceptance: any interleaving of traces that are
  accepted process by process, with pairwise distinct created names     C09_interleaving_of_accepted
  nothing a process published is taken away again (no rmrf)             C09_published_stays
  a later build re-uses the cache without recompiling                   C09_reuse_without_recompile
  whatever the other processes do in between, a build returns normally
  with its binary in place (no process fails because of another one's
  in-progress build)                                                    C09_build_succeeds_under_interference
  ALL of it for the modelled build program itself: any number of processes
  running `buildProg`, any schedule                                      C09_all_schedules, C09_reuse_after_schedule
The `rmrf`-on-failure path (device::buildKernel removes the hash directory when the mode returns a null
kernel, i.e. when the OKL source does not parse and `silent` is set) is part of the model and is excluded
by the explicit hypotheses `noRmrf t` / `c.parseOk = true`: a failing build running concurrently with a
succeeding one of the same key can delete the other's files; with a deterministic parser both fail alike.
-/
import OccaProofs.Lemmas.BuildFSExamples

namespace Occa.BuildFS.C09
open Occa Occa.BuildFS Occa.BuildFS.Examples

/-- Any number of processes, any interleaving `t` of their steps that obeys the discipline: after every
    prefix all final-named files are complete and correct, and every step that opens a final name sees
    nothing or a complete correct file. -/
theorem C09_interleaving_good (S : Spec) (hS : S.Coherent) (fs0 : FS) (t : Trace)
    (hG : Good S fs0) (ha : accepts S t = true) (hf : FreshOuts fs0 t) :
    (∀ t1 t2, t = t1 ++ t2 → Good S (apply S t1 fs0)) ∧
    (∀ t1 t2 e p, t = t1 ++ e :: t2 → e.op = .openRead p → p.tmp = none →
      ∀ f, (apply S t1 fs0).files p = some f → f.closed = true ∧ S.valid p f.bytes = true) := by
  have h1 : ∀ t1 t2, t = t1 ++ t2 → Good S (apply S t1 fs0) := by
    intro t1 t2 ht
    subst ht
    exact prefix_good hS hG ha hf
  exact ⟨h1, fun t1 t2 e p ht _ hp f hfp => h1 t1 (e :: t2) ht p f hp hfp⟩

/-- The statement in per-process form: `t` is ANY interleaving of per-process traces (`t.filter pid = i`), each
    of which obeys the discipline on its own, and the names created by different processes are pairwise
    distinct.  Then the interleaved trace obeys the global discipline and every intermediate state is Good. -/
theorem C09_interleaving_of_accepted (S : Spec) (hS : S.Coherent) (fs0 : FS) (t : Trace) (hG : Good S fs0)
    (hloc : ∀ i, accepts S (t.filter (fun x => x.pid == i)) = true)
    (hdis : CreatedDisjoint AS.empty t) (hf : FreshOuts fs0 t) :
    accepts S t = true ∧ ∀ t1 t2, t = t1 ++ t2 → Good S (apply S t1 fs0) := by
  have ha : accepts S t = true :=
    accepts_interleave t AS.empty (fun i => by rw [proj_empty]; exact hloc i) hdis
  exact ⟨ha, (C09_interleaving_good S hS fs0 t hG ha hf).1⟩

/-- Without the rmrf-on-failure path nothing that has been published disappears again: a final-named file
    present at some point of an accepted interleaving is present ever after. -/
theorem C09_published_stays (S : Spec) : ∀ (t : Trace) (st st' : AS) (fs : FS),
    acceptsFrom S st t = some st' → noRmrf t = true → ∀ p, p.tmp = none → fs.present p = true →
    (apply S t fs).present p = true := by
  intro t
  induction t with
  | nil => intro st st' fs _ _ p _ h; exact h
  | cons e t ih =>
    intro st st' fs ha hn p hp h
    obtain ⟨st1, hstep, ha⟩ := acceptsFrom_cons.1 ha
    rw [noRmrf_cons, Bool.and_eq_true, Bool.not_eq_true'] at hn
    exact ih st1 st' _ ha hn.2 p hp (step_keeps_finals hstep hn.1 hp h)

/-- A follow-up build on a cache that holds the artefacts (`needed c`: the kernel binary, and for OpenMP the
    results of the two compiler probes) returns the kernel without starting a compiler — alone (stated here) or
    with other builds going on (`reuse_under_interference`, of which this is the case of no interference). -/
theorem C09_reuse_without_recompile (S : Spec) (c : Config) (pid : Nat) (fs : FS)
    (hp : ∀ q ∈ needed c, fs.present q = true) :
    (run S pid (buildProg c) fs).1 = some true ∧ noExec (buildSteps S pid c fs) = true := by
  obtain ⟨fs', t, es', hrun, hne⟩ := reuse_under_interference (S := S) c pid [] fs hp (EnvOK.nil ..)
  unfold buildSteps
  rw [run_eq_runE, hrun]
  exact ⟨rfl, hne⟩

/-- No process fails because of another process's in-progress build: whatever the other processes do between
    the steps of this build — as long as they never remove a final-named file and never touch this
    process's temp names (`Rely`, checked along the run by `EnvOK`; both follow from the discipline without
    rmrf) — the build returns normally, with every artefact a later build needs in place. -/
theorem C09_build_succeeds_under_interference (S : Spec) (c : Config) (hinj : ∀ i j, c.toks i = c.toks j → i = j)
    (hpo : c.parseOk = true) (pid : Nat) (es : List (FS → FS)) (fs : FS) (hes : EnvOK S c (buildProg c) es fs) :
    ∃ fs' t es', runE S pid (buildProg c) es fs = (some true, fs', t, es') ∧ ∀ q ∈ needed c, fs'.present q = true := by
  obtain ⟨a, fs', t, es', h1, ⟨ha, hb⟩, _⟩ := wp_runE (pid := pid) es (wp_buildProg (S := S) hpo fs) hes
  subst ha
  exact ⟨fs', t, es', h1, needed_present hb⟩

/-- The whole property for the modelled build: any number of processes (process `i` builds configuration
    `cfgs i`; the same kernel or different ones, Serial or OpenMP, from a string or a file), pairwise distinct
    temp tokens, any schedule `sch` (= any interleaving, cut anywhere).  Then
    (1) the interleaved trace obeys the discipline, (2) after every prefix — so at every instant — all
    final-named files are complete and correct, (3) no process has raised an exception, (4) every process that
    has finished got its kernel, and everything a later build needs is in the cache. -/
theorem C09_all_schedules (S : Spec) (hS : S.Coherent) (cfgs : Nat → Config)
    (hc : ∀ i, CfgOK S (cfgs i)) (hpo : ∀ i, (cfgs i).parseOk = true)
    (hd : ∀ i j, i ≠ j → ∀ x, IsTok (cfgs i) x → ¬ IsTok (cfgs j) x)
    (fs0 : FS) (hG : Good S fs0) (hfresh : ∀ i, TokFresh (cfgs i) fs0) (sch : List Nat) :
    accepts S (runSched S sch (fun i => buildProg (cfgs i)) fs0).2.2 = true ∧
    (∀ t1 t2, (runSched S sch (fun i => buildProg (cfgs i)) fs0).2.2 = t1 ++ t2 → Good S (apply S t1 fs0)) ∧
    (∀ i, (runSched S sch (fun i => buildProg (cfgs i)) fs0).1 i ≠ .fail) ∧
    (∀ i b, (runSched S sch (fun i => buildProg (cfgs i)) fs0).1 i = .ret b →
      b = true ∧ ∀ q ∈ needed (cfgs i), (runSched S sch (fun i => buildProg (cfgs i)) fs0).2.1.present q = true) := by
  obtain ⟨ha, hg⟩ := runSched_accepts (fun i => buildProg (cfgs i)) (fun i => safe_buildProg (hc i)) hd sch fs0
  -- a disciplined step other than `rmrf` is one every other process relies on, and a build whose source parses does no `rmrf`
  have hw := runSched_wp (fun i _ => Pr.stable.and_const _) sch _ fs0
    (fun e he j hj fs => rely_of_guar (hd _ _ (Ne.symm hj)) _ fs (hg e he).1 (Bool.eq_false_iff.2 fun hr => Bool.noConfusion ((hpo _).symm.trans ((hg e he).2 hr))))
    (fun i => wp_buildProg (hpo i) fs0)
  refine ⟨ha, fun t1 t2 ht => ?_, fun i hfail => ?_, fun i b hb => ?_⟩
  · exact prefix_good hS hG (ht ▸ ha) (ht ▸ fun e he x hx => hfresh e.pid x (touchedOK_outs (hg e he).1 x hx))
  · have := hw i
    rwa [hfail] at this
  · have := hw i
    rw [hb] at this
    exact ⟨this.1, needed_present this.2⟩

/-- ... and the cache is left in a state that later builds reuse without recompiling: once process `i` has
    finished, a follow-up build of its configuration — by any process, at any later point of any schedule —
    returns the kernel without starting a compiler. -/
theorem C09_reuse_after_schedule (S : Spec) (hS : S.Coherent) (cfgs : Nat → Config)
    (hc : ∀ i, CfgOK S (cfgs i)) (hpo : ∀ i, (cfgs i).parseOk = true)
    (hd : ∀ i j, i ≠ j → ∀ x, IsTok (cfgs i) x → ¬ IsTok (cfgs j) x)
    (fs0 : FS) (hG : Good S fs0) (hfresh : ∀ i, TokFresh (cfgs i) fs0) (sch : List Nat) (i : Nat) (b : Bool)
    (hfin : (runSched S sch (fun i => buildProg (cfgs i)) fs0).1 i = .ret b) (pid : Nat) :
    (run S pid (buildProg (cfgs i)) (runSched S sch (fun i => buildProg (cfgs i)) fs0).2.1).1 = some true ∧
    noExec (buildSteps S pid (cfgs i) (runSched S sch (fun i => buildProg (cfgs i)) fs0).2.1) = true :=
  C09_reuse_without_recompile S (cfgs i) pid _
    ((C09_all_schedules S hS cfgs hc hpo hd fs0 hG hfresh sch).2.2.2 i b hfin).2

/-! ### the hypotheses are satisfiable by a non-trivial value -/

example : accepts exSpec9 exTrace = true := by decide
example : noRmrf exTrace = true := by decide
example : accepts exSpec9 (exTrace.filter (fun x => x.pid == 1)) = true := by decide
example : accepts exSpec9 (exTrace.filter (fun x => x.pid == 2)) = true := by decide
/-- the same steps with process 2 writing straight to the final name are rejected -/
example : accepts exSpec9 [⟨1, .creat ta, true⟩, ⟨2, .creat fin, true⟩] = false := by decide
/-- and so is touching the other process's temp name -/
example : accepts exSpec9 [⟨1, .creat ta, true⟩, ⟨2, .append ta [1], true⟩] = false := by decide

/-! any number of processes building the same OpenMP kernel from a string, any schedule -/

example (sch : List Nat) :
    accepts spec2 (runSched spec2 sch (fun i => buildProg (cfgsEx i)) FS.empty).2.2 = true ∧
    (∀ i, (runSched spec2 sch (fun i => buildProg (cfgsEx i)) FS.empty).1 i ≠ .fail) := by
  have h := C09_all_schedules spec2 spec2_coherent cfgsEx cfgsEx_ok (fun _ => rfl) cfgsEx_disj FS.empty
    (fun p f _ h => by simp [FS.empty] at h) (fun _ _ _ => rfl) sch
  exact ⟨h.1, h.2.2.1⟩
end Occa.BuildFS.C09
