/-
C24 — JSON dump and parse round-trip every value.

Model: OccaModel/Json.lean (dumpToString with every indentation, the recursive-descent loader on a
NUL-terminated byte list, primitive::toString / primitive::load), of the repaired code (fixes F28, FJ1, FJ5, FJ7).
Statement of the property, clause by clause:
  (a) parsing the dumped text yields a value equal to the original, for any indentation
        C24_string_roundtrip, C24_number_roundtrip, C24_number_value_preserved (the leaf lemmas), C24_roundtrip_load (any
        whitespace as indentation, any delimiter after the value), C24_roundtrip (json::dump(indent)
        followed by json::parse), C24_fuel_suffices, C24_fuel_never_exhausted (the model's recursion budget is never the reason, for dumped
        text and for every input text),
        C24_reparse_same_text (the value read back prints the same text and has the same hash)
  (b) the full quantifier of the property also contains NUL bytes, NaN/Inf and empty keys, for which
      the statement is false of the code: C24_roundtrip_full, C24_roundtrip_full_fails,
      C24_roundtrip_partial (= (a), the strongest restriction that is proved)
  (c) dumping is deterministic: the text is a function of the value (dump is a function in the
      model), and the value does not remember the order in which members were inserted
        C24_obj_canonical, C24_insert_commutes, C24_dump_deterministic, C24_hash_deterministic
Float-typed numbers and numbers that carry source text are outside `Covered` and are checked by the
correspondence run only (DESIGN section 3: floating point is never reasoned about).
-/
import OccaProofs.Lemmas.JsonGenTie
import OccaProofs.Lemmas.JsonRoundtrip
import OccaProofs.Lemmas.JsonGuards
import OccaProofs.Lemmas.JsonFuel
import OccaModel.Hash

namespace Occa.Json.C24

/-- the values the proof covers: no `none_` node, every number of bool or integer type built through
    the API (no source text, value in the range of its type), every key non-empty, objects ordered
    like std::map; strings and keys are arbitrary byte strings -/
abbrev Covered (v : Json) : Prop := RT v

/-- no string value and no key contains a NUL byte -/
abbrev NulFree (v : Json) : Prop := NoNul v

/-- string escape lemma: for every byte string `s` (NUL included) and every continuation `r`,
    reading the dumped string after its opening quote returns `s` and stops at `r` -/
theorem C24_string_roundtrip (s r : Bytes) :
    loadStr cQuote false ((dumpStr s).drop 1 ++ r) [] = .ok (s, r) := by
  simpa [dumpStr] using loadStr_escBytes s r []

example : loadStr cQuote false ((dumpStr [34, 92, 10, 0, 255]).drop 1 ++ [44]) [] = .ok ([34, 92, 10, 0, 255], [44]) := by rfl

/-- number lemma: the text primitive::toString prints for a number of any integer type
    (int8 … uint64, extremes included), followed by a delimiter, is read back by primitive::load as
    a number that json::operator== (primitive::equal) accepts as equal; the reader stops at the
    delimiter and remembers the text as its source -/
theorem C24_number_roundtrip (fuel : Nat) (p : Prim) (h : p.IsInt) (rest : Bytes) (hr : Delim rest) :
    ∃ p', loadPrim (fuel + 1) (p.toStr ++ rest) = (p', rest) ∧ primEq p p' = true ∧ p'.src = p.toStr :=
  ⟨_, loadPrim_toStr_eq fuel p h rest hr, primEq_reload p h _, rfl⟩

/-- beyond `==`: the number read back has the same mathematical value, typed int32 if it fits and the
    text has no `L`, else int64, else uint64; the single exception is INT64_MIN, which comes back as the
    uint64 2^63 (same bits) -/
theorem C24_number_value_preserved (fuel : Nat) (p : Prim) (h : p.IsInt) (rest : Bytes) (hr : Delim rest) :
    ∃ p', loadPrim (fuel + 1) (p.toStr ++ rest) = (p', rest)
      ∧ (p'.val = p.val ∨ (p.ty = .i64 ∧ p.val = -9223372036854775808 ∧ p'.ty = .u64 ∧ p'.val = 9223372036854775808)) := by
  refine ⟨_, loadPrim_toStr_eq fuel p h rest hr, ?_⟩
  rcases reload_value p h with hv | ⟨h1, h2, h3⟩
  · exact Or.inl hv
  · exact Or.inr ⟨h1, h2, congrArg Prod.fst h3, congrArg Prod.snd h3⟩

example : (⟨.u64, 18446744073709551615, []⟩ : Prim).IsInt := isInt_of_isIntB (by decide)
example : (⟨.i8, -128, []⟩ : Prim).IsInt := isInt_of_isIntB (by decide)

/-- round trip at the level of json::load: for every covered value, every indentation string and
    current indentation made of whitespace, every delimiter-initial continuation and every budget
    at least `need v`, loading the dumped text gives a value == the original and leaves the
    continuation -/
theorem C24_roundtrip_load (v : Json) (hv : Covered v) (ind cur rest : Bytes) (n : Nat)
    (hi : AllWs ind) (hc : AllWs cur) (hr : Delim rest) (hn : need v ≤ n) :
    ∃ v', load n (dump ind cur v ++ rest) = .ok (v', rest) ∧ jsonEq v v' = true :=
  let ⟨v', hl, he, _⟩ := rs_val v hv ind cur rest n hi hc hr hn
  ⟨v', hl, he⟩

/-- the recursion budget `parse` uses is enough for every dumped covered value -/
theorem C24_fuel_suffices (v : Json) (hv : Covered v) (ind cur : Bytes) :
    need v ≤ parseFuel (dump ind cur v).length :=
  fuel_suffices v hv ind cur

/-- for EVERY input text the model's recursion budget is enough: the `fuel` outcome of the model never
    occurs, so every error the model reports is one of the C++ exceptions -/
theorem C24_fuel_never_exhausted (s : Bytes) : parse s ≠ .error .fuel := by
  unfold parse
  have h := (load_good (parseFuel (cstr s).length) (cstr s) (Nat.le_refl _)).1
  cases hl : load (parseFuel (cstr s).length) (cstr s) with
  | ok vr => simp only [hl]; exact nofun
  | error e => simp only [hl]; exact fun he => h (by injection he with he; rw [hl, he])

/-- clause (a): `json::parse(v.dump(indent))` succeeds and is == v, for every indentation
    (negative = the default 2) and every covered value without NUL bytes -/
theorem C24_roundtrip (v : Json) (hv : Covered v) (hn : NulFree v) (indent : Int) :
    ∃ v', parse (dumpI indent v) = .ok v' ∧ jsonEq v v' = true :=
  let ⟨v', hp, he, _⟩ := parse_dump_same v hv hn _ (allWs_replicate _)
  ⟨v', hp, he⟩

example : Covered (.obj [([97, 34, 98], .arr [.num ⟨.u32, 4294967295, []⟩, .str [92, 0], .null]), ([98], .num ⟨.bool, 1, []⟩)]) :=
  rt_of_coveredB _ (by decide)

/-- the value read back prints the same text again at every indentation, hence has the same hash:
    "equal values produce equal text and equal hashes" across a round trip -/
theorem C24_reparse_same_text (v : Json) (hv : Covered v) (hn : NulFree v) (indent : Int) :
    ∃ v', parse (dumpI indent v) = .ok v' ∧ jsonEq v v' = true
      ∧ (∀ i : Int, dumpI i v' = dumpI i v) ∧ hashText v' = hashText v := by
  unfold dumpI
  obtain ⟨v', hp, he, hs⟩ := parse_dump_same v hv hn _ (allWs_replicate _)
  exact ⟨v', hp, he, fun i => hs _ _, hs _ _⟩

/-- clause (a) at the strength of the property text: every value built through the API (`wf`: members
    ordered like std::map) without `none_` nodes — strings and keys containing any bytes, numbers of
    every primitive type — round-trips at every indentation -/
def C24_roundtrip_full : Prop :=
  ∀ (v : Json) (indent : Int), v.wf = true → hasNone v = false →
    ∃ v', parse (dumpI indent v) = .ok v' ∧ jsonEq v v' = true

/-- false of the code: a NUL byte inside a string cuts the text the parser sees (finding F29a) -/
theorem C24_roundtrip_full_fails : ¬ C24_roundtrip_full := by
  intro h
  obtain ⟨v', hp, _⟩ := h (.str [97, 0, 98]) 0 (by decide) (by decide)
  have e : parse (dumpI 0 (.str [97, 0, 98])) = .error .unclosedString := by rfl
  rw [e] at hp
  cases hp

/-- the other two recorded findings are witnesses as well: +Inf is printed as `inf` (F29b), an
    empty key is rejected by the loader (FJ4) -/
example : parse (dumpI 0 (.num ⟨.f64, 0x7ff0000000000000, []⟩)) = .error .cannotLoad := by rfl
example : parse (dumpI 2 (.obj [([], .null)])) = .error .keyEmpty := by rfl

/-- the strongest restriction that is proved, with decidable guards: NUL-free strings and keys,
    non-empty keys, numbers of bool or integer type without source text (float-typed numbers are
    covered by the correspondence run only) -/
theorem C24_roundtrip_partial (v : Json) (indent : Int) (hc : coveredB v = true) (hn : nulFreeB v = true) :
    ∃ v', parse (dumpI indent v) = .ok v' ∧ jsonEq v v' = true :=
  C24_roundtrip v (rt_of_coveredB v hc) (noNul_of_nulFreeB v hn) indent

example : coveredB (.obj [([34, 92], .arr [.num ⟨.i64, -9223372036854775808, []⟩, .str [255, 10]]), ([97], .obj [])]) = true
    ∧ nulFreeB (.obj [([34, 92], .arr [.num ⟨.i64, -9223372036854775808, []⟩, .str [255, 10]]), ([97], .obj [])]) = true := by decide

/-- a std::map is determined by its contents: two ordered member lists with the same lookups are
    the same list, so the dumped text cannot depend on the order of insertion -/
theorem C24_obj_canonical (a b : Obj) (ha : Sorted a) (hb : Sorted b) (h : ∀ k, lookup k a = lookup k b) : a = b :=
  sorted_ext ha hb h

/-- inserting two different keys in either order gives the same object -/
theorem C24_insert_commutes (k1 k2 : Bytes) (v1 v2 : Json) (l : Obj) (hl : Sorted l) (hk : k1 ≠ k2) :
    insert k1 v1 (insert k2 v2 l) = insert k2 v2 (insert k1 v1 l) := by
  apply sorted_ext (sorted_insert _ _ (sorted_insert _ _ hl)) (sorted_insert _ _ (sorted_insert _ _ hl))
  intro k
  rw [lookup_insert, lookup_insert, lookup_insert, lookup_insert]
  by_cases h1 : k = k1
  · rw [if_pos h1, if_neg (h1 ▸ hk), if_pos h1]
  · rw [if_neg h1, if_neg h1]

example : insert [98] .null (insert [97] (.str []) []) = insert [97] (.str []) (insert [98] .null []) := by rfl

/-- the text is a function of the value and the indentation alone: equal values, equal text -/
theorem C24_dump_deterministic (v w : Json) (indent : Int) (h : v = w) : dumpI indent v = dumpI indent w := by
  rw [h]

/-- json::hash() hashes the indent-free text (occa::hash of C27): equal values, equal hashes -/
theorem C24_hash_deterministic (v w : Json) (h : hashText v = hashText w) :
    Hash.hashBytes ((hashText v).map (·.toNat)) = Hash.hashBytes ((hashText w).map (·.toNat)) := by
  rw [h]

end Occa.Json.C24
