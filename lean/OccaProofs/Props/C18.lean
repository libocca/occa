/-
C18 — @tile covers the original loop's iterations exactly once.

Model: OccaModel/Loop.lean (`blockHeader`, `innerHeader`, `tiled`, `tiledLaunch`: tile.cpp after fix F25),
OccaModel/LoopExpr.lean (`blockSpec`, `innerSpec`, `expandTile`: the trees and their text).
Clauses of the property:
  (a) check = true (the default): the tiled loops run the body for exactly the iterator values of the
      original loop, in the original order (hence each once), for every positive tile size and step, both
      directions, all four comparisons, both operand orders, all run-time bounds      C18_tile_exact
  (b) check = false: the same whenever the iteration count is a multiple of T            C18_tile_nocheck
  (c) `@tile(T, @outer, @inner)` on a launcher backend (both loops become launch dimensions)
                                                                                         C18_tile_launch
  (d) the tile-size and step operands are used as complete expressions                   C18_inner_bound_faithful
  Before fix F25 the in-block bound was `xT ± T` instead of `xT ± T*step`: C18_old_step_witness shows
  the statement failing for the model of the old code, C18_old_step_partial what did hold (|step| = 1).
-/
import OccaProofs.Lemmas.Tile2d
import OccaProofs.Lemmas.ExprGroup
import OccaProofs.Lemmas.ExprGrammar

namespace Occa.Loop.C18
open Occa Occa.Loop Occa.LoopExpr

/-- (a) With the bounds check, block loop + in-block loop + `if` visit exactly the original loop's
    iterator values, in the original order, for every tile size `T > 0` and step `> 0`. -/
theorem C18_tile_exact (h : Header) (T : Int) (hv : h.Valid) (hs : 0 < h.step) (hT : 0 < T) :
    tiled h T true = seqIters h :=
  tiled_exact h T hv hs hT

example : tiled ⟨0, 20, .lt, true, .addEq 3⟩ 4 true = [0, 3, 6, 9, 12, 15, 18] := by decide
example : tiled ⟨10, -3, .le, false, .subEq 2⟩ 3 true = [10, 8, 6, 4, 2, 0, -2] := by decide

/-- (a) "each once" -/
theorem C18_tile_each_once (h : Header) (T : Int) (hv : h.Valid) (hs : 0 < h.step) (hT : 0 < T) :
    (tiled h T true).Nodup := by
  rw [C18_tile_exact h T hv hs hT]
  exact seqIters_nodup h hv hs

/-- (b) Without the bounds check the same holds whenever `T` divides the iteration count. -/
theorem C18_tile_nocheck (h : Header) (T : Int) (hv : h.Valid) (hs : 0 < h.step) (hT : 0 < T)
    (hdiv : T.toNat ∣ (seqIters h).length) : tiled h T false = seqIters h := by
  rw [seqIters_closed h hv hs, List.length_map, List.length_range] at hdiv
  exact tiled_nocheck h T hv hs hT hdiv

example : tiled ⟨0, 24, .lt, true, .addEq 3⟩ 4 false = seqIters ⟨0, 24, .lt, true, .addEq 3⟩ := by decide
/-- without the hypothesis the unchecked tiling overshoots: 7 iterations, T = 4 -/
example : tiled ⟨0, 20, .lt, true, .addEq 3⟩ 4 false = [0, 3, 6, 9, 12, 15, 18, 21] := by decide

/-- (c) `@tile(T, @outer, @inner)` under the launch model: work-groups = blocks, work-items = in-block
    iterations (the host evaluates the in-block count from the loop's initial value), bounds check in
    the kernel. -/
theorem C18_tile_launch (h : Header) (T : Int) (check : Bool) (hv : h.Valid) (hs : 0 < h.step) (hT : 0 < T)
    (hrb : (blockHeader h T).DimInRange) (hri : (innerHeader h T h.init).DimInRange) :
    tiledLaunch h T check = tiled h T check := by
  have hb := launchIters_eq_seq _ (block_valid h T hv) (by rw [block_step]; exact Int.mul_pos hT hs) hrb
  have hi : launched (toUDim (count (innerHeader h T h.init))) = T.toNat := by
    rw [launched_count _ (inner_valid h T _ hv) hri, inner_dist h T _ hv]
    exact ceilN_mul T h.step (Int.le_of_lt hT) hs
  unfold tiledLaunch tiled
  rw [hi, if_neg (by omega), ← hb, launchIters, List.flatMap_map]
  exact flatMap_congr fun j _ => by rw [inner_iters h T _ hv hs (Int.le_of_lt hT)]

example : tiledLaunch ⟨0, 20, .lt, true, .addEq 3⟩ 4 true = [0, 3, 6, 9, 12, 15, 18] := by decide
example : (blockHeader ⟨0, 20, .lt, true, .addEq 3⟩ 4).DimInRange ∧ (innerHeader ⟨0, 20, .lt, true, .addEq 3⟩ 4 0).DimInRange := by
  decide

/-- (a) 2-D tiling: two nested `@tile(…, @outer, @inner)` loops, where `floatOuterLoopUp` moves the inner block
    loop above the outer in-block loop, visit a permutation of the untiled nest's iterator pairs — every pair
    exactly once. -/
theorem C18_tile_2d (hy hx : Header) (Ty Tx : Int) (vy : hy.Valid) (sy : 0 < hy.step) (ty : 0 < Ty)
    (vx : hx.Valid) (sx : 0 < hx.step) (tx : 0 < Tx) :
    (tiled2d hy Ty true hx Tx true).Perm (seqNest [hy, hx]) :=
  tiled2d_perm hy hx Ty Tx vy sy ty vx sx tx

example : (tiled2d ⟨0, 5, .lt, true, .inc⟩ 2 true ⟨0, 3, .lt, true, .inc⟩ 2 true).length = 15 := by decide

/-- (d) The texts of the in-block bound `(xT ± stride)` and of the block stride are derived by the C expression
    grammar as the trees that were built, for tile sizes and steps of every operator class; those trees denote
    the numeric `innerHeader` / `blockHeader` (`C18_tile_spec_value`). -/
theorem C18_inner_bound_faithful (l : LoopSpec) (t : TileSpec) (hT : Grouped t.T)
    (hst : ∀ s, l.step = some s → Grouped s) :
    (∃ ts, renderAll ts = print (innerSpec l t).bound ∧ Derives 16 ts (innerSpec l t).bound) ∧
    (∀ s, (blockSpec l t).step = some s → ∃ ts, renderAll ts = print (wrap s) ∧ Derives 16 ts (wrap s)) := by
  have hb := fits_blockStride l t.T hT hst
  refine ⟨grouped_reads _ ?_, fun s hs => grouped_reads _ ?_⟩
  · exact (fits_wrap (fits_bin _ (prec_pm l.positive) (fits_var _).mono hb.mono).grouped).grouped
  · cases hs
    exact hb.grouped

theorem C18_tile_spec_value (l : LoopSpec) (t : TileSpec) (env : String → Int) (xT : Int)
    (hfresh : ∀ e : Expr, e = l.init ∨ e = l.bound ∨ l.step = some e ∨ e = t.T →
      eval (fun n => if n = tiledName l.var then xT else env n) e = eval env e) :
    (blockSpec l t).header env = blockHeader (l.header env) (eval env t.T) ∧
    (innerSpec l t).header (fun n => if n = tiledName l.var then xT else env n)
      = innerHeader (l.header env) (eval env t.T) xT := by
  have hT := hfresh t.T (Or.inr (Or.inr (Or.inr rfl)))
  constructor
  · rw [blockHeader, header_positiveUpdate, ← eval_blockStride]
    cases hp : l.positive <;> simp [blockSpec, LoopSpec.header, hp]
  · -- the stride tree does not mention `_occa_tiled_x`, and neither does the step, which the update evaluates again
    rw [innerHeader, header_positiveUpdate, ← eval_blockStride]
    cases hp : l.positive <;> cases hs : l.step with
    | none => simp [innerSpec, blockStrideExpr, LoopSpec.header, hp, hs, eval, hT]
    | some s => simp [innerSpec, blockStrideExpr, LoopSpec.header, hp, hs, eval, hT,
        hfresh s (Or.inr (Or.inr (Or.inl hs)))]

/-! ### the code before fix F25 (in-block bound `xT ± T`) -/

/-- s = 3, T = 8: a block advances 24 but the in-block loop covers 3 of its 8 iterations -/
theorem C18_old_step_witness :
    tiledOld ⟨0, 48, .lt, true, .addEq 3⟩ 8 true = [0, 3, 6, 24, 27, 30] ∧
    seqIters ⟨0, 48, .lt, true, .addEq 3⟩ = [0, 3, 6, 9, 12, 15, 18, 21, 24, 27, 30, 33, 36, 39, 42, 45] := by
  decide

/-- what the old code did get right: steps of 1 (`++`, `--`, `+= 1`, `-= 1`) -/
theorem C18_old_step_partial (h : Header) (T : Int) (check : Bool) (h1 : h.step = 1) :
    tiledOld h T check = tiled h T check := by
  have e : ∀ xT, innerHeaderOld h T xT = innerHeader h T xT := by
    intro xT
    have hst : stride h T = T := by rw [stride_eq, h1]; simp
    simp [innerHeaderOld, innerHeader, hst]
  unfold tiledOld tiled
  simp only [e]

end Occa.Loop.C18
