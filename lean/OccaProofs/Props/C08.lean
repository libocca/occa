/-
C08 — A crash at any point of a kernel build never poisons the cache.

Model: OccaModel/BuildFS.lean (file system, atomic steps, the staging discipline `accepts`, the build
pipeline `buildProg` written after the C++), OccaGen/BuildFSSites.lean (regenerated from /repo).
Statement of the property, clause by clause:
  "killed at any point"            = the trace is cut after any prefix                    C08_prefix_good
  "no partially written source, build file or binary is ever treated as a completed
   cache entry"                    = a final name never denotes a partial file            C08_no_partial_read
  the real build obeys the discipline, whatever the file system answers                   C08_buildSteps_accepted
  "a later process that builds the same kernel ... succeeds and runs correct code"         C08_recovery
  the current source writes files only through staged temp names                          C08_write_sites_staged,
                                                                                          C08_stage_shape, C08_cache_names
Hypotheses (stated in the theorems): deterministic compiler (Spec.Coherent), atomic rename (one step),
unique temp names (FreshOuts / TokFresh, CfgOK.toks_inj).
-/
import OccaGen.BuildFSSites
import OccaProofs.Lemmas.BuildFSExamples

namespace Occa.BuildFS.C08
open Occa Occa.BuildFS Occa.BuildFS.Examples

/-- Kill −9 at any step: after EVERY prefix of a trace that obeys the staging discipline, every
    final-named file is a complete, correct artefact (only temp-named debris is left behind).
    `fs0` may already contain any amount of temp-named debris. -/
theorem C08_prefix_good (S : Spec) (hS : S.Coherent) (fs0 : FS) (t : Trace)
    (hG : Good S fs0) (ha : accepts S t = true) (hf : FreshOuts fs0 t) :
    ∀ t1 t2, t = t1 ++ t2 → Good S (apply S t1 fs0) := by
  intro t1 t2 ht
  subst ht
  exact prefix_good hS hG ha hf

/-- No partially written file is ever treated as complete: whenever a step of a discipline-obeying trace
    opens (or stats, or executes) a final name, that name is absent or denotes a closed, correct file. -/
theorem C08_no_partial_read (S : Spec) (hS : S.Coherent) (fs0 : FS) (t : Trace)
    (hG : Good S fs0) (ha : accepts S t = true) (hf : FreshOuts fs0 t)
    (t1 t2 : Trace) (e : Ev) (ht : t = t1 ++ e :: t2) (p : Path) (hp : p.tmp = none) :
    match (apply S t1 fs0).files p with
    | none => True
    | some f => f.closed = true ∧ S.valid p f.bytes = true := by
  have h := C08_prefix_good S hS fs0 t hG ha hf t1 (e :: t2) ht
  cases hfp : (apply S t1 fs0).files p with
  | none => trivial
  | some f => exact h p f hp hfp

/-- The modelled build (Serial/OpenMP, string/file, parse failure and `silent` included) obeys the staging
    discipline for ALL answers the file system may give, cut at any point. -/
theorem C08_buildSteps_accepted (S : Spec) (c : Config) (hc : CfgOK S c) (pid : Nat) (t : Trace)
    (ht : IsTrace pid (buildProg c) t) : accepts S t = true :=
  safe_trace (safe_buildProg (pid := pid) hc) t ht

/-- in particular the step list of a build that runs alone from any file system -/
theorem C08_buildSteps_accepted_run (S : Spec) (c : Config) (hc : CfgOK S c) (pid : Nat) (fs : FS) :
    accepts S (buildSteps S pid c fs) = true :=
  C08_buildSteps_accepted S c hc pid _ (run_isTrace (buildProg c) fs)

/-- Recovery: from ANY state in which the final-named files are complete (temp debris of killed builds
    included), the build returns normally, leaves every final-named file complete and correct, and the
    binary it loads exists, is closed and is the correct one. -/
theorem C08_recovery (S : Spec) (hS : S.Coherent) (c : Config) (hc : CfgOK S c) (hpo : c.parseOk = true)
    (pid : Nat) (fs : FS) (hG : Good S fs) (hfresh : TokFresh c fs) :
    (run S pid (buildProg c) fs).1 = some true ∧
    Good S (run S pid (buildProg c) fs).2.1 ∧
    loadable S c (run S pid (buildProg c) fs).2.1 := by
  obtain ⟨a, fs', t, hrun, ⟨ha, hb'⟩, _⟩ := wp_run (pid := pid) (wp_buildProg (S := S) hpo fs)
  have hG' := run_good (pid := pid) hS (safe_buildProg hc) hG hfresh
  rw [hrun] at hG' ⊢
  have hb : fs'.present (c.k "binary") = true := hb'.2 _ (by unfold needed; split <;> simp) rfl
  refine ⟨by rw [ha], hG', ?_⟩
  simp only [FS.present] at hb
  cases hfb : fs'.files (c.k "binary") with
  | none => rw [hfb] at hb; cases hb
  | some f => exact ⟨f, hfb, hG' _ f rfl hfb⟩

/-- (T) Every call site of the current source that creates or overwrites a file (io::write, json::write,
    parser::writeToFile, fopen "w", a compiler's `-o`, a shell redirect) names a staged temp file. -/
theorem C08_write_sites_staged : ∀ s ∈ Gen.BuildFS.writeSites, s.staged = true := by decide

/-- (T) io::stageFiles / getStagedTempFilename / moveStagedTempFile / io::write / the completion test have
    the shape the model was written against. -/
theorem C08_stage_shape : ∀ x ∈ Gen.BuildFS.stageShape, x.2 = true := by decide

/-- (T) the cache file names in the current source are the ones the model's pipeline spells out -/
theorem C08_cache_names : Gen.BuildFS.cacheNames.map (·.2) =
    ["build.json", "binary", ".raw_source", ".source.cpp", "string_source.cpp", "findCompilerVendor.cpp", "binary", "output",
     "build.log", "compilerSupportsOpenMP.cpp", "binary", "output"] := by decide

/-! ### the hypotheses are satisfiable by a non-trivial value (objects in Lemmas/BuildFSExamples.lean) -/

example : (run exSpec 1 (buildProg exCfg) exFS).1 = some true ∧
    Good exSpec (run exSpec 1 (buildProg exCfg) exFS).2.1 ∧ loadable exSpec exCfg (run exSpec 1 (buildProg exCfg) exFS).2.1 :=
  C08_recovery exSpec exSpec_coherent exCfg exCfg_ok rfl 1 exFS exFS_good exFS_fresh

example : accepts exSpec (buildSteps exSpec 1 exCfg exFS) = true := C08_buildSteps_accepted_run exSpec exCfg exCfg_ok 1 exFS

end Occa.BuildFS.C08
