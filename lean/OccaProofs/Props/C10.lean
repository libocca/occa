/-
C10 — Kernel argument validation accepts exactly the compatible argument lists.

Model: OccaModel/Dtype.lean — `validate` = modeKernel_t::setupRun (core/kernel.cpp), `canCast` =
dtype_t::canBeCastedTo / isCyclic (dtype.cpp, loops written out, trapping operations explicit),
`metaOfSignature` = parser_t::setSourceMetadata + vartype_t::dtype()/isPointerType(), metadata JSON
codec as in C11.  Lemmas: OccaProofs/Lemmas/{Cast,Validate,Signature,Dtype}.lean.

Statement of the property, clause by clause:
  (a) running raises exactly when the argument count differs, memory meets a non-pointer parameter
      or a non-memory value a pointer parameter, or a memory's element type cannot be cast to the
      parameter's; every compatible list runs
        C10_validate_spec, C10_compatible_pointwise, C10_cast_spec, C10_validate_disabled,
        C10_error_is_first_mismatch
  (b) the decision is identical for a freshly compiled kernel and one loaded from the cache
        C10_fresh_eq_cached, C10_fresh_eq_cached_signature, C10_zero_parameter_kernel
      what the parser records for a parameter: C10_array_parameter_flatten, C10_pointer_parameter
  (c) validation never traps (no division by zero in isCyclic, no out-of-bounds read)
        C10_no_trap, C10_cast_no_trap
  (d) obligations on the *current* source, from the regenerated tables
        C10_code_shape
-/
import OccaProofs.Lemmas.Validate
import OccaProofs.Lemmas.Signature

namespace Occa.Dtype.C10
open Occa Occa.Dtype

/-! ### (d) -/

/-- The repairs the model follows are present in the source the tables were generated from:
    isCyclic guards the division (F13), leaves are compared structurally (F15), the parser marks
    every @kernel's metadata initialized (F12) as kernelMetadata_t::fromJson does, the JSON codec is
    the one of C11 (F14, F15b), and an array of unknown extent flattens one element (F13b). -/
theorem C10_code_shape :
    Gen.cyclicGuard = true ∧ Gen.leafStructural = true ∧ Gen.parserMarksInitialized = true ∧
    Gen.fromJsonMarksInitialized = true ∧ Gen.enumWritesBytes = true ∧ Gen.fromJsonRestoresBytes = true ∧
    Gen.builtinByIdentity = true ∧ Gen.unknownExtentFlattensOne = true := by
  decide

/-! ### (a) accept exactly the compatible lists -/

/-- dtype_t::canBeCastedTo decides the declarative rule: `byte` on either side, or the longer
    flattened element list is a whole number (≥ 1) of repetitions of the shorter one. -/
theorem C10_cast_spec (a b : Dtype) : canCast a b = .ok true ↔ CastOK a b :=
  (canCast_spec C10_code_shape.1 a b).ok_true_iff

example : CastOK (.prim "float") (.tuple "float4" (.prim "float") 4) :=
  Or.inr (Or.inr (Or.inl ⟨4, by omega, by decide +kernel⟩))

/-- Clause (a): with validation enabled and metadata present, setupRun accepts an argument list
    iff it is `Compatible` with the parameter list. -/
theorem C10_validate_spec (m : KernelMeta) (args : List Arg) (hi : m.initialized = true) :
    validate m true args = .ok () ↔ Compatible m.arguments args := by
  rw [validate_eq, if_pos ⟨hi, rfl⟩]
  split
  · exact validateArgs_spec C10_code_shape.1 args m.arguments 1 ‹_›
  · exact ⟨nofun, fun h => absurd ((compatible_iff _ _).mp h).1 ‹_›⟩

/-- `Compatible`, spelled out: the argument count equals the parameter count, and for every
    position: memory or occa::null iff the parameter is a pointer, and a memory's element type can
    be cast (`CastOK`) to the parameter's. -/
theorem C10_compatible_pointwise (ms : List ArgMeta) (args : List Arg) :
    Compatible ms args ↔ args.length = ms.length ∧
      ∀ i (h1 : i < args.length) (h2 : i < ms.length),
        match args[i] with
        | .mem d => ms[i].isPtr = true ∧ CastOK d ms[i].dtype
        | .null => ms[i].isPtr = true
        | .scalar => ms[i].isPtr = false
        | .hostPtr => ms[i].isPtr = false :=
  compatible_iff ms args

example : Compatible [⟨false, true, .tuple "" (.prim "int") 4, "x"⟩, ⟨true, false, .prim "int", "n"⟩]
    [.mem (.prim "int"), .scalar] := by
  refine ⟨⟨rfl, Or.inr (Or.inr (Or.inl ⟨4, by omega, by decide +kernel⟩))⟩, rfl, trivial⟩

/-- Which exception a rejected list gets: the argument-count error, or the error of its FIRST
    non-fitting argument, with that argument's 1-based position (as in the message): "expects an
    occa::memory" / "expects a non-occa::memory type" when pointer-ness differs, otherwise "wrong
    runtime type" (`errKind`). -/
theorem C10_error_is_first_mismatch (m : KernelMeta) (args : List Arg) (e : VErr)
    (hi : m.initialized = true) (h : validate m true args = .error e) :
    (e = .count ∧ args.length ≠ m.arguments.length) ∨
    (args.length = m.arguments.length ∧
      ∃ k, ∃ (h1 : k < args.length) (h2 : k < m.arguments.length),
        (∀ j (g1 : j < args.length) (g2 : j < m.arguments.length), j < k → ArgFits args[j] m.arguments[j]) ∧
        ¬ ArgFits args[k] m.arguments[k] ∧ e = errKind args[k] m.arguments[k] (k + 1)) := by
  rw [validate_eq, if_pos ⟨hi, rfl⟩] at h
  split at h
  · next hl => exact .inr ⟨hl, validateArgs_error C10_code_shape.1 args m.arguments 1 e h⟩
  · next hl => exact .inl ⟨(Except.error.inj h).symm, hl⟩

/-- Without metadata (a kernel that is not in build.json, non-OKL source) or with the kernel
    property `type_validation: false` every argument list is accepted. -/
theorem C10_validate_disabled (m : KernelMeta) (tv : Bool) (args : List Arg)
    (h : m.initialized = false ∨ tv = false) : validate m tv args = .ok () := by
  rw [validate_eq, if_neg]
  rcases h with h | h <;> simp [h]

/-! ### (c) no trap -/

/-- dtype_t::canBeCastedTo never divides by zero and never reads outside the flattened vectors. -/
theorem C10_cast_no_trap (a b : Dtype) : ∃ r, canCast a b = .ok r :=
  let ⟨r, hr, _⟩ := canCast_spec C10_code_shape.1 a b
  ⟨r, hr⟩

/-- setupRun never traps, for any metadata (initialized or not), flag and argument list. -/
theorem C10_no_trap (m : KernelMeta) (tv : Bool) (args : List Arg) (t : Trap) :
    validate m tv args ≠ .error (.trap t) := by
  rw [validate_eq]
  split
  · split
    · exact validateArgs_no_trap C10_code_shape.1 args m.arguments 1 t
    · nofun
  · nofun

/-! ### (b) fresh = cached -/

/-- Clause (b) for any metadata a fresh build can carry (well formed, initialized): the metadata
    read back from build.json decides every argument list exactly as the original does, whatever
    the `type_validation` flag. -/
theorem C10_fresh_eq_cached (m : KernelMeta) (tv : Bool) (args : List Arg) (hw : m.WF)
    (hi : m.initialized = true) :
    ∃ m', KernelMeta.fromJson m.depth m.toJson = .ok m' ∧ validate m' tv args = validate m tv args := by
  obtain ⟨-, -, -, hM, hE, hR, hI, -⟩ := C10_code_shape
  refine ⟨m.norm, KernelMeta.fromJson_toJson hE hR hI hM m m.depth hw (Nat.le_refl _), ?_⟩
  unfold validate
  simp [KernelMeta.norm, hi, validateArgs_norm]

/-- The element types of an array parameter, as the parser records them: the element types of the
    declared type (after the `long` adjustment) repeated once per entry, an unknown extent counting
    one entry — `T x[a][b]` flattens to `a*b` copies of `T`'s flattening, `T x[n]` (n not
    constant) to one.  With `C10_cast_spec` this is the rule the end-to-end oracle applies. -/
theorem C10_array_parameter_flatten (ty : OType) (longQ ptrs : Nat) (arrays : List (Option Int)) :
    (VType.mk ty longQ ptrs arrays).dtype.flatten =
      repeatList (extProd arrays) (VType.mk ty longQ ptrs []).dtype.flatten := by
  obtain ⟨-, -, -, -, -, -, -, hU⟩ := C10_code_shape
  simp only [VType.dtype, List.foldl_nil]
  exact flatten_foldl_tuple hU arrays _

/-- ... and it is a pointer parameter iff it has a `*`, an array extent, or its typedef does. -/
theorem C10_pointer_parameter (ty : OType) (longQ ptrs : Nat) (arrays : List (Option Int)) :
    (VType.mk ty longQ ptrs arrays).isPointerType = (ptrs != 0 || arrays.length != 0 || ty.isPointerType) := by
  simp [VType.isPointerType]

example : (VType.mk (.prim "float") 0 0 [some 2, none, some 3]).dtype.flatten
    = repeatList 6 [Leaf.prim "float"] := by
  rw [C10_array_parameter_flatten]
  decide +kernel

/-- Clause (b) for every kernel signature (any number of parameters, including none; primitives,
    vectors, typedef chains, pointers, arrays of constant or non-constant extent): the kernel
    loaded from the cache decides like the freshly compiled one. -/
theorem C10_fresh_eq_cached_signature (kname : String) (ps : List Param) (tv : Bool) (args : List Arg) :
    ∃ m', KernelMeta.fromJson (metaOfSignature kname ps).depth (metaOfSignature kname ps).toJson = .ok m' ∧
      validate m' tv args = validate (metaOfSignature kname ps) tv args :=
  let ⟨hi, hw, _⟩ := metaOfSignature_facts C10_code_shape.2.2.1 kname ps
  C10_fresh_eq_cached _ tv args hw hi

/-- The zero-parameter kernel (F12): fresh and cached both accept exactly the empty list. -/
theorem C10_zero_parameter_kernel (kname : String) (args : List Arg) :
    validate (metaOfSignature kname []) true args = .ok () ↔ args = [] := by
  rw [C10_validate_spec _ _ (metaOfSignature_facts C10_code_shape.2.2.1 kname []).1]
  have : (metaOfSignature kname []).arguments = [] := by simp [metaOfSignature]
  rw [this]
  cases args <;> simp [Compatible]

example : (metaOfSignature "k" [⟨true, .mk (.tdef (.mk (.prim "int") 1 0 [])) 0 1 [some 4], "x"⟩]).arguments.length = 1 :=
  (metaOfSignature_facts C10_code_shape.2.2.1 _ _).2.2

end Occa.Dtype.C10
