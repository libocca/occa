/-
C13 — Preprocessing agrees with the C preprocessor on the supported subset.

Models: OccaModel/CppCond.lean (status machine + nested-group reference), OccaModel/CppEval.lean
(`#if` evaluation + C reference), OccaModel/CppExpand.lean (macro expansion + hide-set reference),
OccaModel/Cpp.lean (of it only `refExpand`, the hide-set reference on a line of plain tokens),
over the generated OccaGen/PpStatus.lean (flag values, shape of processElif / lineIsTrue /
binaryOpNode::evaluate / macroArgument::expand, operator precedences).

Clauses of the property:
  (a) "keeps exactly the lines ... that the C preprocessor does", "#elif conditions after a taken group
      never cause an error or a crash"                    C13_lines, C13_stack_balanced,
                                                          C13_lines_needs_F17, C13_original_elif_error_pushes
                                                          (the pinned code fails it)
  (b) robustness on ANY directive sequence                 C13_never_pops_base, C13_stray_directive_is_error
  (c) "the skipped side of &&, || or ?: never causes an error or a crash"
                                                          C13_no_trap_guarded, C13_eager_and_traps
                                                          C13_eval_agrees_with_C (value agreement on the
                                                          class S64; outside it: checked by the run)
  (d) "produces exactly the token sequence"                C13_expand_fuel_monotone,
                                                          C13_expand_terminates_full / _full_fails / _partial,
                                                          C13_expand_agrees_full / _full_fails / _partial
  tie                                                      C13_flags_are_distinct_bits, C13_tree_is_repaired
-/
import OccaProofs.Lemmas.CppCond
import OccaProofs.Lemmas.CppObj
import OccaProofs.Lemmas.CppEvalAgree
import OccaModel.Cpp

namespace Occa.Cpp.C13
open Occa Occa.Cpp

/-- the five ppStatus flags are distinct single bits: the record of booleans represents `int status`
    exactly (re-checked against the constants regenerated from preprocessor.cpp) -/
theorem C13_flags_are_distinct_bits :
    ∀ r i f e n r' i' f' e' n' : Bool,
      (Status.mk r i f e n).word = (Status.mk r' i' f' e' n').word →
      r = r' ∧ i = i' ∧ f = f' ∧ e = e' ∧ n = n' := by
  decide +kernel

/-- the tree under test contains the repairs the full-strength theorems are about: processElif looks at
    the state first (F17), lineIsTrue does not push (F17), && / || short-circuit (F18, C14's),
    __VA_ARGS__ keeps its commas (F61), `defined X` without parentheses works (F64).  On a tree without them
    this obligation fails and the canonical replays of the corpus give the concrete failing inputs. -/
theorem C13_tree_is_repaired : Cfg.current = Cfg.repaired := by
  decide

/-- For every well-nested directive list (the flattening of a tree of if-sections, any depth) in which the
    conditions that the C standard EVALUATES are clean — all others may be malformed or crash when
    evaluated — the status machine keeps exactly the lines of the nested-group rule, evaluates exactly
    the conditions the standard evaluates, and ends in its initial state. -/
theorem C13_lines (cfg : Cfg) (hcfg : cfg.elifFirst = true) (it : Items) (hcl : it.evalClean true = true) :
    runLines cfg CM.init it.flatten = ⟨CM.init, it.keepRef true, it.evalRef true⟩ := by
  have h := items_ok cfg hcfg it CM.init true [] rfl nofun rfl hcl
  simp only [List.append_nil] at h
  rw [h]
  simp [runLines, Run.pre]

example : (Items.sect (.expr .tt) (.text 0 .nil) (.elif .trap (.text 1 .nil) (.else_ (.text 2 .nil))) (.text 3 .nil)).evalClean true = true := by
  decide

/-- the machine ends with the stack it started with (only the entry pushed by init()), without errors
    and without having crashed -/
theorem C13_stack_balanced (cfg : Cfg) (hcfg : cfg.elifFirst = true) (it : Items) (hcl : it.evalClean true = true) :
    let m := (runLines cfg CM.init it.flatten).m
    m.stack = CM.init.stack ∧ m.errors = 0 ∧ m.crashed = false ∧ m.status = CM.init.status := by
  intro m
  have h : m = CM.init := by simp [m, C13_lines cfg hcfg it hcl]
  rw [h]
  simp [CM.init]

/-- the same statement is FALSE for the order of tests in the pinned code (`#if 1 / #elif <crash>`):
    this is defect F17 -/
theorem C13_lines_needs_F17 :
    ¬ (∀ it : Items, it.evalClean true = true →
        runLines Cfg.original CM.init it.flatten = ⟨CM.init, it.keepRef true, it.evalRef true⟩) := by
  intro h
  have := h (.sect (.expr .tt) (.text 0 .nil) (.elif .trap (.text 1 .nil) .endif) .nil) (by decide)
  revert this
  decide

/-- in the pinned code a malformed `#elif` condition (even an evaluated one) also unbalanced the stack -/
theorem C13_original_elif_error_pushes :
    (runLines Cfg.original CM.init
      [.dir (.if_ .ff), .dir (.elif .err), .dir .endif]).m.stack.length = 2 := by
  decide

/-- For ANY sequence of conditional directives with ANY evaluation results (malformed sequences
    included) and either variant of the code: popStatus() is never executed on an empty stack, the entry
    pushed by init() (the uninitialised member) is never popped into `status`, and exactly one of
    reading / ignoring is set. -/
theorem C13_never_pops_base (cfg : Cfg) (ds : List Dir) :
    let m := ds.foldl (fun a d => (a.step cfg d).1) CM.init
    m.pops0 = 0 ∧ m.popsBase = 0 ∧ 1 ≤ m.stack.length ∧ m.status.reading = !m.status.ignoring := by
  have h := Inv.run cfg ds CM.init inv_init
  exact ⟨h.pops0, h.popsBase, List.length_pos_iff.mpr h.nonempty, h.xor⟩

example : ([Dir.endif, .else_, .elif .tt, .if_ .tt, .else_, .else_, .endif, .endif].foldl
    (fun a d => (a.step Cfg.repaired d).1) CM.init).errors = 5 := by decide

/-- a stray `#elif` / `#else` / `#endif` (no open #if) is reported and changes nothing else -/
theorem C13_stray_directive_is_error (cfg : Cfg) (m : CM) (d : Dir) (hc : m.crashed = false)
    (hf : m.status.foundIf = false) (hd : (∃ c, d = .elif c) ∨ d = .else_ ∨ d = .endif) :
    (m.step cfg d).1 = { m with errors := m.errors + 1 } := by
  rcases hd with ⟨c, rfl⟩ | rfl | rfl <;>
    simp [CM.step, CM.doElif, CM.doElse, CM.doEndif, hc, hf]

example : (CM.init.step Cfg.repaired .endif).1 = { CM.init with errors := 1 } :=
  C13_stray_directive_is_error Cfg.repaired CM.init .endif rfl rfl (Or.inr (Or.inr rfl))

/-- With short-circuit evaluation the right operand of `&&` (left false), of `||` (left true) and the
    unselected arm of `?:` are never evaluated: the result does not depend on that operand at all, in
    particular not on whether evaluating it would crash (`1/0`). -/
theorem C13_no_trap_guarded (a x y : Expr) (p : PVal) (ha : eval true a = .val p) :
    (p.truth = false → eval true (.bin .land a x) = .val (ofBool false)) ∧
    (p.truth = true → eval true (.bin .lor a x) = .val (ofBool true)) ∧
    (p.truth = true → eval true (.tern a y x) = eval true y) ∧
    (p.truth = false → eval true (.tern a x y) = eval true y) := by
  refine ⟨?_, ?_, ?_, ?_⟩ <;> intro h <;> simp [eval, ha, h]

example : eval true (.bin .land (.lit false 0) (.bin .div (.lit false 1) (.lit false 0))) = .val (ofBool false) := by
  decide

/-- the pinned evaluator (both operands first) crashes on `0 && 1/0`: defect F18 -/
theorem C13_eager_and_traps :
    eval false (.bin .land (.lit false 0) (.bin .div (.lit false 1) (.lit false 0))) = .trap ∧
    eval false (.bin .lor (.lit false 1) (.bin .mod (.lit false 1) (.lit false 0))) = .trap := by
  decide

/-- On the class `S64` (unary + - ~ applied to 64-bit integer operands; arithmetic, bitwise and relational
    operators with at least one 64-bit integer operand, the other may be a bool-typed result like `a < b`;
    bool-typed results otherwise feed `!`, `&&`, `||`, `?:`; no shifts; both arms of `?:` of the same kind and
    signedness) OCCA's evaluator with the repairs F60 (intmax_t/uintmax_t literals) and F18
    (short-circuit) computes exactly what C computes: whenever C gives the expression a value (no signed
    overflow, no division by zero in an EVALUATED operand), `evaluate()` does not crash and returns that
    value; hence the `#if` takes the same branch.  Outside the class the counter-examples are the recorded
    findings (F66: `~bool`, `bool & bool`, `?:` with mixed signedness; shifts: C14's F20). -/
theorem C13_eval_agrees_with_C (e : Expr) (hs : S64 e = true) (c : CVal) (hc : evalC e = .val c) :
    (∃ p, eval true e = .val p ∧ p.v = c.v) ∧ evalCR true (some e) = evalCCR (some e) := by
  obtain ⟨p, hp, rfl, -, -⟩ := eval_agrees e hs _ hc
  refine ⟨⟨p, hp, rfl⟩, ?_⟩
  simp only [evalCR, evalCCR, hp, hc, absV_ne_zero]

example : S64 (.bin .eq (.bin .add (.bin .lt (.lit false 1) (.lit false 2)) (.lit true 1)) (.lit false 2)) = true := by
  decide

example : S64 (.bin .land (.bin .gt (.bin .add (.lit false 2147483647) (.lit false 1)) (.lit false 0))
                          (.un .not (.bin .div (.lit true 7) (.lit false 2)))) = true := by decide

/-! Clause (d).  `expandLine` is OCCA's algorithm (fuel-indexed), `refExpand` the C standard's (hide sets).  What is
PROVED here: fuel is only a proof device (monotonicity: a result, once reached, is the result for every
larger amount); the expansion does NOT always terminate (finding F63, with the translation unit); OCCA and
the standard do NOT always agree (finding F62, with the translation unit); on tables of object-like macros
it does terminate and they do agree (the two `_partial` theorems).  Agreement on the generated class with
function-like macros (acyclic tables; self-reference without macro names in arguments) is CHECKED by the
three-way differential run, not proved.  -/

/-- if the expansion of a line finishes with `n` units of fuel it finishes with the same result for every
    larger amount: "terminates" and "the result" are properties of the table and the line alone -/
theorem C13_expand_fuel_monotone (vc : XCfg) (s : PP) (toks : List Tok) (n k : Nat) (r : Res (List Tok × PP))
    (h : expandLine vc n s toks = r) (hne : r ≠ .outOfFuel) : expandLine vc (n + k) s toks = r :=
  drain_mono_le vc _ _ r hne n k h

/-- FULL statement (termination): for every macro table and every source line some amount of fuel suffices -/
def C13_expand_terminates_full : Prop :=
  ∀ (vc : XCfg) (tbl : List Macro) (toks : List Tok), ∃ n, expandLine vc n { table := tbl } toks ≠ .outOfFuel

/-- it is false: with `#define f(x) g(x)` / `#define g(x) f(x)` the line `f(1)` is expanded for ever
    (the `)` that ends f's expansion is consumed as the end of g's argument list, which re-enables f
    before g's expansion is re-scanned).  Finding F63; the harness observes the hang on the real code. -/
theorem C13_expand_terminates_full_fails : ¬ C13_expand_terminates_full := by
  intro h
  obtain ⟨n, hn⟩ := h ⟨true, true⟩ tblFG [tId "f", tOp "(", tNum "1", tOp ")"]
  exact hn (expand_fg_diverges ⟨true, true⟩ n)

/-- PARTIAL (the strongest termination statement proved): on every table of OBJECT-LIKE macros — whatever
    they refer to: chains, cycles, self-reference, empty bodies — every line is expanded with finitely much
    fuel.  (The time is bounded by the length of `trace`: over the pending tokens, the processToken steps of their
    complete expansion relative to the macros enabled when they will be processed; each step takes one entry
    off.)  Function-like macros are excluded by the counter-example above; `defined` is excluded because that
    identifier is a built-in function-like macro. -/
theorem C13_expand_terminates_partial (vc : XCfg) (tbl : List Macro) (toks : List Tok) (hobj : ObjTable tbl)
    (hnd : NoDefined vc tbl) (ht : ∀ t ∈ toks, t.text ≠ "defined") :
    ∃ n, expandLine vc n { table := tbl } toks ≠ .outOfFuel :=
  have ⟨_, h⟩ := expandLine_obj vc tbl toks hobj hnd ht
  ⟨_, fun e => nomatch h.symm.trans e⟩

example : ObjTable [⟨"A", false, 0, false, [.raw (tId "B"), .raw (tId "A")], false⟩,
                    ⟨"B", false, 0, false, [.raw (tId "A")], false⟩] ∧
          NoDefined ⟨true, true⟩ [⟨"A", false, 0, false, [.raw (tId "B"), .raw (tId "A")], false⟩,
                          ⟨"B", false, 0, false, [.raw (tId "A")], false⟩] := by
  unfold ObjTable NoDefined
  decide

/-- FULL statement (agreement): whenever both algorithms finish they produce the same tokens -/
def C13_expand_agrees_full : Prop :=
  ∀ (tbl : List Macro) (toks : List Tok) (n : Nat) (o : List Tok) (s' : PP) (r : List Tok),
    expandLine ⟨true, true⟩ n { table := tbl } toks = .ok (o, s') → refExpand n tbl toks = .ok r →
    o.filter (fun t => !t.isNl) = r

/-- it is false: `#define A A B`, `#define f(x) x`, `f(A)`: OCCA gives `A B B`, the standard `A B`
    (the `A` that was left alone inside its own expansion is expanded when f's expansion is re-scanned:
    no "blue paint").  Finding F62. -/
theorem C13_expand_agrees_full_fails : ¬ C13_expand_agrees_full := by
  intro h
  have := h [⟨"A", false, 0, false, [.raw (tId "A"), .raw (tId "B")], false⟩,
             ⟨"f", true, 1, false, [.arg 0], false⟩]
            [tId "f", tOp "(", tId "A", tOp ")"] 16
            [tId "A", tId "B", tId "B", nlTok]
            { table := [⟨"A", false, 0, false, [.raw (tId "A"), .raw (tId "B")], false⟩,
                        ⟨"f", true, 1, false, [.arg 0], false⟩] }
            [tId "A", tId "B"] (by decide +kernel) (by decide +kernel)
  cases this

/-- PARTIAL (the strongest agreement statement proved): on every table of OBJECT-LIKE macros — chains,
    cycles, self-reference, empty bodies, redefinition order irrelevant — whenever both algorithms finish,
    OCCA's disable-until-end-marker expansion of a line produces exactly the tokens of the C standard's
    hide-set expansion of the same tokens (the newline token included, it is an ordinary token for the
    reference).  Both put out the `some` entries of `trace` (`expandLine_obj`, `expandR_trace`); the state of OCCA's
    machine stands for the reference's list `toH`: a macro is in the hide set of a pending token iff it will be
    disabled when OCCA processes that token.  Function-like macros are excluded by the two counter-examples above. -/
theorem C13_expand_agrees_partial (vc : XCfg) (tbl : List Macro) (toks : List Tok) (hobj : ObjTable tbl)
    (hnd : NoDefined vc tbl) (ht : ∀ t ∈ toks, t.text ≠ "defined")
    (n n' : Nat) (o : List Tok) (s' : PP) (r : List HTok)
    (h1 : expandLine vc n { table := tbl } toks = .ok (o, s'))
    (h2 : expandR n' tbl ((toks ++ [nlTok]).map (fun t => (⟨t, []⟩ : HTok))) = .ok r) :
    o = r.map (·.tok) := by
  obtain ⟨s0, h0⟩ := expandLine_obj vc tbl toks hobj hnd ht
  rw [expandR_trace vc hobj n' _ r h2]
  exact congrArg Prod.fst (drain_det vc _ [] n _ _ _ h1 h0)

/-- the tokens of a finished expansion -/
def okToks : Res (List Tok × PP) → Option (List Tok)
  | .ok (a, _) => some a
  | _ => none
def okRef : RRes (List HTok) → Option (List Tok)
  | .ok r => some (r.map (·.tok))
  | _ => none

/-- the hypotheses are satisfiable with a cyclic table: `#define A B A`, `#define B A`, line `A x B`: both
    algorithms finish and give `A A x B A` -/
example :
    okToks (expandLine ⟨true, true⟩ 40 { table := [⟨"A", false, 0, false, [.raw (tId "B"), .raw (tId "A")], false⟩,
                                           ⟨"B", false, 0, false, [.raw (tId "A")], false⟩] }
        [tId "A", tId "x", tId "B"]) = some [tId "A", tId "A", tId "x", tId "B", tId "A", nlTok] ∧
    okRef (expandR 40 [⟨"A", false, 0, false, [.raw (tId "B"), .raw (tId "A")], false⟩,
                 ⟨"B", false, 0, false, [.raw (tId "A")], false⟩]
        (([tId "A", tId "x", tId "B"] ++ [nlTok]).map (fun t => (⟨t, []⟩ : HTok)))) =
      some [tId "A", tId "A", tId "x", tId "B", tId "A", nlTok] := by
  decide +kernel

end Occa.Cpp.C13
