/-
C15 — Printing a parsed program preserves its meaning and re-parses identically.

Model: OccaModel/Expr.lean (expression parser, node printers, tokenizer for printed text) and
OccaModel/ExprShape.lean (token-level shape of a C expression) over the generated
OccaGen/OpTable.lean.  Clause by clause:
  (1) for every token sequence with the shape of a C expression that the parser accepts, the
      tokens printed from the parsed tree ARE the tokens that were parsed      C15_print_parse_tokens
      hence a C++ compiler reads the printed expression as the original one ("same values")
  (2) ... and the printed tokens parse back to the identical tree               C15_roundtrip
  (1'),(2') every well-shaped sequence IS accepted (no hidden rejections)       C15_accepts_and_roundtrips
  (3) operator precedence and associativity are the C/C++ ones                  C15_table_is_cxx, C15_table_complete
  (3') the parsed tree is precedence-correct (parentheses wherever needed) C15_parse_image
  (4) the tokenizer's operator spellings are unambiguous                        C15_registered_spellings_unique
  (5) string / character escapes are preserved                                  C15_escape_roundtrip
  (6) adjacent prefix operators are read back as the same two operators         C15_prefix_pair_relex
Statements, declarations and the text level beyond (5), (6) are covered by the harness oracles
(re-parse identity of whole programs, g++ evaluation of original vs printed) and by the
correspondence run, not by theorems.
-/
import OccaModel.Expr
import OccaProofs.Lemmas.ExprMain

namespace Occa.Expr.C15
open Occa Occa.Gen Occa.Expr

/-- (1) **print ∘ parse = id on tokens.**  `ts` is any sequence of tokenizer tokens (`Lexed`) with the
    token-level shape of a C expression (`CShape`: operands and operators alternate, pairs match, every
    `:` has its `?`; `+ - * & ++ -- ::` are classified by position, independently of the parser).  If the
    parser accepts it, the token sequence printed from the resulting tree is `ts` itself — so nothing
    about precedence, associativity, grouping or operator identity is lost or invented by printing. -/
theorem C15_print_parse_tokens (ts : List Tok) (e : Expr) (hshape : CShape ts = true) (hlex : Lexed ts)
    (hparse : parse ts = .ok e) : printToks e = ts := by
  obtain ⟨e', h1, h2, _⟩ := parse_accepts ts hshape hlex
  cases h1.symm.trans hparse
  exact h2

/-- (2) the printed tokens parse back to the structurally identical tree. -/
theorem C15_roundtrip (ts : List Tok) (e : Expr) (hshape : CShape ts = true) (hlex : Lexed ts)
    (hparse : parse ts = .ok e) : parse (printToks e) = .ok e := by
  rw [C15_print_parse_tokens ts e hshape hlex hparse]; exact hparse

/-- (1'), (2') **no hidden rejections**: EVERY token sequence with the shape of a C expression is accepted
    by the (repaired) parser, its printed tokens are the sequence itself, and they parse back to the same
    tree.  (`C15_print_parse_tokens` alone would be vacuous for inputs the parser rejects; before the repairs
    `a - -b`, `a[i++]`, `(int) -x`, `a ? b = c : d`, `a ? b ? c : d : e` were such inputs.) -/
theorem C15_accepts_and_roundtrips (ts : List Tok) (hshape : CShape ts = true) (hlex : Lexed ts) :
    ∃ e, parse ts = .ok e ∧ printToks e = ts ∧ parse (printToks e) = .ok e := by
  obtain ⟨e, h1, h2, _⟩ := parse_accepts ts hshape hlex
  exact ⟨e, h1, h2, by rw [h2]; exact h1⟩

/-- (3') **the parser's image ("ParserImage")**: the tree built from a well-shaped sequence is precedence-correct
    (`canonB`): every operand binds at least as tightly as its position under its parent operator requires
    (left operands: tighter, or equal on a left-to-right level; right operands: tighter, or equal on a right-to-left
    level), so looser sub-expressions occur only inside explicit `paren` nodes, call arguments, subscripts, tuples and
    the middle operand of `?:`.  With `C15_table_is_cxx` this is the grouping a C/C++ compiler gives the same tokens. -/
theorem C15_parse_image (ts : List Tok) (e : Expr) (hshape : CShape ts = true) (hlex : Lexed ts)
    (hparse : parse ts = .ok e) : canonB e = true := by
  obtain ⟨e', h1, _, h3⟩ := parse_accepts ts hshape hlex
  cases h1.symm.trans hparse
  exact h3

example : canonB (.bin .add (.ident "a") (.bin .mult (.ident "b") (.ident "c"))) = true ∧
          canonB (.bin .mult (.bin .add (.ident "a") (.ident "b")) (.ident "c")) = false ∧
          canonB (.bin .mult (.paren (.bin .add (.ident "a") (.ident "b"))) (.ident "c")) = true := by decide +kernel

/-- the hypotheses are satisfiable by the adjacency-critical and the nested cases:
    `a - - b * ( int ) - c ? x ++ : y [ i -- ] , f ( p , & q )` -/
example :
    let ts : List Tok := [.ident "a", .op .sub, .op .sub, .ident "b", .op .mult, .op .parenthesesStart, .vtype "int" 0,
      .op .parenthesesEnd, .op .sub, .ident "c", .op .questionMark, .ident "x", .op .leftIncrement, .op .colon,
      .ident "y", .op .bracketStart, .ident "i", .op .leftDecrement, .op .bracketEnd, .op .comma, .ident "f",
      .op .parenthesesStart, .ident "p", .op .comma, .op .bitAnd, .ident "q", .op .parenthesesEnd]
    CShape ts = true ∧ lexedB ts = true ∧ (parse ts).toOption.isSome = true := by
  decide +kernel

inductive Arity | prefix | postfix | binary | ternary
  deriving DecidableEq, Repr

/-- Reference: the operator precedence table of the C++ standard (cppreference numbering), with the
    conditional operator one level above assignment as in the C grammar (6.5.15 / 6.5.16), which
    makes the levels 16, 17, 18 instead of 16, 16, 17.  `true` = right-to-left. -/
def reference : List (String × Arity × Nat × Bool) := [
  ("::", .binary, 1, false), ("::", .prefix, 1, false),
  ("++", .postfix, 2, false), ("--", .postfix, 2, false), (".", .binary, 2, false), ("->", .binary, 2, false),
  ("++", .prefix, 3, true), ("--", .prefix, 3, true), ("+", .prefix, 3, true), ("-", .prefix, 3, true),
  ("!", .prefix, 3, true), ("~", .prefix, 3, true), ("()", .prefix, 3, true), ("*", .prefix, 3, true),
  ("&", .prefix, 3, true), ("sizeof", .prefix, 3, true), ("sizeof...", .prefix, 3, true), ("new", .prefix, 3, true),
  ("delete", .prefix, 3, true), ("typeid", .prefix, 3, true), ("noexcept", .prefix, 3, true), ("alignof", .prefix, 3, true),
  (".*", .binary, 4, false), ("->*", .binary, 4, false),
  ("*", .binary, 5, false), ("/", .binary, 5, false), ("%", .binary, 5, false),
  ("+", .binary, 6, false), ("-", .binary, 6, false),
  ("<<", .binary, 7, false), (">>", .binary, 7, false),
  ("<=>", .binary, 8, false),
  ("<", .binary, 9, false), ("<=", .binary, 9, false), (">", .binary, 9, false), (">=", .binary, 9, false),
  ("==", .binary, 10, false), ("!=", .binary, 10, false),
  ("&", .binary, 11, false), ("^", .binary, 12, false), ("|", .binary, 13, false),
  ("&&", .binary, 14, false), ("||", .binary, 15, false),
  ("?", .ternary, 16, true), (":", .ternary, 16, true), ("?:", .ternary, 16, true),
  ("=", .binary, 17, true), ("+=", .binary, 17, true), ("-=", .binary, 17, true), ("*=", .binary, 17, true),
  ("/=", .binary, 17, true), ("%=", .binary, 17, true), ("&=", .binary, 17, true), ("|=", .binary, 17, true),
  ("^=", .binary, 17, true), ("<<=", .binary, 17, true), (">>=", .binary, 17, true), ("throw", .prefix, 17, true),
  (",", .binary, 18, false)]

/-- how the expression parser uses an operator -/
def arityOf (o : Op) : Option Arity :=
  if o.ty == T.questionMark || o.ty == T.colon || o.ty == T.ternary then some .ternary
  else if has o.ty T.binary then some .binary
  else if has o.ty T.rightUnary then some .postfix
  else if has o.ty T.leftUnary then some .prefix
  else none

def refLookup (s : String) (a : Arity) : Option (Nat × Bool) :=
  (reference.find? fun e => e.1 == s && e.2.1 == a).map fun e => (e.2.2.1, e.2.2.2)

/-- (3) every operator the expression parser treats as prefix, postfix, binary or ternary has the
    precedence level and the associativity of the C/C++ table. -/
theorem C15_table_is_cxx : ∀ o ∈ Op.all, ∀ a, arityOf o = some a →
    refLookup o.str a = some (o.prec, !leftAssoc o.prec) := by
  decide +kernel

/-- the table has no other rows: every reference row is an operator of the parser -/
theorem C15_table_complete : ∀ e ∈ reference, ∃ o ∈ Op.all, o.str = e.1 ∧ arityOf o = some e.2.1 := by
  -- the operators of the rows, in the order of `reference` (given, not searched for: `decide` on the statement as it
  -- stands is ten times as dear)
  let ws : List Op := [.scope, .globalScope, .rightIncrement, .rightDecrement, .dot, .arrow, .leftIncrement,
    .leftDecrement, .positive, .negative, .not_, .tilde, .parenCast, .dereference, .address, .sizeof_, .sizeof_pack_,
    .new_, .delete_, .typeid_, .noexcept_, .alignof_, .dotStar, .arrowStar, .mult, .div, .mod, .add, .sub, .leftShift,
    .rightShift, .compare, .lessThan, .lessThanEq, .greaterThan, .greaterThanEq, .equal, .notEqual, .bitAnd, .xor_,
    .bitOr, .and_, .or_, .questionMark, .colon, .ternary, .assign, .addEq, .subEq, .multEq, .divEq, .modEq, .andEq,
    .orEq, .xorEq, .leftShiftEq, .rightShiftEq, .throw_, .comma]
  have h : (ws.map fun o => (o.str, arityOf o)) = reference.map fun e => (e.1, some e.2.1) := by decide +kernel
  intro e he
  have hm : (e.1, some e.2.1) ∈ ws.map fun o => (o.str, arityOf o) := by
    rw [h]; exact List.mem_map.2 ⟨e, he, rfl⟩
  obtain ⟨o, -, ho⟩ := List.mem_map.1 hm
  exact ⟨o, mem_all o, congrArg Prod.fst ho, congrArg Prod.snd ho⟩

example : arityOf .sub = some .binary ∧ arityOf .negative = some .prefix ∧ Op.prec .sub = 6 := by decide +kernel

/-- (4) no spelling is registered twice in the tokenizer's operator trie, so the longest match
    determines the operator. -/
theorem C15_registered_spellings_unique :
    ∀ a ∈ registered, ∀ b ∈ registered, a.str = b.str → a = b := by
  intro a ha b hb h
  have := find?_str a ha
  rw [h, find?_str b hb] at this
  exact (Option.some.inj this).symm

/-- a character that does not start an escaped delimiter is kept -/
private theorem unescape_cons (c x : Char) (rest : List Char) (h : x = '\\' → rest.head? ≠ some c) :
    unescape c (x :: rest) = x :: unescape c rest := by
  cases rest with
  | nil => rfl
  | cons y ys =>
    have : ¬ (x = '\\' ∧ y = c) := fun ⟨h1, h2⟩ => h h1 (by simp [h2])
    simp [unescape, this]

private theorem unescape_escapeFrom (c : Char) (hc : c ≠ '\\') (hflag : escapeSkipsIndex0 = false) :
    ∀ (s : List Char) (i : Nat), (escapeFrom i c s).head? ≠ some c ∧ unescape c (escapeFrom i c s) = s := by
  intro s
  induction s with
  | nil => intro i; simp [escapeFrom, unescape]
  | cons x xs ih =>
    intro i
    obtain ⟨ih1, ih2⟩ := ih (i + 1)
    by_cases hx : x = c
    · -- the inserted backslash is dropped, the delimiter stays
      subst hx
      have e : escapeFrom i x (x :: xs) = '\\' :: x :: escapeFrom (i + 1) x xs := by simp [escapeFrom, hflag]
      have u : unescape x ('\\' :: x :: escapeFrom (i + 1) x xs) = unescape x (x :: escapeFrom (i + 1) x xs) := by
        simp [unescape]
      rw [e, u, unescape_cons x x _ (fun h => absurd h hc), ih2]
      exact ⟨by simpa using Ne.symm hc, rfl⟩
    · have e : escapeFrom i c (x :: xs) = x :: escapeFrom (i + 1) c xs := by simp [escapeFrom, hx]
      rw [e, unescape_cons c x _ (fun _ => ih1), ih2]
      exact ⟨by simpa using hx, rfl⟩

/-- (5) what `stringNode::print` / `charNode::print` write between the quotes is read back by the
    tokenizer's `unescape` as the same value, for every value (delimiter `"` or `'`). -/
theorem C15_escape_roundtrip (c : Char) (hc : c ≠ '\\') (s : List Char) :
    unescape c (escape c s) = s :=
  (unescape_escapeFrom c hc (by decide) s 0).2

example : escape '"' "\"abc".toList = "\\\"abc".toList := by decide +kernel

/-- the level-3 prefix operators that `leftUnaryOpNode::print` writes: `! + - ~ ++ -- * &`
    (`::`, `sizeof`, `throw` and casts are not among them) -/
def prefixOps : List Op := Op.all.filter fun o => has o.ty T.leftUnary && !has o.ty T.special && o.prec == 3

def relexOk (o1 o2 : Op) : Bool :=
  match lex (toStr (.lu o1 (.lu o2 (.ident "x")))) with
  | .ok [.op a, .op b, .ident "x"] => a.str == o1.str && b.str == o2.str
  | _ => false

/-- (6) for every two prefix operators `o1 o2`, the text `leftUnaryOpNode::print` writes for
    `o1 (o2 x)` is read back as a token spelled `o1`, a token spelled `o2` and `x`
    (so `- -x` is not read back as `--x`). -/
theorem C15_prefix_pair_relex : ∀ o1 ∈ prefixOps, ∀ o2 ∈ prefixOps, relexOk o1 o2 = true := by
  decide +kernel

example : toStr (.lu .negative (.lu .negative (.ident "x"))) = "- -x".toList := by decide +kernel

end Occa.Expr.C15
