/-
C28 — The trie returns the longest stored prefix, frozen or not.

Model: OccaModel/Trie.lean (trieNode / trie<TM> after the repairs F32, F33, FC28a-c).
`Trie.run {} ops` executes a history `ops` of add / remove / freeze / defrost / clear /
autoFreeze operations from the empty trie (`none` = the C++ would trap: out-of-range read or
write of the frozen arrays or of `values`); `specRun [] ops` is the finite map the history
denotes (association list, distinct keys, `specAdd` overwrites or appends, `specRemove` deletes).

Statement of the property, clause by clause — every theorem is for ALL histories, ALL queries,
any character type with a decidable strict total order, any value type:
  (a) no operation of any history traps                               C28_history_no_trap
  (b) getLongest = longest stored prefix with its latest value        C28_getLongest, C28_table (+ C28_longestPrefix_some/none/terminator,
                                                                      C28_spec_* : what "stored" and "latest" mean)
  (c) get / has succeed exactly for stored keys                       C28_get, C28_has, C28_has_sized, C28_has_char
  (d) size() counts the stored keys                                   C28_size (+ C28_spec_distinct_keys), C28_isEmpty
  (e) the answers are the same frozen or not                          C28_frozen_eq_unfrozen, C28_freeze_flattening
-/
import OccaProofs.Lemmas.TrieInv

namespace Occa.Trie.C28

section Spec
variable {α V : Type} [DecidableEq α]

/-- after `add k v` the key `k` is stored with value `v` -/
theorem C28_spec_lookup_add_same (M : List (List α × V)) (k : List α) (v : V) :
    lookup k (specAdd M k v) = some v := by
  rw [lookup_specAdd, if_pos rfl]

/-- `add k v` changes no other key -/
theorem C28_spec_lookup_add_other (M : List (List α × V)) (k k' : List α) (v : V) (h : k' ≠ k) :
    lookup k' (specAdd M k v) = lookup k' M := by
  rw [lookup_specAdd, if_neg h]

/-- after `remove k` the key `k` is not stored -/
theorem C28_spec_lookup_remove_same (M : List (List α × V)) (k : List α) :
    lookup k (specRemove M k) = none := by
  rw [lookup_specRemove, if_pos rfl]

/-- `remove k` changes no other key -/
theorem C28_spec_lookup_remove_other (M : List (List α × V)) (k k' : List α) (h : k' ≠ k) :
    lookup k' (specRemove M k) = lookup k' M := by
  rw [lookup_specRemove, if_neg h]

/-- `longestPrefix M q = some (n, v)` says exactly: the first `n` characters of `q` are a stored
    key with value `v`, and no longer prefix of `q` is stored -/
theorem C28_longestPrefix_some (M : List (List α × V)) (q : List α) (n : Nat) (v : V) :
    longestPrefix M q = some (n, v) ↔
      n ≤ q.length ∧ lookup (q.take n) M = some v ∧
        ∀ m, n < m → m ≤ q.length → lookup (q.take m) M = none := by
  rw [longestPrefix, longestPrefix_go_eq, longestTake_some_iff]

/-- `longestPrefix M q = none` says exactly: no prefix of `q` (not even the empty one) is stored -/
theorem C28_longestPrefix_none (M : List (List α × V)) (q : List α) :
    longestPrefix M q = none ↔ ∀ m, m ≤ q.length → lookup (q.take m) M = none := by
  rw [longestPrefix, longestPrefix_go_eq, longestTake_none_iff]

/-- why the C-string entry point `getLongest(const char*)` (length `INT_MAX`, used by the
    tokenizer on the rest of the source text) is sound: if the terminator `z` occurs in no stored
    key, nothing from the terminator on influences the answer -/
theorem C28_longestPrefix_terminator (M : List (List α × V)) (q rest : List α) (z : α)
    (hz : ∀ e ∈ M, z ∉ e.1) : longestPrefix M (q ++ z :: rest) = longestPrefix M q := by
  rw [longestPrefix_eq_longestBy, longestPrefix_eq_longestBy]
  refine longestBy_append_stop _ q rest z fun s => lookup_eq_none_iff.mpr fun hmem => ?_
  obtain ⟨e, he, hek⟩ := List.mem_map.mp hmem
  exact hz e he (hek ▸ List.mem_append_right _ List.mem_cons_self)

end Spec

variable {α V : Type} [DecidableEq α] [LT α] [DecidableRel (α := α) (· < ·)] [Inhabited α] [TotalLT α]

/-- the keys of the map denoted by a history are pairwise distinct, so its length is the number
    of stored keys -/
theorem C28_spec_distinct_keys (ops : List (Op α V)) :
    ((specRun ([] : List (List α × V)) ops).map (·.1)).Nodup := by
  obtain ⟨_, _, h⟩ := inv_run (inv_init (α := α) (V := V)) ops
  exact h.nodup

/-- (a) no history traps: every write of `freeze` and every read of the frozen lookup stays
    inside the arrays, reads only written cells, and `values` is never indexed out of range -/
theorem C28_history_no_trap (ops : List (Op α V)) : (Trie.run ({} : Trie α V) ops).isSome := by
  obtain ⟨t, e, _⟩ := inv_run (inv_init (α := α) (V := V)) ops
  rw [e]; rfl

/-- (b) after any history, `getLongest(q)` is the longest stored key that is a prefix of `q`,
    with its most recently added value — whether the trie is currently frozen or not -/
theorem C28_getLongest (ops : List (Op α V)) (t : Trie α V) (h : Trie.run {} ops = some t) (q : List α) :
    t.longest q = some (longestPrefix (specRun [] ops) q) :=
  longest_eq (inv_of_run h) q

/-- (c) `get(q)` succeeds exactly when `q` is stored, and then yields its latest value -/
theorem C28_get (ops : List (Op α V)) (t : Trie α V) (h : Trie.run {} ops = some t) (q : List α) :
    t.getValue q = some (lookup q (specRun [] ops)) :=
  getValue_eq (inv_of_run h) q

/-- (c) `has(const char*)` is true exactly for stored keys (the empty key included) -/
theorem C28_has (ops : List (Op α V)) (t : Trie α V) (h : Trie.run {} ops = some t) (q : List α) :
    t.has q = some (lookup q (specRun [] ops)).isSome :=
  has_eq (inv_of_run h) q

/-- (c) `has(c, size)` / `has(std::string)`: the explicit `OCCA_ERROR` for size 0, otherwise
    true exactly for stored keys -/
theorem C28_has_sized (ops : List (Op α V)) (t : Trie α V) (h : Trie.run {} ops = some t) (q : List α) :
    t.hasSized q = if q = [] then some none else some (some (lookup q (specRun [] ops)).isSome) :=
  hasSized_eq (inv_of_run h) q

/-- (c) `has(char c)` is true exactly when some stored key starts with `c` (no dead branches
    survive a removal) -/
theorem C28_has_char (ops : List (Op α V)) (t : Trie α V) (h : Trie.run {} ops = some t) (c : α) :
    t.hasChar c = some ((specRun [] ops).any fun e => e.1.head? = some c) :=
  hasChar_eq (inv_of_run h) c

/-- (d) `size()` is the number of stored keys, frozen (`values.size()`) or not (node count) -/
theorem C28_size (ops : List (Op α V)) (t : Trie α V) (h : Trie.run {} ops = some t) :
    t.size = (specRun ([] : List (List α × V)) ops).length :=
  size_eq (inv_of_run h)

/-- (d) `isEmpty()` is true exactly when no non-empty key is stored -/
theorem C28_isEmpty (ops : List (Op α V)) (t : Trie α V) (h : Trie.run {} ops = some t) :
    t.isEmpty = (specRun ([] : List (List α × V)) ops).all fun e => e.1 = [] :=
  isEmpty_eq (inv_of_run h)

/-- (e) flattening correctness on its own, for ANY tree with sorted child maps (not only reachable
    ones): `freeze()` never writes outside the arrays, and the frozen lookup — binary search per
    level over the flattened arrays — returns exactly the result of the recursive unfrozen lookup -/
theorem C28_freeze_flattening (t : Trie α V) (hs : Sorted t.root) (q : List α) :
    ∃ tf, t.freeze = some tf ∧ tf.root = t.root ∧ tf.values = t.values ∧ tf.frozen.isSome ∧
      tf.getLongest q = some (trieGetLongest t.root q) ∧
      tf.getLongest q = t.defrost.getLongest q := by
  obtain ⟨f, e, hf⟩ := freeze_spec t
  exact ⟨_, e, rfl, rfl, rfl, getLongestFrozen_eq f t.root hf hs q, getLongestFrozen_eq f t.root hf hs q⟩

/-- (e) after any history the frozen and the unfrozen form give the same answers to every
    query: freezing or defrosting the reached state changes no `getLongest`, `get`, `has`, `size` -/
theorem C28_frozen_eq_unfrozen (ops : List (Op α V)) (t : Trie α V) (h : Trie.run {} ops = some t) (q : List α) :
    ∃ tf, t.freeze = some tf ∧ tf.frozen.isSome ∧ t.defrost.frozen = none ∧
      tf.longest q = t.defrost.longest q ∧ tf.longest q = t.longest q ∧
      tf.getValue q = t.defrost.getValue q ∧ tf.has q = t.defrost.has q ∧ tf.size = t.defrost.size := by
  have hi := inv_of_run h
  have hid := inv_defrost hi
  obtain ⟨f, e, hif⟩ := inv_freeze hi
  exact ⟨_, e, rfl, rfl, by rw [longest_eq hif, longest_eq hid], by rw [longest_eq hif, longest_eq hi],
    by rw [getValue_eq hif, getValue_eq hid], by rw [has_eq hif, has_eq hid], by rw [size_eq hif, size_eq hid]⟩

/-- a trie filled by `add`ing a table with pairwise distinct keys (how the tokenizer fills its
    operator trie) denotes exactly that table; so, by `C28_getLongest`, its `getLongest(q)` is
    `longestPrefix table q` -/
theorem C28_table (table : List (List α × V)) (hd : (table.map (·.1)).Nodup) (t : Trie α V)
    (h : Trie.run {} (table.map fun e => Op.add e.1 e.2) = some t) (q : List α) :
    t.longest q = some (longestPrefix table q) := by
  rw [C28_getLongest _ t h, specRun_add_table table [] hd]
  rfl

/-- "most recently added": right after `add k v`, `get(k)` yields `v`, whatever came before -/
theorem C28_latest_value (ops : List (Op α V)) (k : List α) (v : V) (t : Trie α V)
    (h : Trie.run {} (ops ++ [.add k v]) = some t) : t.getValue k = some (some v) := by
  rw [C28_get _ t h, specRun_append_add, C28_spec_lookup_add_same]

/-! ### the hypotheses are satisfiable by non-trivial states -/

section Examples
open Op

/-- the history of the F32 ledger entry (keys a, abc, then ab; characters as `Nat`s) -/
def exOps : List (Op Nat Nat) :=
  [.setAuto false, .add [1] 10, .add [1, 2, 3] 20, .freeze, .add [1, 2] 30, .add [] 40, .remove [1], .freeze]

example : (Trie.run ({} : Trie Nat Nat) exOps).isSome := C28_history_no_trap exOps
example : specRun ([] : List (List Nat × Nat)) exOps = [([1, 2, 3], 20), ([1, 2], 30), ([], 40)] := rfl
example : longestPrefix (specRun ([] : List (List Nat × Nat)) exOps) [1, 2, 4] = some (2, 30) := rfl
example : longestPrefix (specRun ([] : List (List Nat × Nat)) exOps) [1, 3] = some (0, 40) := rfl
example : ∃ t, Trie.run ({} : Trie Nat Nat) exOps = some t ∧ t.size = 3 ∧
    t.longest [1, 2, 4] = some (some (2, 30)) ∧ t.getValue [1] = some none ∧ t.has [] = some true := by
  obtain ⟨t, e⟩ := Option.isSome_iff_exists.mp (C28_history_no_trap exOps)
  refine ⟨t, e, ?_, ?_, ?_, ?_⟩
  · rw [C28_size exOps t e]; rfl
  · rw [C28_getLongest exOps t e]; rfl
  · rw [C28_get exOps t e]; rfl
  · rw [C28_has exOps t e]; rfl
example : ((Trie.run ({} : Trie Nat Nat) exOps).bind fun t => t.frozen.map fun f => f.baseNodeCount) = some 1 := by
  decide +kernel
example : ((exOps.filterMap fun | .add k v => some (k, v) | _ => none).map (·.1)).Nodup := by decide
example : Sorted (Node.mk none [((1 : Nat), Node.mk (some 0) []), (2, Node.mk none [(5, Node.mk (some 1) [])])]) := by
  simp [sorted_mk, KeysLt]

end Examples

end Occa.Trie.C28
