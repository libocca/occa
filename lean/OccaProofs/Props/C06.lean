/-
C06 — Kernel cache keys separate every build configuration.

Model: OccaModel/CacheKey.lean over the generated OccaGen/CacheKeyFields.lean (field lists,
combinators, renderings of serial::device::kernelHash, openmp::device::kernelHash,
kernelHeaderHash, device::setupKernelInfo).  The hash function `H`, the JSON encoder `enc`,
the embedding of texts `raw`, the hash rendering `full`, the mode constant `tweak` and the
device hash are PARAMETERS: every theorem below holds for all of them.
Statement of the property, clause by clause:
  "share a cached binary only if their effective build inputs are identical"
        C06_fields_cover     every named input is in the regenerated tables of hashed fields
        C06_table_shape      the regenerated tables have the labelled, full-width shape
        C06_injective        no collisions of H/enc/raw/full/tweak  ⇒  equal keys only for equal effective inputs
        C06_collision_reduces  without any idealisation: a key collision between different
                             effective inputs exhibits a collision of one of the parameters
  "identical builds in separate processes resolve to the same cache entry"
        C06_deterministic    the key is a function of the hashed properties and the source only
                             (no other property, no process-specific input); the two-process
                             part is checked by the harness
-/
import OccaProofs.Lemmas.CacheKey
import OccaProofs.Lemmas.CacheKeyWF
import OccaProofs.Lemmas.HashExact

namespace Occa.CacheKey.C06
open Occa.CacheKeyBase Occa.CacheKey

variable {κ σ : Type}

/-- a collision of one of the parameters of the key construction -/
inductive Collision (e : Env κ σ) : Prop
  | hash (x y : σ) (hne : x ≠ y) (h : e.H x = e.H y)
  | enc (a b : J) (hne : a ≠ b) (h : e.enc a = e.enc b)
  | raw (s t : String) (hne : s ≠ t) (h : e.raw s = e.raw t)
  | full (k k' : κ) (hne : k ≠ k') (h : e.full k = e.full k')
  | tweak (k k' : κ) (hne : k ≠ k') (h : e.tweak k = e.tweak k')

/-- Tie to the source: the regenerated tables say that all three key assemblies hash ONE
    labelled object (not an xor of value hashes), skip unset values, render nested hashes with
    all 256 bits, use distinct labels and contain the device, mode, header and source parts. -/
theorem C06_table_shape : Shape := shape

/-- Every input named by the property occurs in the regenerated lists of hashed properties, and
    the source text is one of the parts of the key (decided on the table). -/
theorem C06_fields_cover : (∀ n ∈ namedProps, n ∈ hashedNames) ∧ hasPart .sourceHash = true :=
  ⟨by decide +kernel, shape.source⟩

/-- The key determines every hashed input: with collision-free parameters, equal kernel keys
    imply equal source text and equal values of all hashed properties. -/
theorem C06_key_determines_inputs (e : Env κ σ) (hi : e.Inj (fun _ => True)) (c₁ c₂ : Config)
    (h : baseKey e c₁ = baseKey e c₂) : c₁.view = c₂.view :=
  view_eq_of_baseKey_eq e hi.on (Config.ok_all _ _) (Config.ok_all _ _) h

/-- the effective inputs are among the hashed ones -/
theorem effective_of_view {c₁ c₂ : Config} (h : c₁.view = c₂.view) : c₁.effective = c₂.effective := by
  unfold Config.effective
  rw [show c₁.src = c₂.src from congrArg Prod.fst h, List.map_congr_left fun n hn =>
    List.map_inj_left.mp (congrArg Prod.snd h) n (C06_fields_cover.1 n hn)]

/-- "Two builds share a cached binary only if their effective build inputs are identical":
    for every hash function etc. without collisions, equal keys imply equal effective inputs
    (source text and the eleven named properties). -/
theorem C06_injective (e : Env κ σ) (hi : e.Inj (fun _ => True)) (c₁ c₂ : Config)
    (h : baseKey e c₁ = baseKey e c₂) : c₁.effective = c₂.effective :=
  effective_of_view (C06_key_determines_inputs e hi c₁ c₂ h)

/-- The same with the JSON encoder instantiated by the MODEL of json::dumpToString: its
    injectivity is not assumed but proved (Lemmas/JsonDump.lean, `dump_injective`) for
    well-formed values — no uninitialised json inside a value, number/boolean tokens are words
    over letters, digits and `+ - .`, object keys contain no `"` (the dump does not escape
    keys).  What remains assumed: no collisions of the hash function, of the text embedding and
    of the hash renderings, which must be well-formed JSON values (they are JSON strings). -/
theorem C06_injective_dump (e : Env κ String) (henc : e.enc = dump)
    (hH : Function.Injective e.H) (hraw : Function.Injective e.raw)
    (hfull : Function.Injective e.full) (htweak : Function.Injective e.tweak)
    (hfw : ∀ k, (e.full k).WF) (c₁ c₂ : Config) (w₁ : c₁.WF) (w₂ : c₂.WF)
    (h : baseKey e c₁ = baseKey e c₂) : c₁.effective = c₂.effective :=
  effective_of_view (view_eq_of_baseKey_eq e (e.inj_dump henc hH hraw hfull htweak).on
    (ok_of_wf e hfw c₁ w₁) (ok_of_wf e hfw c₂ w₂) h)

/-- The OpenMP device mixes a constant into the serial key with `^` (openmp::device::kernelHash;
    the constant is in the regenerated table as `Gen.openmpSalt`).  Any operation that is undone by
    applying it again with the same constant — `hash_t::operator^` is — gives an injective `tweak`:
    the xor that is left in the key construction cannot make two serial keys collide. -/
theorem C06_constant_mix_injective {κ : Type} (mix : κ → κ → κ) (hmix : ∀ a c, mix (mix a c) c = a)
    (c : κ) : Function.Injective (fun a => mix a c) :=
  Function.LeftInverse.injective (g := fun a => mix a c) fun a => hmix a c

/-- The same without idealisation: for EVERY hash function, encoder and rendering, a key shared
    by two configurations with different effective inputs yields a collision of one of them —
    the key construction adds no collisions of its own. -/
theorem C06_collision_reduces (e : Env κ σ) (c₁ c₂ : Config)
    (h : baseKey e c₁ = baseKey e c₂) (hne : c₁.effective ≠ c₂.effective) : Collision e := by
  apply Classical.byContradiction
  intro hno
  exact hne (C06_injective e
    ⟨injective_of_no_collision fun ⟨x, y, hn, hxy⟩ => hno (.hash x y hn hxy),
     fun a b _ _ hab => Classical.byContradiction fun hn => hno (.enc a b hn hab),
     injective_of_no_collision fun ⟨x, y, hn, hxy⟩ => hno (.raw x y hn hxy),
     injective_of_no_collision fun ⟨x, y, hn, hxy⟩ => hno (.full x y hn hxy),
     injective_of_no_collision fun ⟨x, y, hn, hxy⟩ => hno (.tweak x y hn hxy)⟩ c₁ c₂ h)

/-- For the model of the real encoder the reduction names the culprit: if two configurations
    with well-formed property values and different effective inputs have the same kernel key, then
    the HASH FUNCTION itself has a collision (two different strings with the same hash) — the
    text embedding, the renderings and the mode constant being injective, as they are in the C++
    (identity, hex string of all 256 bits, xor with a constant).  No injectivity of `H` is
    assumed: this is the statement that applies to occa's real 256-bit hash. -/
theorem C06_collision_is_hash_collision (e : Env κ String) (henc : e.enc = dump)
    (hraw : Function.Injective e.raw) (hfull : Function.Injective e.full)
    (htweak : Function.Injective e.tweak) (hfw : ∀ k, (e.full k).WF)
    (c₁ c₂ : Config) (w₁ : c₁.WF) (w₂ : c₂.WF)
    (h : baseKey e c₁ = baseKey e c₂) (hne : c₁.effective ≠ c₂.effective) :
    ∃ x y : String, x ≠ y ∧ e.H x = e.H y :=
  Classical.byContradiction fun hno => hne
    (C06_injective_dump e henc (injective_of_no_collision hno) hraw hfull htweak hfw c₁ c₂ w₁ w₂ h)

set_option linter.unusedVariables false in -- `hdev`: the device hash is rendered into the key, never read back
/-- The closed form for the exact model.  `exactEnv` is the very instance the driver runs
    (lean/Driver/Cache.lean, whose keys are compared bit for bit with the real setupKernelInfo):
    the hash_t model of C27 on the bytes of a string, the dump model, the hex string of all 256
    bits, the OpenMP xor constant.  `Lemmas/HashExact.lean` proves the side conditions
    (getFullString injective on well-formed hashes from C27's round trip, xor with a constant an
    involution).  So two configurations with well-formed property values, different effective
    inputs and the same kernel key exhibit two different strings with the same `occa::hash` — on
    Serial (`openmp = false`) and OpenMP (`openmp = true`) devices alike. -/
theorem C06_exact_collision_is_hash_collision (openmp : Bool) (dev : Hash.Lanes) (hdev : Hash.WellFormed dev)
    (c₁ c₂ : Config) (w₁ : c₁.WF) (w₂ : c₂.WF)
    (h : baseKey (exactEnv openmp dev) c₁ = baseKey (exactEnv openmp dev) c₂)
    (hne : c₁.effective ≠ c₂.effective) :
    ∃ x y : String, x ≠ y ∧ hashStr x = hashStr y :=
  Classical.byContradiction fun hno => hne (effective_of_view
    (view_eq_of_baseKey_eq _ (exactEnv_injOn openmp dev (injective_of_no_collision hno))
      (ok_of_wf (exactEnv openmp dev) (fun _ => trivial) c₁ w₁)
      (ok_of_wf (exactEnv openmp dev) (fun _ => trivial) c₂ w₂) h))

/-- Identical builds resolve to the same key: the key is a function of the hashed properties
    and the source text alone — other properties (verbose, …) and anything process-specific do
    not enter. -/
theorem C06_deterministic (e : Env κ σ) (c₁ c₂ : Config)
    (hget : ∀ n ∈ hashedNames, c₁.get n = c₂.get n) (hsrc : c₁.src = c₂.src) :
    baseKey e c₁ = baseKey e c₂ :=
  baseKey_congr e hget hsrc

/-! ### the hypotheses are satisfiable, the conclusions are not vacuous -/

/-- a collision-free instance: keys are the hashed JSON values themselves -/
def freeEnv : Env J J where
  H := id
  enc := id
  raw := J.str
  full := id
  short := id
  tweak := id
  dev := J.null

example : (freeEnv).Inj (fun _ => True) :=
  ⟨fun _ _ h => h, fun _ _ _ _ h => h, fun _ _ h => J.str.inj h, fun _ _ h => h, fun _ _ h => h⟩

/-- an instance for C06_injective_dump: the real dump model as encoder, keys rendered as JSON strings -/
def dumpEnv : Env String String where
  H := id
  enc := dump
  raw := id
  full := J.str
  short := J.str
  tweak := id
  dev := ""

example : dumpEnv.enc = dump ∧ Function.Injective dumpEnv.H ∧ Function.Injective dumpEnv.full ∧
    (∀ k, (dumpEnv.full k).WF) :=
  ⟨rfl, fun _ _ h => h, fun _ _ h => J.str.inj h, fun _ => trivial⟩

def cfgA : Config := { props := [("compiler_flags", .str "-O1"), ("compiler_linker_flags", .str "-g")], src := "s" }
def cfgB : Config := { props := [("compiler_flags", .str "-g"), ("compiler_linker_flags", .str "-O1")], src := "s" }
def cfgA' : Config := { props := cfgA.props ++ [("verbose", .lit "true")], src := "s" }

/-- the exchanged-values pair of F09 has different effective inputs … -/
example : cfgA.effective ≠ cfgB.effective := by
  intro h
  have h2 := (List.map_inj_left.mp (congrArg Prod.snd h)) "compiler_flags" (by decide)
  simp only [Config.get, cfgA, cfgB, List.lookup, String.reduceBEq] at h2
  exact absurd (J.str.inj (Option.some.inj h2)) (by decide)

/-- Why F09 needed a different COMPOSITION rather than a better hash: with the historical
    composition — fold the hashes of the property values with any commutative, associative
    operation, names not included — the exchanged-values pair collides for every hash function. -/
theorem C06_value_fold_collides {κ : Type} (op : κ → κ → κ) (comm : ∀ a b, op a b = op b a)
    (assoc : ∀ a b c, op (op a b) c = op a (op b c)) (h : Option J → κ) (init : κ) :
    valueFoldKey op h init Gen.serialFields cfgA = valueFoldKey op h init Gen.serialFields cfgB := by
  -- both sides fold the same values, two of them in exchanged positions
  simp only [valueFoldKey, Gen.serialFields, Config.get, cfgA, cfgB, List.foldl, List.lookup,
    String.reduceBEq]
  haveI : Std.Associative op := ⟨assoc⟩
  haveI : Std.Commutative op := ⟨comm⟩
  ac_rfl

/-- the configurations of the examples have well-formed property values (hypothesis of the
    theorems about the dump model) -/
example : cfgA.WF ∧ cfgB.WF := by
  constructor <;>
  · intro n v h
    have hm := mem_of_lookup_eq_some h
    simp only [cfgA, cfgB, List.mem_cons, List.not_mem_nil, or_false, Prod.mk.injEq] at hm
    rcases hm with ⟨_, rfl⟩ | ⟨_, rfl⟩ <;> trivial

/-- … and an added `verbose` satisfies the hypotheses of C06_deterministic -/
example : (∀ n ∈ hashedNames, cfgA.get n = cfgA'.get n) ∧ cfgA.src = cfgA'.src := by
  refine ⟨fun n hn => ?_, rfl⟩
  have hv : n ≠ "verbose" := fun e => absurd (e ▸ hn) (by decide +kernel)
  show cfgA.props.lookup n = (cfgA.props ++ [("verbose", J.lit "true")]).lookup n
  rw [List.lookup_append, lookup_cons_eq, if_neg hv]
  exact (Option.or_none).symm

end Occa.CacheKey.C06
