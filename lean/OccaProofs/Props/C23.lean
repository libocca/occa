/-
C23 — functional arrays, ranges and forLoop match sequential semantics.

Model: OccaModel/Functional.lean over the generated OccaGen/RangeFns.lean.
Clauses of the property:
  (a) occa::range: `length()` is the number of iterations of the sequential loop, for both signs of the step, and
      the values the kernels compute are the values of that loop;
  (b) the tiled map loop visits every index once, in order, whatever the tile settings, so `array::map` is
      `std::transform`;
  (c) the block-wise CPU reduction is the sequential fold; every / some / findIndex over the visited indices;
  (d) forLoop runs its body once per index tuple; a tiled range loop visits the values of the plain one.
The loop, reduction, state and findIndex lemmas are in Lemmas/Functional{Loops,Gen,Reduce,State,Find}.lean.
-/
import OccaProofs.Lemmas.FunctionalGen
import OccaProofs.Lemmas.FunctionalReduce
import OccaProofs.Lemmas.FunctionalState
import OccaProofs.Lemmas.FunctionalFind

namespace Occa.Functional.C23
open Occa Occa.Gen Occa.Functional

/-! ### (a) ranges -/

/-- (a) `range::length()` is the number of iterations of the sequential loop
    `for (x = start; step > 0 ? x < end : x > end; x += step)`, for both signs of the step. -/
theorem C23_range_len (s e st : Int) (hs : Fits s) (he : Fits e) (hst : Fits st) (h0 : st ≠ 0) :
    rangeLength s e st = ((forVals s e st).length : Int) :=
  rangeLength_eq s e st hs he hst

example : Fits 2 ∧ Fits 10 ∧ Fits 3 ∧ (3 : Int) ≠ 0 ∧ rangeLength 2 10 3 = 3 := by decide +kernel

/-- the kernels' values `start + step * i`, `i < length`, are the values of the sequential loop -/
theorem C23_range_values (r : Range) (hs : Fits r.start) (he : Fits r.stop) (hst : Fits r.step) (h0 : r.step ≠ 0) :
    r.values = r.seq := by
  unfold Range.values Range.seq Range.length Range.value
  rw [C23_range_len r.start r.stop r.step hs he hst h0, Int.toNat_natCast]
  exact (forVals_closed _ _ _).symm

/-- every constructor of occa::range yields a non-zero step -/
theorem C23_range_ctor_step (a b c : Int) :
    (Range.mk1 a).step ≠ 0 ∧ (Range.mk2 a b).step ≠ 0 ∧ (Range.mk3 a b c).step ≠ 0 := by
  refine ⟨?_, ?_, ?_⟩
  · unfold Range.mk1; simp only; split <;> decide
  · unfold Range.mk2; simp only; split <;> decide
  · unfold Range.mk3; simp only; split
    · assumption
    · decide

example : (Range.mk3 10 0 (-3)).values = [10, 7, 4, 1] ∧ (Range.mk3 10 0 (-3)).seq = [10, 7, 4, 1] := by decide +kernel

/-- `occa::range(end)`: `|end|` values, counting up from 0 for `end ≥ 0` and down for `end < 0` -/
theorem C23_range_mk1 (e : Int) (he : Fits e) :
    (Range.mk1 e).length = (e.natAbs : Int) ∧
    (Range.mk1 e).values = (List.range e.natAbs).map (fun (i : Nat) => if e ≥ 0 then (i : Int) else -(i : Int)) := by
  have hlen : (Range.mk1 e).length = (e.natAbs : Int) := by
    unfold Range.length Range.mk1
    simp only
    split
    · rw [rangeLength_eq 0 e 1 (by decide) he (by decide), forVals_one, List.length_map, List.length_range]
      omega
    · rw [rangeLength_eq 0 e (-1) (by decide) he (by decide), forVals_down 0 e (-1) (by decide), List.length_map,
        List.length_range, Int.neg_neg, Loop.ceilN_one]
      omega
  refine ⟨hlen, ?_⟩
  unfold Range.values
  rw [hlen, Int.toNat_natCast]
  apply List.map_congr_left
  intro i _
  unfold Range.value Range.mk1
  simp only
  split <;> omega

example : (Range.mk1 (-10)).length = 10 ∧ (Range.mk1 (-3)).values = [0, -1, -2] := by decide +kernel

/-! ### (b) the tiled map loop visits every index exactly once -/

/-- With the in-tile bound spanning the whole block step, the Serial order of the tiled map loop is
    `0, 1, …, len-1`: every index, each once, for every length, tile size and tile iteration count. -/
theorem C23_map_cover (len ts ti : Int) (hl : 0 ≤ len) (hts : 1 ≤ ts) (hti : 1 ≤ ti) :
    mapIndicesP true len ts ti = forVals 0 len 1 := by
  unfold mapIndicesP
  simp only [if_true]
  exact tiled_forVals₂ 1 ti (ts * ti * ti) len ti (ts * ti) (by decide) (by omega) (Int.mul_pos (by omega) (by omega))
    (by omega) rfl 0

/-- … as a statement about multisets (any execution order of the OpenMP outer loop): a permutation of
    `0 .. len-1` without repetition -/
theorem C23_map_cover_perm (len : Nat) (ts ti : Int) (hts : 1 ≤ ts) (hti : 1 ≤ ti) :
    (mapIndicesP true len ts ti).Perm ((List.range len).map Int.ofNat) ∧ (mapIndicesP true len ts ti).Nodup := by
  rw [C23_map_cover len ts ti (by omega) hts hti, forVals_natCast]
  exact ⟨List.Perm.refl _, List.nodup_range.map _ fun _ _ h hab => h (Int.ofNat.inj hab)⟩

example : mapIndicesP true 7 2 3 = [0, 1, 2, 3, 4, 5, 6] := by decide +kernel

/-- the statement for the loop nest as @tile produced it before the repair of F25 (in-tile bound `blk + T`) -/
def C23_map_cover_full : Prop :=
  ∀ len ts ti : Int, 0 ≤ len → 1 ≤ ts → 1 ≤ ti → mapIndicesP false len ts ti = forVals 0 len 1

/-- F25 before the repair: the in-tile bound ignored the step, so with 2 tile iterations the indices [4,8), [12,16)
    were skipped -/
theorem C23_map_cover_full_fails : ¬ C23_map_cover_full := by
  intro h
  have := h 20 2 2 (by decide) (by decide) (by decide)
  revert this
  decide +kernel

/-- what did hold of the unrepaired @tile: one tile iteration -/
theorem C23_map_cover_partial (len ts : Int) (hl : 0 ≤ len) (hts : 1 ≤ ts) :
    mapIndicesP false len ts 1 = forVals 0 len 1 := by
  have h := C23_map_cover len ts 1 hl hts (by decide)
  unfold mapIndicesP at *
  simpa using h

example : mapIndicesP false 20 2 2 = [0, 1, 2, 3, 8, 9, 10, 11, 16, 17, 18, 19] := by decide +kernel

/-- tie: the loop nest printed by the OKL translator for the current tree is the hand-written one
    (with the in-tile bound read off that output, `tileInnerScaled`) -/
theorem C23_map_gen_eq (len ts ti : Int) :
    mapIndicesGen len ts ti = mapIndicesP tileInnerScaled len ts ti := by
  -- The simp set also serves what the translator prints for the tree in its other state, which the linter calls unused:
  -- `Bool.false_eq_true`, `if_false` for `tileInnerScaled = false`, `Int.mul_assoc` for a product associated differently.
  simp only [mapIndicesGen, mapIndicesP, mapBlockInit, mapBlockBound, mapBlockStep, mapTileInit, mapTileBound,
    mapTileStep, mapInnerInit, mapInnerBound, mapInnerStep, tileInnerScaled, Bool.false_eq_true, if_false, if_true,
    Int.mul_assoc, Int.mul_comm, Int.mul_left_comm, Int.add_comm]


/-! ### (b') what `getMapArrayScope` feeds into the loop nest: the safe tile sizes never trap for a non-empty array -/

/-- for a non-empty array the scope computation divides by a positive number and yields a tile size and a
    tile iteration count ≥ 1, whatever `setTileSize` was given (also non-positive or huge values) -/
theorem C23_safe_tile (len ts ti : Int) (hl : 1 ≤ len) (fl : FitsInt len) (fts : FitsInt ts) (fti : FitsInt ti) :
    1 ≤ mapSafeTileSize len ts ∧ mapSafeTileSize len ts ≤ len ∧ mapTileDivisor len ts ≠ 0 ∧
    1 ≤ mapSafeTileIterations len ts ti := by
  rw [mapTileDivisor_eq, mapSafeTileSize_eq]
  exact ⟨by omega, by omega, by omega, (mapSafeTileIterations_bounds len ts ti hl fl).1⟩

example : FitsInt 37 ∧ FitsInt 1024 ∧ FitsInt (-1) ∧ mapSafeTileSize 37 1024 = 37 ∧ mapSafeTileIterations 37 8 3 = 3 ∧
    mapSafeTileSize 37 (-1) = 1 := by decide +kernel

/-- the entry point for either state of @tile: scaled inner bound, or no more than one tile iteration requested -/
private theorem map_visit_of (len ts ti : Int) (hl : 0 ≤ len) (fl : FitsInt len)
    (h : tileInnerScaled = true ∨ ti ≤ 1) : mapVisit true len ts ti = .ok (forVals 0 len 1) := by
  by_cases h0 : len = 0
  · subst h0
    rfl
  · obtain ⟨hi, hi1⟩ := mapSafeTileIterations_bounds len ts ti (by omega) fl
    have hs : 1 ≤ mapSafeTileSize len ts := by rw [mapSafeTileSize_eq]; omega
    rw [mapVisit_pos true len ts ti (by omega), C23_map_gen_eq]
    rcases h with h | h
    · rw [h, C23_map_cover len _ _ hl hs hi]
    · rw [show mapSafeTileIterations len ts ti = 1 by omega]
      cases tileInnerScaled
      · rw [C23_map_cover_partial len _ hl hs]
      · rw [C23_map_cover len _ 1 hl hs (by decide)]

/-- (b) for the whole entry point: whatever tile settings, a non-empty array's map kernel visits
    `0 .. len-1` in order once @tile scales its inner bound; with the empty-array guard, length 0 visits nothing -/
theorem C23_map_visit (len ts ti : Int) (hl : 0 ≤ len) (fl : FitsInt len) (fts : FitsInt ts) (fti : FitsInt ti)
    (hscaled : tileInnerScaled = true) :
    mapVisit true len ts ti = .ok (forVals 0 len 1) :=
  map_visit_of len ts ti hl fl (Or.inl hscaled)

/-- the same without the hypothesis on @tile when no more than one tile iteration is requested -/
theorem C23_map_visit_partial (len ts ti : Int) (hl : 0 ≤ len) (fl : FitsInt len) (fts : FitsInt ts) (hti : ti ≤ 1)
    (fti : FitsInt ti) :
    mapVisit true len ts ti = .ok (forVals 0 len 1) :=
  map_visit_of len ts ti hl fl (Or.inr hti)

example : mapVisit true 5 1024 3 = .ok [0, 1, 2, 3, 4] ∨ tileInnerScaled = false := by decide +kernel

/-- F27 before the repair: without the early return an empty array (or range) divides by `safeTileSize = 0` -/
theorem C23_empty_traps_without_guard (ts ti : Int) : mapVisit false 0 ts ti = .trap := by
  have : mapTileDivisor 0 ts = 0 := by rw [mapTileDivisor_eq]; omega
  simp [mapVisit, this]


/-! ### (b'') `array::map` in the state model (buffers, views): the result is `std::transform` of the input -/

/-- `a.map(fn)`: a fresh array holding `fn(values, i)` for every `i` in order, the input untouched — for
    every length (0 included), any tile settings, once @tile scales its inner bound -/
theorem C23_map_is_transform (s : St) (src : Arr) (fn : List Int → Nat → Int) (hsrc : src.buf < s.bufs.length)
    (fl : FitsInt src.len) (fts : FitsInt src.ts) (fti : FitsInt src.ti)
    (hguard : emptyGuard = true) (hscaled : tileInnerScaled = true) :
    ∃ s' out, mapArr s src fn = .ok (s', out) ∧ out.len = src.len ∧
      s'.read out = (List.range src.len).map (fn (s.read src)) ∧ s'.read src = s.read src :=
  mapArr_of_visit s src fn hsrc (hguard ▸ C23_map_visit src.len src.ts src.ti (by omega) fl fts fti hscaled)

example : ∃ s : St, ∃ a : Arr, a.buf < s.bufs.length ∧ FitsInt a.len ∧ FitsInt a.ts ∧ FitsInt a.ti ∧ s.read a = [5, -3, 2] :=
  ⟨(({} : St).alloc [5, -3, 2]).1, (({} : St).alloc [5, -3, 2]).2, by decide +kernel⟩

/-- … and without the hypothesis on @tile as long as no more than one tile iteration is requested -/
theorem C23_map_is_transform_partial (s : St) (src : Arr) (fn : List Int → Nat → Int) (hsrc : src.buf < s.bufs.length)
    (fl : FitsInt src.len) (fts : FitsInt src.ts) (hti : src.ti ≤ 1) (fti : FitsInt src.ti)
    (hguard : emptyGuard = true) :
    ∃ s' out, mapArr s src fn = .ok (s', out) ∧ out.len = src.len ∧
      s'.read out = (List.range src.len).map (fn (s.read src)) ∧ s'.read src = s.read src :=
  mapArr_of_visit s src fn hsrc (hguard ▸ C23_map_visit_partial src.len src.ts src.ti (by omega) fl fts hti fti)

/-! ### (c) the block-wise reduction equals the sequential fold -/

/-- the 128 index blocks of the Serial/OpenMP reduce kernel are consecutive and cover `0 .. len-1` exactly once -/
theorem C23_cpu_blocks_cover (len : Int) (hl : 0 ≤ len) : (cpuBlocks len).flatten = forVals 0 len 1 :=
  cpuBlocks_flatten len hl

/-- ANY partition into consecutive blocks, associative `op` with identity `e`: per-block folds from `e`,
    combined on the host in block order = the sequential fold (no commutativity needed: the blocks are in order) -/
theorem C23_reduce_blocks_monoid {β : Type} (op : β → β → β) (e : β)
    (assoc : ∀ a b c, op (op a b) c = op a (op b c)) (idl : ∀ a, op e a = a) (idr : ∀ a, op a e = a)
    (blocks : List (List β)) :
    reduceBlocks op op e blocks = blocks.flatten.foldl op e :=
  reduceBlocks_of_absorbs (.of_identity assoc idl idr) blocks

/-- … and for an associative, commutative, idempotent `op` (min, max, and, or) started from ANY value `a`
    in every block (the code starts from the first element) -/
theorem C23_reduce_blocks_semilattice {β : Type} (op : β → β → β)
    (assoc : ∀ a b c, op (op a b) c = op a (op b c)) (comm : ∀ a b, op a b = op b a) (idem : ∀ a, op a a = a)
    (a : β) (blocks : List (List β)) :
    reduceBlocks op op a blocks = blocks.flatten.foldl op a :=
  reduceBlocks_of_absorbs (.of_semilattice assoc comm idem a) blocks

/-- the CPU reduction kernel + host loop, for a monoid and a per-element function `g` of the index -/
theorem C23_cpu_reduce_monoid (op : Int → Int → Int) (e : Int)
    (assoc : ∀ a b c, op (op a b) c = op a (op b c)) (idl : ∀ a, op e a = a) (idr : ∀ a, op a e = a)
    (g : Int → Int) (len : Int) (hl : 0 ≤ len) :
    cpuReduce len e (fun acc i => op acc (g i)) op = ((forVals 0 len 1).map g).foldl op e :=
  cpuReduce_of_absorbs (.of_identity assoc idl idr) g len hl

theorem C23_cpu_reduce_semilattice (op : Int → Int → Int)
    (assoc : ∀ a b c, op (op a b) c = op a (op b c)) (comm : ∀ a b, op a b = op b a) (idem : ∀ a, op a a = a)
    (a : Int) (g : Int → Int) (len : Int) (hl : 0 ≤ len) :
    cpuReduce len a (fun acc i => op acc (g i)) op = ((forVals 0 len 1).map g).foldl op a :=
  cpuReduce_of_absorbs (.of_semilattice assoc comm idem a) g len hl

/-- the built-in reductions over an int array `xs`, exactly as the operation layer of the model calls them -/
theorem C23_reduce_sum (xs : List Int) (p : Int) :
    cpuReduce xs.length 0 (redFn 0 0 p xs) (hostComb 0) = xs.foldl (· + ·) 0 :=
  cpuReduce_list (.of_identity Int.add_assoc Int.zero_add Int.add_zero) xs

theorem C23_reduce_product (xs : List Int) (p : Int) :
    cpuReduce xs.length 1 (redFn 1 0 p xs) (hostComb 1) = xs.foldl (· * ·) 1 :=
  cpuReduce_list (.of_identity Int.mul_assoc Int.one_mul Int.mul_one) xs

theorem C23_reduce_min (xs : List Int) (p a : Int) :
    cpuReduce xs.length a (redFn 7 0 p xs) (hostComb 7) = xs.foldl minI a :=
  cpuReduce_list (absorbs_minI a) xs

theorem C23_reduce_max (xs : List Int) (p a : Int) :
    cpuReduce xs.length a (redFn 8 0 p xs) (hostComb 8) = xs.foldl maxI a :=
  cpuReduce_list (absorbs_maxI a) xs

example : cpuReduce ([3, 1, 4, 1, 5] : List Int).length 0 (redFn 0 0 0 [3, 1, 4, 1, 5]) (hostComb 0) = 14 := by
  rw [C23_reduce_sum]; rfl

/-- F62 (finding): an initial value that is not the identity is folded into each of the 128 blocks -/
theorem C23_local_init_counted_per_block :
    cpuReduce 2 5 (redFn 0 0 0 [1, 2]) (hostComb 0) = 128 * 5 + 3 := by decide +kernel

example : (cpuBlocks 300).flatten.length = 300 ∧ (cpuBlocks 300).length = 128 ∧ ((cpuBlocks 300).getD 99 []) = [297, 298, 299] := by
  decide +kernel

/-- the dot product is the CPU reduction of the element-wise products -/
theorem C23_dot (xs ys : List Int) :
    cpuReduce xs.length 0 (fun acc i => acc + xs.getD i.toNat 0 * ys.getD i.toNat 0) (hostComb 0) =
      ((List.range xs.length).map fun i => xs.getD i 0 * ys.getD i 0).foldl (· + ·) 0 := by
  have h := C23_cpu_reduce_monoid (· + ·) 0 Int.add_assoc Int.zero_add Int.add_zero
    (fun i => xs.getD i.toNat 0 * ys.getD i.toNat 0) xs.length (by omega)
  rwa [forVals_natCast, List.map_map] at h

/-- the full statement for a reduction with an initial value: the fold from that value -/
def C23_reduce_init_full : Prop :=
  ∀ (xs : List Int) (init : Int), cpuReduce xs.length init (redFn 0 0 0 xs) (hostComb 0) = xs.foldl (· + ·) init

/-- F62: false, the initial value is folded into every block -/
theorem C23_reduce_init_full_fails : ¬ C23_reduce_init_full := by
  intro h
  have := h [1, 2] 5
  rw [show (([1, 2] : List Int).length : Int) = 2 from rfl, C23_local_init_counted_per_block] at this
  revert this
  decide

/-- what is true instead: the identity as initial value (any list); for the idempotent reductions any
    initial value is `C23_reduce_min` / `C23_reduce_max` -/
theorem C23_reduce_init_partial (xs : List Int) :
    cpuReduce xs.length 0 (redFn 0 0 0 xs) (hostComb 0) = xs.foldl (· + ·) 0 := C23_reduce_sum xs 0

/-- `array::indexOf(target)` — a min-reduction whose per-block start value is the array length — returns the
    first index holding the target, or -1 if there is none (for every array, the empty one included) -/
theorem C23_index_of (xs : List Int) (t : Int) :
    ∃ r : Int, indexOfArr xs t = .ok r ∧
      ((r = -1 ∧ ∀ i : Nat, i < xs.length → xs.getD i 0 ≠ t) ∨
       (0 ≤ r ∧ r < xs.length ∧ xs.getD r.toNat 0 = t ∧ ∀ i : Nat, (i : Int) < r → xs.getD i 0 ≠ t)) := by
  obtain ⟨m, hm, h⟩ := indexOfArr_min xs t
  refine ⟨_, hm, ?_⟩
  rcases h with ⟨rfl, hno⟩ | ⟨k, rfl, hk, hx, hfirst⟩
  · rw [if_neg (Int.lt_irrefl _)]
    exact Or.inl ⟨rfl, hno⟩
  · rw [if_pos (by omega)]
    exact Or.inr ⟨by omega, by omega, by rwa [Int.toNat_natCast], fun i hi => hfirst i (by omega)⟩

example : indexOfArr [5, 1, 2, 1, 9, 1] 1 = .ok 1 ∧ indexOfArr [5, 1, 2] 7 = .ok (-1) := by decide +kernel

/-! ### (c') every / some / findIndex over the visited indices -/

/-- `every` is the conjunction and `some` the disjunction over the visited indices (with `C23_map_visit`:
    over all indices) -/
theorem C23_every_some (vis : List Nat) (f : Nat → Bool) :
    everyOf vis f = vis.all f ∧ (decide (findLast vis f ≥ 0) = vis.any f) := by
  refine ⟨rfl, ?_⟩
  rcases findLast_cases vis f with ⟨e, hn⟩ | ⟨i, hi, hf, e⟩
  · rw [e, List.any_eq_false.mpr fun i hi => by simp [hn i hi]]
    rfl
  · rw [e, List.any_eq_true.mpr ⟨i, hi, hf⟩]
    exact decide_eq_true (Int.natCast_nonneg i)

/-- the full statement for findIndex: the first match, as `std::find_if` -/
def C23_find_full : Prop := ∀ (vis : List Nat) (f : Nat → Bool), findLast vis f = firstMatch vis f

/-- F60: false — every match overwrites the result cell, the last one wins -/
theorem C23_find_full_fails : ¬ C23_find_full := by
  intro h
  have := h [0, 1] (fun _ => true)
  revert this
  decide

/-- the strongest true restriction: at most one matching element -/
theorem C23_find_partial (vis : List Nat) (f : Nat → Bool) (h : countMatches vis f ≤ 1) :
    findLast vis f = firstMatch vis f := by
  rw [findLast_eq, firstMatch, reverse_find?_of_unique vis f h]
  rfl

/-- and in general the result is sound: -1 iff nothing matches, otherwise a visited matching index -/
theorem C23_find_sound (vis : List Nat) (f : Nat → Bool) :
    (findLast vis f = -1 ↔ ∀ i ∈ vis, f i = false) ∧
    (∀ i : Nat, findLast vis f = (i : Int) → i ∈ vis ∧ f i = true) := by
  rcases findLast_cases vis f with ⟨e, hn⟩ | ⟨j, hj, hf, e⟩
  · rw [e]
    exact ⟨⟨fun _ => hn, fun _ => rfl⟩, fun i h => by omega⟩
  · rw [e]
    refine ⟨⟨fun h => by omega, fun h => by rw [h j hj] at hf; cases hf⟩, fun i h => ?_⟩
    have : j = i := by omega
    exact this ▸ ⟨hj, hf⟩

example : findLast [0, 1, 2, 3] (fun i => i % 2 == 1) = 3 ∧ firstMatch [0, 1, 2, 3] (fun i => i % 2 == 1) = 1 := by decide +kernel

/-! ### (d) forLoop: the body runs exactly once per index tuple -/

/-- membership: a tuple is visited iff every component is a value of its iteration -/
theorem C23_forloop_tuples_mem (ds : List (List Int)) :
    ∀ t : List Int, t ∈ tuples ds ↔ tupleOf t ds := by
  induction ds with
  | nil =>
    intro t
    cases t <;> simp [tuples, tupleOf]
  | cons d ds ih =>
    intro t
    simp only [tuples, List.mem_flatMap, List.mem_map]
    constructor
    · rintro ⟨x, hx, u, hu, rfl⟩
      exact ⟨hx, (ih u).mp hu⟩
    · intro h
      cases t with
      | nil => exact h.elim
      | cons x u => exact ⟨x, h.1, u, (ih u).mpr h.2, rfl⟩

/-- number of body executions = product of the iteration lengths -/
theorem C23_forloop_tuples_length (ds : List (List Int)) :
    (tuples ds).length = (ds.map List.length).foldr (· * ·) 1 := by
  induction ds with
  | nil => rfl
  | cons d ds ih =>
    rw [tuples, List.length_flatMap, List.map_cons, List.foldr_cons, ← ih]
    simp only [List.length_map, List.map_const', List.sum_replicate_nat]

/-- each tuple once: if no iteration repeats a value, no tuple is visited twice -/
theorem C23_forloop_tuples_nodup (ds : List (List Int)) (h : ∀ d ∈ ds, d.Nodup) : (tuples ds).Nodup := by
  induction ds with
  | nil => exact List.pairwise_singleton _ _
  | cons d ds ih =>
    have hds : (tuples ds).Nodup := ih fun d' hd' => h d' (List.mem_cons_of_mem _ hd')
    rw [tuples, List.Nodup, List.pairwise_flatMap]
    -- tuples with the same head differ in the tail, tuples with different heads differ
    refine ⟨fun x _ => List.pairwise_map.mpr (hds.imp fun hne heq => hne (List.cons.inj heq).2),
      (h d List.mem_cons_self).imp fun hxy a ha b hb hab => ?_⟩
    obtain ⟨u, _, rfl⟩ := List.mem_map.mp ha
    obtain ⟨v, _, rfl⟩ := List.mem_map.mp hb
    exact hxy (List.cons.inj hab).1

example : (∀ d ∈ [[7, 3, -2], [0, 1]], d.Nodup) ∧ (tuples [[7, 3, -2], [0, 1]]).length = 6 ∧
    tupleOf [3, 1] [[7, 3, -2], [0, 1]] := by
  refine ⟨by decide +kernel, by decide +kernel, ?_⟩
  simp [tupleOf]

/-- the values of a range iteration in the generated kernel are the values of the sequential loop, for both
    signs of the step, once the descending loop subtracts the magnitude of the step (repair of F61) -/
theorem C23_forloop_range_vals (r : Range) : Iter.vals true (.range r) = .ok r.seq := by
  simp [Iter.vals, Range.seq]

/-- `forLoop::tile`: a range loop tiled by `@tile(T, @outer, @inner)` (check on) visits exactly the values of the
    plain loop, in order, once @tile scales its inner bound — ascending ranges -/
theorem C23_tiled_range_up (s e st T : Int) (hst : 0 < st) (hT : 1 ≤ T) :
    tiledVals true s e st T = forVals s e st := by
  unfold tiledVals
  simp only [if_true, if_pos hst]
  exact tiled_forVals st _ e T hst (by omega) rfl s

/-- … and descending ranges -/
theorem C23_tiled_range_down (s e st T : Int) (hst : st < 0) (hT : 1 ≤ T) :
    tiledVals true s e st T = forVals s e st := by
  unfold tiledVals
  simp only [if_true, if_neg (show ¬ st > 0 by omega)]
  exact tiled_forVals_down st _ e T hst (by omega) rfl s

example : tiledVals true 10 0 (-3) 2 = [10, 7, 4, 1] ∧ tiledVals false 0 20 2 4 = [0, 2, 8, 10, 16, 18] := by decide +kernel

/-- F61 before the repair: a descending range made the generated loop run away -/
theorem C23_forloop_descending_ran_away : Iter.vals false (.range ⟨5, 0, -1⟩) = .trap := by decide

example : tuples [[0, 1], [5, 3, 1]] = [[0, 5], [0, 3], [0, 1], [1, 5], [1, 3], [1, 1]] := by decide +kernel

end Occa.Functional.C23
