/-
C03 — Memory-pool reservations never overlap and keep their contents.

Model: OccaModel/Pool.lean, instantiated with the statement variants that translate/gen_pool.py
reads from the current source (`Gen.poolCfg`); the theorems need all repairs to be present
(`C03_source_is_repaired`, checked by `decide` on the generated record).
Statement of the property, clause by clause:
  (a) all live reservations occupy pairwise-disjoint byte ranges inside the pool
        C03_layout (every reachable state), C03_reserve_fresh_block (a new block shares no byte
        with any live memory), C03_slice_inside_parent
  (b) every live reservation and every slice reads back the bytes last written to it
        C03_write_sets_exactly (a write changes exactly the addressed bytes, seen through every
        alias), C03_write_leaves_other_allocations, C03_reserve_fresh_block (fill reads back),
        C03_nonwriting_op_preserves (every other operation keeps every live memory's bytes)
  (c) growing, compacting, re-aligning never changes what a reservation reads back
        C03_packing_preserves, C03_packing_is_identity_on_view (resize / shrinkToFit / setAlignment
        are the identity on the abstract map memory ↦ bytes), and the growth inside
        reserve via C03_nonwriting_op_preserves; aliasing (slices stay inside their parent at
        the same place) is part of both
  release: C03_release_keeps_others.
Histories: `run Gen.poolCfg ops` for arbitrary `ops : List Op` (no bound on length, sizes, alignments).
-/
import OccaProofs.Lemmas.PoolKeep
import OccaGen.PoolConsts

namespace Occa.Pool.C03
open Occa Occa.Pool

/-- tie: the source currently contains every repaired statement the proofs rely on -/
theorem C03_source_is_repaired : Gen.poolCfg.Fixed := by decide

/-- tie: the model's rounding functions are the expressions found in memoryPool.cpp -/
theorem C03_rounding_is_source : rup = Gen.alignUp ∧ rdn = Gen.alignDown := ⟨rfl, rfl⟩

/-- the layout clause of C03 for one pool -/
structure Layout (p : Pool) : Prop where
  /-- the reservation list is ordered by offset (the order the sweeps rely on) -/
  sorted : OffSorted p.resv
  /-- every reservation lies inside the pool, the backing buffer has the pool's size -/
  inside : ∀ r ∈ p.resv, r.off + r.size ≤ p.size
  backing : p.buf.length = p.size
  /-- memories of different allocations (different reserve() calls) share no byte -/
  disjoint : ∀ r ∈ p.resv, ∀ r' ∈ p.resv, r.fam ≠ r'.fam → NoShare r r'
  /-- one memory object per slot -/
  distinct : (p.resv.map (·.slot)).Nodup

/-- (a) layout invariant over all histories -/
theorem C03_layout (ops : List Op) (i : Nat) (p : Pool) (hp : (run Gen.poolCfg ops).pool i = some p) :
    Layout p := by
  have h := ((run_inv C03_source_is_repaired ops).pools i p hp).inv
  exact ⟨h.sorted, fun r hr => h.inBounds hr, h.buflen, h.famDisj, h.nodup⟩

example : ∃ ops p, (run Gen.poolCfg ops).pool 0 = some p ∧ p.resv.length = 3 ∧ p.size = 512 :=
  ⟨[.pool 0, .reserve 0 0 128, .reserve 0 1 128, .reserve 0 2 128, .reserve 0 3 128, .release 1, .slice 5 2 8 16,
    .release 3, .reserve 0 4 256, .release 2], _, rfl, by decide, by decide⟩

/-- (a),(b) a successful reserve: the block has the requested size, belongs to a new allocation,
    shares no byte with any other live memory of the pool (whatever the fragmentation, also when
    the pool had to be packed or grown) and reads back what was written into it -/
theorem C03_reserve_fresh_block (ops : List Op) (i k n : Nat) (p : Pool)
    (hp : (run Gen.poolCfg ops).pool i = some p) (hk : k < NSLOT)
    (hfree : (run Gen.poolCfg ops).slotLive k = false) (hn : 0 < n) :
    (step Gen.poolCfg (run Gen.poolCfg ops) (.reserve i k n)).2 = .ok ∧
    ∃ p' r, (step Gen.poolCfg (run Gen.poolCfg ops) (.reserve i k n)).1.pool i = some p' ∧
      findSlot k p'.resv = some r ∧ r.size = n ∧ r.fam = (run Gen.poolCfg ops).nextFam ∧
      readAt p'.buf r.off r.size = pattern (1000 + (run Gen.poolCfg ops).nextFam) n ∧
      ∀ r' ∈ p'.resv, r'.slot ≠ k → NoShare r r' := by
  obtain ⟨hok, -, -, hblock⟩ :=
    step_reserve_ok C03_source_is_repaired (run_inv C03_source_is_repaired ops) hp hk hfree hn
  exact ⟨hok, hblock⟩

/-- (a) a slice lies inside its parent, in the parent's allocation, over the parent's bytes -/
theorem C03_slice_inside_parent (ops : List Op) (k j off i bytes : Nat) (cnt : Int) (p : Pool) (r : Resv)
    (hloc : (run Gen.poolCfg ops).locate j = some (.inPool i p r))
    (hk : k < NSLOT) (hfree : (run Gen.poolCfg ops).slotLive k = false) (hcnt : -1 ≤ cnt)
    (hsb : sliceBytes r.size off cnt = .ok bytes) :
    (step Gen.poolCfg (run Gen.poolCfg ops) (.slice k j off cnt)).2 = .ok ∧ off + bytes ≤ r.size ∧
    ∃ p' x, (step Gen.poolCfg (run Gen.poolCfg ops) (.slice k j off cnt)).1.pool i = some p' ∧
      findSlot k p'.resv = some x ∧ x.off = r.off + off ∧ x.size = bytes ∧ x.fam = r.fam ∧ p'.buf = p.buf := by
  obtain ⟨hp, _, hr⟩ := locate_inPool hloc
  obtain ⟨hst, hfit, _, _, hx⟩ :=
    step_slice_pool C03_source_is_repaired (run_inv C03_source_is_repaired ops) hloc hp hr hk hfree hcnt hsb rfl
  rw [hst]
  exact ⟨rfl, hfit, _, _, (pool_setPool (pool_lt hp) _ i).trans (if_pos rfl), hx, rfl, rfl, rfl, rfl⟩

example : ∃ ops p r, (run Gen.poolCfg ops).locate 0 = some (.inPool 0 p r) ∧ r.size = 6 ∧
    (run Gen.poolCfg ops).slotLive 1 = false ∧ sliceBytes r.size 2 (-1) = .ok 4 :=
  ⟨[.pool 0, .align 0 4, .reserve 0 0 6], _, _, rfl, rfl, by decide, by decide⟩

/-- (b),(c) every operation other than write / release / pfree / freeall — in particular reserve
    (with its internal growth and packing), slice, resize, shrinkToFit, setAlignment — keeps every
    live memory of every pool live, with the same size, allocation and bytes, and two bytes of live
    memories are the same byte afterwards iff they were the same byte before -/
theorem C03_nonwriting_op_preserves (ops : List Op) (op : Op) (hop : op.keepsAll = true) :
    Preserves (run Gen.poolCfg ops) (step Gen.poolCfg (run Gen.poolCfg ops) op).1 :=
  (step_ok C03_source_is_repaired (run_inv C03_source_is_repaired ops) op).2 hop

/-- (c) the packing operations spelled out: after resize / shrinkToFit / setAlignment (successful or
    not) every live reservation `k` of the pool reads back exactly what it read before -/
theorem C03_packing_preserves (ops : List Op) (op : Op)
    (hop : (∃ i n, op = .resize i n) ∨ (∃ i, op = .shrink i) ∨ (∃ i a, op = .align i a))
    (j : Nat) (p p' : Pool) (hp : (run Gen.poolCfg ops).pool j = some p)
    (hp' : (step Gen.poolCfg (run Gen.poolCfg ops) op).1.pool j = some p') (k : Nat) (r : Resv)
    (hr : findSlot k p.resv = some r) :
    ∃ r', findSlot k p'.resv = some r' ∧ r'.size = r.size ∧
      readAt p'.buf r'.off r'.size = readAt p.buf r.off r.size := by
  obtain ⟨-, hpres, -⟩ := step_packing C03_source_is_repaired (run_inv C03_source_is_repaired ops) hop
  obtain ⟨r', h1, h2, _, h3⟩ := (hpres j p p' hp hp').1 k r hr
  exact ⟨r', h1, h2, h3⟩

example : ∃ ops p p', (run Gen.poolCfg ops).pool 0 = some p ∧
    (step Gen.poolCfg (run Gen.poolCfg ops) (.align 0 64)).1.pool 0 = some p' ∧ p'.buf ≠ p.buf :=
  ⟨[.pool 0, .align 0 8, .reserve 0 0 8, .reserve 0 1 8, .reserve 0 2 8, .release 1], _, _, rfl, rfl, by decide⟩

/-- (c) as a refinement statement: with `view p k` = the bytes memory object `k` of pool `p` reads back
    (`none` if there is no such reservation), resize / shrinkToFit / setAlignment are the identity on
    the abstract map `memory object ↦ bytes` of every pool -/
theorem C03_packing_is_identity_on_view (ops : List Op) (op : Op)
    (hop : (∃ i n, op = .resize i n) ∨ (∃ i, op = .shrink i) ∨ (∃ i a, op = .align i a))
    (j : Nat) (p p' : Pool) (hp : (run Gen.poolCfg ops).pool j = some p)
    (hp' : (step Gen.poolCfg (run Gen.poolCfg ops) op).1.pool j = some p') : view p' = view p := by
  obtain ⟨-, hpres, hslots⟩ := step_packing C03_source_is_repaired (run_inv C03_source_is_repaired ops) hop
  exact view_eq_of (hpres j p p' hp hp').1 (hslots j p p' hp hp')

/-- (b) a write through reservation `k` sets exactly the addressed bytes of the backing buffer;
    hence every live memory (the reservation itself, its slices, its parent — every alias) reads
    the new data at the addressed positions and its old bytes everywhere else -/
theorem C03_write_sets_exactly (ops : List Op) (k off len seed i : Nat) (p : Pool) (w : Resv)
    (hloc : (run Gen.poolCfg ops).locate k = some (.inPool i p w)) (hfit : off + len ≤ w.size) :
    step Gen.poolCfg (run Gen.poolCfg ops) (.write k off len seed) =
      ((run Gen.poolCfg ops).setPool i (some (p.write (w.off + off) (pattern seed len))), .ok) ∧
    (p.write (w.off + off) (pattern seed len)).resv = p.resv ∧
    (∀ q, (p.write (w.off + off) (pattern seed len)).buf[q]? =
      if w.off + off ≤ q ∧ q < w.off + off + len then (pattern seed len)[q - (w.off + off)]? else p.buf[q]?) ∧
    readAt (p.write (w.off + off) (pattern seed len)).buf (w.off + off) len = pattern seed len := by
  obtain ⟨hp, _, hw⟩ := locate_inPool hloc
  have hinv := ((run_inv C03_source_is_repaired ops).pools i p hp).inv
  refine ⟨step_write_pool hloc hfit, rfl, ?_, ?_⟩
  · intro q
    have := write_get hinv hw off (pattern seed len) (by rw [length_pattern]; exact hfit) q
    rw [length_pattern] at this
    exact this
  · have := write_reads_back hinv hw off (pattern seed len) (by rw [length_pattern]; exact hfit)
    rw [length_pattern] at this
    exact this

/-- (b) a write through a memory of one allocation leaves every memory of every other
    allocation unchanged -/
theorem C03_write_leaves_other_allocations (ops : List Op) (off len seed i : Nat) (p : Pool) (w x : Resv)
    (hp : (run Gen.poolCfg ops).pool i = some p) (hw : w ∈ p.resv) (hx : x ∈ p.resv)
    (hfit : off + len ≤ w.size) (hne : w.fam ≠ x.fam) :
    readAt (p.write (w.off + off) (pattern seed len)).buf x.off x.size = readAt p.buf x.off x.size := by
  have hinv := ((run_inv C03_source_is_repaired ops).pools i p hp).inv
  exact write_other hinv hw off (pattern seed len) (by rw [length_pattern]; exact hfit)
    (hinv.famDisj w hw x hx hne)

/-- a write beyond the end of the memory is rejected and changes nothing -/
theorem C03_write_out_of_range_rejected (s : State) (k off len seed i : Nat) (p : Pool) (w : Resv)
    (hloc : s.locate k = some (.inPool i p w)) (hfit : w.size < off + len) :
    step Gen.poolCfg s (.write k off len seed) = (s, .err) :=
  step_write_pool_err hloc hfit

/-- releasing memory `k` leaves the buffer and every other live memory of every pool untouched -/
theorem C03_release_keeps_others (ops : List Op) (k : Nat) :
    ReleaseRel k (run Gen.poolCfg ops) (step Gen.poolCfg (run Gen.poolCfg ops) (.release k)).1 :=
  (step_release C03_source_is_repaired (run_inv C03_source_is_repaired ops) k).2

/-! ### why the repairs are needed: the model with one repair switched off violates the layout -/

/-- the repaired configuration with the F06 repair (forced packing in reserve) removed -/
def cfgNoF06 : Cfg := { Gen.poolCfg with reservePacks := false }

/-- F06 as a model trace: A,B,C,D of 2 bytes at alignment 2; release B and D; reserve 4 bytes:
    without the repair the new block [4,8) covers C = [4,6) -/
theorem C03_layout_fails_without_F06 :
    ¬ ∀ (ops : List Op) (i : Nat) (p : Pool), (run cfgNoF06 ops).pool i = some p →
      ∀ r ∈ p.resv, ∀ r' ∈ p.resv, r.fam ≠ r'.fam → NoShare r r' := by
  intro h
  have := h [.pool 0, .align 0 2, .reserve 0 0 2, .reserve 0 1 2, .reserve 0 2 2, .reserve 0 3 2, .release 1,
    .release 3, .reserve 0 4 4] 0 _ rfl ⟨2, 4, 2, 2⟩ (by decide) ⟨4, 4, 4, 4⟩ (by decide) (by decide) 0 (by decide) 0 (by decide)
  exact this rfl

/-- the repaired configuration with the F06b repair (blocks formed on aligned spans) removed -/
def cfgNoF06b : Cfg := { Gen.poolCfg with resizeBlocksAligned := false }

/-- F06b as a model trace (alignment 4): reserve 4, slices [1,2) and [3,4), release the parent,
    reserve 4: the unrepaired packing needs 8 bytes for the two remnants, the new block lands at
    [8,12) in a pool of size 8 -/
theorem C03_layout_fails_without_F06b :
    ¬ ∀ (ops : List Op) (i : Nat) (p : Pool), (run cfgNoF06b ops).pool i = some p →
      ∀ r ∈ p.resv, r.off + r.size ≤ p.size := by
  intro h
  have := h [.pool 0, .align 0 4, .reserve 0 0 4, .slice 1 0 1 1, .slice 2 0 3 1, .release 0, .reserve 0 3 4] 0 _ rfl
    ⟨3, 8, 4, 1⟩ (by decide)
  exact absurd this (by decide)

/-- what the harness observes with `read k` is the view of C03_packing_is_identity_on_view -/
theorem C03_read_returns_view (s : State) (k i : Nat) (p : Pool) (r : Resv)
    (hloc : s.locate k = some (.inPool i p r)) :
    ∃ b, view p k = some b ∧ step Gen.poolCfg s (.read k) = (s, .bytes b) := by
  obtain ⟨-, hf, -⟩ := locate_inPool hloc
  refine ⟨readAt p.buf r.off r.size, by simp only [view, hf, Option.map_some], ?_⟩
  have : s.readSlot k = some (readAt p.buf r.off r.size) := by simp only [State.readSlot, hloc]
  simp only [step, this]

end Occa.Pool.C03
