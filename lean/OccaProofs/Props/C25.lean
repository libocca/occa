/-
C25 — JSON path access and merging follow nested-dictionary semantics.

Model: OccaModel/JsonPath.lean (operator[] const and non-const, getPathValue/get<T>, has, remove, set,
operator+= / mergeWithObject) over OccaModel/Json.lean, of the repaired code (fixes FJ1, FJ2, FJ3, FJ6).
A path string is split into keys like the C++ loops do (`splitPath`); C25_path_string ties "a/b/c" to the
key list.  The nested-dictionary model of the property is stated through its observations: the const read
`readK` (= const operator[] / getPathValue, `none` = the undefined value), `hasK` (= has) and `size`.
  writes create missing intermediate objects            C25_read_after_write, C25_read_below_write, C25_write_creates_intermediates,
                                                         C25_write_frame, C25_write_through_leaf_fails
  reads of missing paths are undefined, create nothing  C25_read_missing_undefined, C25_has_of_defined, C25_has_iff_defined (reads are
                                                         pure functions of the value: nothing can be created)
  the non-const operator[] used as a read               C25_touch_* (exactly what it changes: a placeholder that
                                                         `has` reports and const reads see as undefined)
  remove, set                                            C25_remove_spec, C25_remove_frame, C25_set_spec
  += merges recursively, right-hand side wins            C25_merge_spec, C25_mergeVal_spec, C25_merge_keys, C25_merge_none_right,
                                                         C25_merge_into_undefined
  size() of an object after an insertion                 C25_size_insert
  every history keeps the std::map invariant             C25_history_wf (so the laws apply after any history)
-/
import OccaProofs.Lemmas.JsonGenTie
import OccaProofs.Lemmas.JsonPathLaws
import OccaProofs.Lemmas.JsonSplit

namespace Occa.Json.C25

/-- "a/b/c": the path string of plain keys (no '/', '\', NUL; non-empty) addresses the key list -/
theorem C25_path_string (ks : List Bytes) (h : ∀ k ∈ ks, PlainKey k) : splitPath (joinPath ks) = ks :=
  splitPath_join ks h

example : splitPath [97, 47, 98, 47, 99] = [[97], [98], [99]] := by decide

/-- a read at the written path returns the written value -/
theorem C25_read_after_write (ks : List Bytes) (v j j' : Json) (h : write ks v j = .ok j') : readK ks j' = v :=
  readK_touchWith_self h

example : write [[97], [98]] (.str [120]) .none = .ok (.obj [([97], .obj [([98], .str [120])])]) := by rfl

/-- below the written path one reads inside the written value -/
theorem C25_read_below_write (ks r : List Bytes) (v j j' : Json) (h : write ks v j = .ok j') :
    readK (ks ++ r) j' = readK r v :=
  readK_touchWith_below h r

/-- writes create the missing intermediate objects: every proper prefix of the path is an object -/
theorem C25_write_creates_intermediates (ks qs : List Bytes) (v j j' : Json) (h : write ks v j = .ok j')
    (h1 : qs <+: ks) (h2 : qs ≠ ks) : (readK qs j').isObj = true :=
  readK_touchWith_inter h h1 h2

/-- a write changes nothing at paths that neither extend the written path nor are a prefix of it -/
theorem C25_write_frame (ks qs : List Bytes) (v j j' : Json) (h : write ks v j = .ok j')
    (h1 : ¬ ks <+: qs) (h2 : ¬ qs <+: ks) : readK qs j' = readK qs j :=
  readK_touchWith_frame h h1 h2

/-- a write whose path leads through a value that is not an object throws (and the caller keeps the
    old value: `step` below) -/
theorem C25_write_through_leaf_fails (k : Bytes) (ks : List Bytes) (v j : Json) (hj : j.isObj = false)
    (hn : j.isNone = false) : write (k :: ks) v j = .error .notObject := by
  rw [write, touchWith_cons, hj, hn]
  rfl

example : write [[97], [98]] .null (.obj [([97], .num ⟨.i32, 1, []⟩)]) = .error .notObject := by rfl

/-- reads of missing paths return the undefined value -/
theorem C25_read_missing_undefined (ks : List Bytes) (j : Json) (h : hasK ks j = false) : readK ks j = .none := by
  induction ks generalizing j with
  | nil => rw [hasK_nil] at h; cases h
  | cons k ks ih =>
    rw [hasK_cons] at h
    rw [readK_cons]
    cases hh : hasK [k] j with
    | false => rw [read1_of_not_has hh]; exact readK_none ks
    | true => rw [hh] at h; exact ih _ h

/-- a path whose const read is defined is reported by has() -/
theorem C25_has_of_defined (ks : List Bytes) (j : Json) (h : readK ks j ≠ .none) : hasK ks j = true :=
  eq_true_of_ne_false (mt (C25_read_missing_undefined ks j) h)

/-- on a value without undefined placeholders, has() is exactly "the const read is defined" -/
theorem C25_has_iff_defined (ks : List Bytes) (j : Json) (h : hasNone j = false) :
    hasK ks j = true ↔ readK ks j ≠ .none := by
  induction ks generalizing j with
  | nil =>
    rw [readK_nil, hasK_nil]
    exact ⟨fun _ e => (by rw [e] at h; cases h), fun _ => rfl⟩
  | cons k ks ih =>
    rw [hasK_cons, readK_cons k ks]
    cases hh : hasK [k] j with
    | false => rw [read1_of_not_has hh, readK_none]; simp
    | true => rw [Bool.true_and]; exact ih _ (hasNone_read1 h hh)

/-- the non-const operator[] used as a read: the path exists afterwards (has() reports the placeholder) … -/
theorem C25_touch_has (ks : List Bytes) (j j' : Json) (h : touch ks j = .ok j') : hasK ks j' = true :=
  has_touchWith h

/-- … a const read of that path still sees what it saw before (undefined if it was missing) … -/
theorem C25_touch_read (ks : List Bytes) (j j' : Json) (h : touch ks j = .ok j') : readK ks j' = readK ks j :=
  readK_touchWith_self h

/-- … unrelated paths are unchanged, and the proper prefixes have become objects -/
theorem C25_touch_frame (ks qs : List Bytes) (j j' : Json) (h : touch ks j = .ok j')
    (h1 : ¬ ks <+: qs) (h2 : ¬ qs <+: ks) : readK qs j' = readK qs j :=
  readK_touchWith_frame h h1 h2

theorem C25_touch_creates_intermediates (ks qs : List Bytes) (j j' : Json) (h : touch ks j = .ok j')
    (h1 : qs <+: ks) (h2 : qs ≠ ks) : (readK qs j').isObj = true :=
  readK_touchWith_inter h h1 h2

example : touch [[120], [121]] .none = .ok (.obj [([120], .obj [([121], .none)])]) := by rfl

/-- remove: the path is gone afterwards -/
theorem C25_remove_spec (ks : List Bytes) (j : Json) (hk : ks ≠ []) (hw : WFJ j) : hasK ks (removeK ks j) = false :=
  hasK_removeK ks hk hw

/-- remove changes nothing at unrelated paths -/
theorem C25_remove_frame (ks qs : List Bytes) (j : Json) (h1 : ¬ ks <+: qs) (h2 : ¬ qs <+: ks) :
    readK qs (removeK ks j) = readK qs j :=
  readK_removeK_frame ks qs j h1 h2

/-- set(key, v): the key is used literally; other members of an object are untouched; a value that is
    not an object is replaced by the one-member object -/
theorem C25_set_spec (k : Bytes) (v j : Json) :
    readK [k] (setLit k v j) = v
      ∧ (∀ (q : Bytes) (qs : List Bytes) (kvs : Obj), j = .obj kvs → q ≠ k →
          readK (q :: qs) (setLit k v j) = readK (q :: qs) j)
      ∧ (j.isObj = false → setLit k v j = .obj [(k, v)]) :=
  ⟨read_setLit k v j,
   fun q qs _ _ hq => by rw [readK_cons_setLit, if_neg hq],
   setLit_nonobj k v j⟩

example : setLit [97, 47, 98] .null (.obj []) = .obj [([97, 47, 98], .null)] := by rfl

/-- `a += b` on objects, member by member: a key absent on the right keeps the left value; a key present
    on the right gets the right value, except that objects present on both sides are merged recursively -/
theorem C25_merge_spec (akvs bkvs : Obj) (hb : Sorted bkvs) (k : Bytes) :
    add (.obj akvs) (.obj bkvs) = .ok (.obj (mergeObj akvs bkvs))
      ∧ lookup k (mergeObj akvs bkvs) =
          match lookup k bkvs with
          | Option.none => lookup k akvs
          | some vb => some (mergeVal (lookup k akvs) vb) :=
  ⟨rfl, lookup_mergeObj bkvs akvs hb k⟩

/-- the recursion of the merge: right wins unless both sides are objects -/
theorem C25_mergeVal_spec (old : Option Json) (v : Json) :
    (v.isObj = false → mergeVal old v = v)
      ∧ (∀ akvs bkvs, old = some (.obj akvs) → v = .obj bkvs → mergeVal old v = .obj (mergeObj akvs bkvs))
      ∧ (∀ o bkvs, old = some o → o.isObj = false → v = .obj bkvs → mergeVal old v = v)
      ∧ (old = Option.none → mergeVal old v = v) :=
  ⟨mergeVal_nonobj old v,
   fun akvs bkvs ho hv => by rw [ho, hv]; exact mergeVal_obj_obj akvs bkvs,
   fun o bkvs ho hi hv => by rw [ho, hv]; exact mergeVal_obj_nonobj o bkvs hi,
   fun ho => by rw [ho]; exact mergeVal_none v⟩

example : add (.obj [([97], .obj [([120], .null)]), ([98], .null)]) (.obj [([97], .obj [([121], .str [])]), ([98], .obj [])])
    = .ok (.obj [([97], .obj [([120], .null), ([121], .str [])]), ([98], .obj [])]) := by rfl

/-- the members of a merge are the members of either side, and the result is again ordered -/
theorem C25_merge_keys (akvs bkvs : Obj) (ha : Sorted akvs) (hb : Sorted bkvs) (k : Bytes) :
    Sorted (mergeObj akvs bkvs)
      ∧ (lookup k (mergeObj akvs bkvs)).isSome = ((lookup k akvs).isSome || (lookup k bkvs).isSome) := by
  refine ⟨sorted_mergeObj bkvs akvs ha, ?_⟩
  rw [lookup_mergeObj bkvs akvs hb k]
  cases lookup k bkvs <;> simp

/-- an undefined right-hand side changes nothing; an undefined left-hand side becomes the right-hand
    object -/
theorem C25_merge_none_right (j : Json) : add j .none = .ok j := by
  cases j <;> rfl

theorem C25_merge_into_undefined (bkvs : Obj) (hb : Sorted bkvs) : add .none (.obj bkvs) = .ok (.obj bkvs) := by
  show Except.ok (Json.obj (mergeObj [] bkvs)) = _
  rw [mergeObj_empty bkvs hb]

/-- size(): inserting a member grows an object by one exactly when the key was absent -/
theorem C25_size_insert (k : Bytes) (v : Json) (kvs : Obj) (h : Sorted kvs) :
    size (.obj (insert k v kvs)) = if (lookup k kvs).isSome then size (.obj kvs) else size (.obj kvs) + 1 := by
  simp only [size]
  exact length_insert k v h

/-- histories: every operation of the property (an operation that throws leaves the value unchanged)
    keeps every object of the value ordered like std::map, so all laws above apply after any history -/
theorem C25_history_wf (ops : List Op) (j : Json) (hj : WFJ j) (ho : ∀ op ∈ ops, op.Wf) : WFJ (run j ops) := by
  induction ops generalizing j with
  | nil => exact hj
  | cons op t ih =>
    obtain ⟨h1, h2⟩ := List.forall_mem_cons.mp ho
    exact ih (step j op) (wfj_step j op hj h1) h2

example : run .none [.write [[97], [98]] .null, .touch [[99]], .set [97, 47, 98] (.str []), .remove [[97], [98]], .merge (.obj [([97], .obj [([120], .null)])])]
    = .obj [([97], .obj [([120], .null)]), ([97, 47, 98], .str []), ([99], .none)] := by rfl

end Occa.Json.C25
