/-
C01 — Handles release each backend object exactly once, for any handle history.

Model: OccaModel/Gc.lean (the repaired code: fixes F01 swap, F02 device free).  `run ops` is the state
after any list of operations (construct / copy / assign / swap / free / destroy / dontUseRefs of handle
variables of the five classes, and the calls that create devices, memories, slices, pools, pool
reservations, kernels and streams, get/set the current stream, recover the device of an object) from
the empty initial state; operations on variables that do not exist are rejected without effect, so every
list of operations is a history.  Nothing below bounds the length of the history, the number of
variables or the number of objects.

Clauses of the property:
  (a) each backend object is destroyed at most once, and exactly once when it has gone
                                                        C01_destroyed_at_most_once
  (b) … and is never touched afterwards               C01_never_touched_after_destruction
  (c) handles only point to live objects of their class, and a handle points to an object exactly when
      it is an entry of that object's reference ring   C01_handles_point_to_live_objects,
                                                        C01_ring_membership_iff_pointer
  (d) after free() every handle that referred to the object is uninitialised, the object is destroyed
                                                        C01_free_clears_every_alias
  (e) nothing alive is ownerless: every live object has a handle or a live owner, objects of a freed
      device are gone                                  C01_live_objects_have_owners
  (f) no history leaks: once all variables are destroyed, only objects pinned by dontUseRefs (and what
      they own) can be alive                            C01_no_leak, C01_no_leak_without_dontUseRefs
  (g) the pointer-level ring code of gc.tpp computes the list operations the handle model uses
                                                        C01_ring_addRef_refines, C01_ring_removeRef_refines, …
(a)-(f) are read off the invariant `Inv` of every history, C01_inv; C01_unrepaired_swap_fails and
C01_unrepaired_pool_buffer_fails show in the model that the property fails without either repair.
The accounted bytes (device.memoryAllocated) are part of the model and of the differential run but no
theorem is stated about them here (C05).
-/
import OccaProofs.Lemmas.GcFinal
import OccaProofs.Lemmas.GcUse
import OccaProofs.Lemmas.GcRing

namespace Occa.Gc.C01
open Occa.Gc

private theorem run_snoc (ops : List Op) (op : Op) : run (ops ++ [op]) = (step (run ops) op).1 := by
  simp [run, List.foldl_append]

/-- the full invariant, for every history -/
theorem C01_inv (ops : List Op) : Inv (run ops) := run_inv ops

/-- (b) no operation of any history reads, writes or destroys an object that has already been
    destroyed (`trap` is set by every such access in the model) -/
theorem C01_never_touched_after_destruction (ops : List Op) : (run ops).trap = false :=
  (run_inv ops).inv.notrap

/-- (a) the destructor of an object runs at most once; it has not run while the object is alive and
    has run exactly once when the object is gone -/
theorem C01_destroyed_at_most_once (ops : List Op) (o : Nat) :
    (run ops).dtors o ≤ 1
      ∧ ((run ops).alive o = true → (run ops).dtors o = 0)
      ∧ (o < (run ops).next → (run ops).alive o = false → (run ops).dtors o = 1) := by
  have h := (run_inv ops).inv.dtors_eq o
  refine ⟨?_, ?_, ?_⟩
  · rw [h]; split <;> omega
  · intro ha; rw [h]; simp [ha]
  · intro h1 h2; rw [h]; simp [h1, h2]

/-- (c) a handle that holds a pointer is a live variable (or member), the object is alive and of the
    handle's class -/
theorem C01_handles_point_to_live_objects (ops : List Op) (v : Var) (o : Nat)
    (hp : (run ops).ptr v = some o) :
    (run ops).alive o = true ∧ (run ops).kind o = v.kind.obj ∧ (run ops).vlive v = true :=
  ⟨((run_inv ops).ptr_facts hp).1, ((run_inv ops).ptr_facts hp).2.1, (run_inv ops).inv.ptr_live v o hp⟩

/-- (c) ring membership and pointers agree, and no handle is twice in a ring -/
theorem C01_ring_membership_iff_pointer (ops : List Op) (v : Var) (o : Nat) :
    (v ∈ (run ops).ring o ↔ (run ops).ptr v = some o) ∧ ((run ops).ring o).Nodup :=
  ⟨⟨(run_inv ops).inv.ring_ptr v o, fun hp => ((run_inv ops).ptr_facts hp).2.2⟩,
    (run_inv ops).inv.ring_nodup o⟩

/-- (d) `free()` through an initialised handle: the object is destroyed (once) and no handle at all
    refers to it afterwards — every alias reports `isInitialized() == false` -/
theorem C01_free_clears_every_alias (ops : List Op) (k : HKind) (i o : Nat)
    (hl : (run ops).vlive (.user k i) = true) (hp : (run ops).ptr (.user k i) = some o) :
    (run (ops ++ [.free k i])).alive o = false
      ∧ (run (ops ++ [.free k i])).dtors o = 1
      ∧ ∀ w, (run (ops ++ [.free k i])).ptr w ≠ some o := by
  have h := run_inv ops
  have h' := run_inv (ops ++ [.free k i])
  obtain ⟨hd, hn⟩ := free_dead h hl hp
  rw [← run_snoc] at hd hn
  have hlt : o < (run ops).next := h.inv.alive_lt o (h.ptr_facts hp).1
  refine ⟨hd, ?_, ?_⟩
  · rw [h'.inv.dtors_eq o, hn]; simp [hlt, hd]
  · intro w hw
    have := (h'.ptr_facts hw).1
    rw [hd] at this; cases this

/-- (e) every live object has an owner: a device, pool, kernel, stream or memory object that counts
    references has a handle; a memory object sits in a live buffer or pool; a buffer has a slice or is
    the inner buffer of a live pool; everything except a device belongs to a live device — so nothing
    of a destroyed device survives -/
theorem C01_live_objects_have_owners (ops : List Op) (o : Nat) (ha : (run ops).alive o = true) :
    ((run ops).kind o ≠ .buf → (run ops).useRefs o = true → (run ops).ring o ≠ [])
      ∧ ((run ops).kind o = .buf →
          ((run ops).kids o ≠ [] ∨ ∃ p, (run ops).alive p = true ∧ (run ops).inner p = some o))
      ∧ ((run ops).kind o = .mem →
          ∃ b, (run ops).par o = some b ∧ o ∈ (run ops).kids b ∧ (run ops).alive b = true)
      ∧ ((run ops).kind o ≠ .dev → ∃ d, deviceOf (run ops) o = some d ∧ (run ops).alive d = true
          ∧ (run ops).kind d = .dev) := by
  have h := run_inv ops
  refine ⟨?_, ?_, ?_, ?_⟩
  · intro hk hu
    rcases h.inv.ring_ne o ha hk hu with x | ⟨_, x, _⟩
    · exact x
    · exact x.elim
  · intro hk; exact h.inv.buf_ne o ha hk
  · intro hk
    obtain ⟨b, hb1, hb2⟩ := h.inv.mem_par o ha hk
    exact ⟨b, hb1, hb2, (h.inv.kids_alive hb2).2⟩
  · exact fun _ => h.deviceOf_spec ha

/-- (f) no leak: after any history, destroy all variables (`vs` lists at least the existing ones).  Then
    no variable exists, and unless some object that is still alive was pinned with `dontUseRefs`,
    no backend object is alive -/
theorem C01_no_leak (ops : List Op) (vs : List (HKind × Nat))
    (hvs : ∀ k i, (run ops).vlive (.user k i) = true → (k, i) ∈ vs) :
    (∀ k i, (run (ops ++ dropAll vs)).vlive (.user k i) = false)
      ∧ ((∀ o, (run (ops ++ dropAll vs)).alive o = true → (run (ops ++ dropAll vs)).useRefs o = true) →
          ∀ o, (run (ops ++ dropAll vs)).alive o = false) := by
  have e : run (ops ++ dropAll vs) = runFrom (run ops) (dropAll vs) := runFrom_append St.init ops _
  have hv : ∀ k i, (run (ops ++ dropAll vs)).vlive (.user k i) = false := by
    intro k i
    rw [e, dropAll_vlive (run_inv ops)]
    cases hl : (run ops).vlive (.user k i)
    · simp
    · simp [hvs k i hl]
  exact ⟨hv, fun hu => no_leak_core (run_inv (ops ++ dropAll vs)) hv hu⟩

/-- (f) in particular: a history that never calls `dontUseRefs`, followed by the destruction of all
    variables, leaves no backend object alive -/
theorem C01_no_leak_without_dontUseRefs (ops : List Op) (vs : List (HKind × Nat))
    (hn : ∀ op ∈ ops, op.isNorefs = false)
    (hvs : ∀ k i, (run ops).vlive (.user k i) = true → (k, i) ∈ vs) :
    ∀ o, (run (ops ++ dropAll vs)).alive o = false := by
  apply (C01_no_leak ops vs hvs).2
  intro o _
  refine runFrom_useRefs_mono (s := St.init) (fun op hop => ?_) rfl
  rcases List.mem_append.mp hop with h | h
  · exact hn op h
  · obtain ⟨v, _, hv⟩ := List.mem_map.mp h
    rw [← hv]; rfl

/-! ### why the two repairs are needed: the unrepaired code violates the property in the model -/

/-- the unrepaired `memory::swap` / `memoryPool::swap`: exchange of the two raw pointers only -/
def swapRaw (s : St) (a b : Var) : St := (s.setPtr a (s.ptr b)).setPtr b (s.ptr a)

/-- F01: after a pointer-only swap the handles are entries of the wrong rings — the invariant is gone
    (concrete witness: one device, one memory, an uninitialised second handle) -/
theorem C01_unrepaired_swap_fails :
    ∃ ops a b, Inv (run ops) ∧ ¬ InvX E (swapRaw (run ops) a b) := by
  refine ⟨[.ctor .dev 0, .mkdev 0, .ctor .mem 0, .ctor .mem 1, .malloc 0 0 16], .user .mem 0, .user .mem 1,
    run_inv _, ?_⟩
  intro h
  have hp : (swapRaw (run [.ctor .dev 0, .mkdev 0, .ctor .mem 0, .ctor .mem 1, .malloc 0 0 16])
      (.user .mem 0) (.user .mem 1)).ptr (.user .mem 1) = some 3 := by decide
  have := (h.ptr_ok _ _ hp (fun x => x)).2.2
  revert this
  decide

/-- F02: if the inner buffer of a pool is also an entry of the device's ring of buffers (as before the
    repair) and some other buffer was allocated before the pool, `device.free()` reaches the inner
    buffer before its pool and destroys it twice: the model traps -/
theorem C01_unrepaired_pool_buffer_fails :
    ∃ ops d p i, Inv (run ops) ∧ (run ops).inner p = some i ∧
      (deleteDev ((run ops).chSet .buf d (Ring.add ((run ops).chGet .buf d) i)) d).trap = true := by
  refine ⟨[.ctor .dev 0, .mkdev 0, .ctor .mem 1, .malloc 1 0 8, .ctor .pool 0, .mkpool 0 0, .ctor .mem 0,
    .reserve 0 0 16], 0, 4, 5, run_inv _, by decide, by decide⟩

/-! ### (g) the intrusive ring of gc.tpp refines the lists of the handle model

`RingRefine.WF L r l`: walking `rightRingEntry` from `r.head` through the link fields `L` visits exactly
the entries `l` (no repetition, linked both ways, closed).  The list operations `Ring.add` /
`Ring.remove` are the ones `OccaModel/Gc.lean` uses for every ring of handles and of child objects. -/

section ring
open RingRefine
variable {α : Type} [DecidableEq α]

/-- `ring_t::addRef(entry)` of an entry that is in no ring appends it: well-formedness is kept and the
    ring order becomes `Ring.add l e = l ++ [e]` -/
theorem C01_ring_addRef_refines {L : Links α} {r : RingP α} {l : List α} {e : α} (hw : WF L r l)
    (he : e ∉ l) (hu : Unlinked L e) :
    WF (RingP.addRef L r e).1 (RingP.addRef L r e).2 (Ring.add l e) ∧ Ring.add l e = l ++ [e]
      ∧ (RingP.addRef L r e).2.useRefs = r.useRefs := by
  obtain ⟨a, b, c⟩ := addRef_fresh hw he hu
  exact ⟨by rw [b]; exact a, b, c⟩

/-- `ring_t::removeRef(entry)` of a ring entry erases it (removing the head makes the old tail the
    new head: `Ring.remove`), keeps well-formedness, and leaves the entry unlinked -/
theorem C01_ring_removeRef_refines {L : Links α} {r : RingP α} {l : List α} {e : α} (hw : WF L r l)
    (he : e ∈ l) :
    WF (RingP.removeRef L r e).1 (RingP.removeRef L r e).2 (Ring.remove l e)
      ∧ Unlinked (RingP.removeRef L r e).1 e
      ∧ (Ring.remove l e).Perm (l.erase e)
      ∧ (RingP.removeRef L r e).2.useRefs = r.useRefs := by
  obtain ⟨a, b, c⟩ := removeRef_member hw he
  exact ⟨a, b, Ring.remove_perm_erase l e, c⟩

/-- `removeRef` of an unlinked entry that is not in the ring (the destructor of an object that its owner
    has already taken out of the ring) leaves the ring as it is -/
theorem C01_ring_removeRef_absent {L : Links α} {r : RingP α} {l : List α} {e : α} (hw : WF L r l)
    (he : e ∉ l) (hu : Unlinked L e) :
    WF (RingP.removeRef L r e).1 (RingP.removeRef L r e).2 l ∧ Ring.remove l e = l :=
  removeRef_nonmember hw he hu

/-- `ring_t::needsFree()` ↔ the ring is empty and reference counting is on -/
theorem C01_ring_needsFree_iff {L : Links α} {r : RingP α} {l : List α} (hw : WF L r l) :
    r.needsFree = true ↔ (l = [] ∧ r.useRefs = true) :=
  needsFree_iff hw

/-- the list is what a walk along `rightRingEntry` from `head` sees (this is how
    `modeDevice_t::finishAll` and `ring_t::length` traverse a ring) -/
theorem C01_ring_walk {L : Links α} {r : RingP α} {h : α} {t : List α} (hw : WF L r (h :: t)) :
    r.head = some h ∧ L.walk (t.length + 1) h = h :: t :=
  ⟨hw.1, walk_chain L t h h hw.2.2⟩

/-- all rings share one link space: an `addRef` / `removeRef` on one ring keeps every ring with other
    entries well-formed -/
theorem C01_ring_separation {L : Links α} {r r2 : RingP α} {l l2 : List α} {e : α} (hw : WF L r l)
    (hw2 : WF L r2 l2) (hd : ∀ x ∈ l2, x ∉ l) :
    (e ∈ l → WF (RingP.removeRef L r e).1 r2 l2)
      ∧ (Unlinked L e → e ∉ l2 → WF (RingP.addRef L r e).1 r2 l2) :=
  ⟨fun he => other_ring_removeRef hw he hw2 hd, fun hu he2 => other_ring_addRef hw hu hw2 hd he2⟩

/-- the hypotheses are satisfiable: the empty ring over unlinked entries is well-formed, and adding
    1, 2, 3 and removing the head gives the ring 3, 2 (the old tail becomes the head) -/
example : WF (⟨id, id⟩ : Links Nat) RingP.empty [] := ⟨rfl, List.nodup_nil, trivial⟩

example : Ring.remove (Ring.add (Ring.add (Ring.add ([] : List Nat) 1) 2) 3) 1 = [3, 2] := by decide

end ring

/-! ### the hypotheses are satisfiable by non-trivial histories (kernel-evaluated) -/

/-- a device, a memory with a slice, a pool with a reservation, swapped handles -/
def demo : List Op :=
  [.ctor .dev 0, .mkdev 0, .ctor .mem 0, .malloc 0 0 64, .ctor .mem 1, .slice 1 0 8 16,
   .ctor .pool 0, .mkpool 0 0, .ctor .mem 2, .reserve 2 0 100, .swap .mem 0 1]

example : (run demo).ptr (.user .mem 0) = some 4 ∧ (run demo).ptr (.user .mem 1) = some 3
    ∧ (run demo).alive 3 = true ∧ (run demo).vlive (.user .mem 0) = true := by decide

example : (run (demo ++ [.free .dev 0])).alive 3 = false := by decide

/-- dropping the five variables of `demo` leaves nothing alive (objects 0 .. 7 were created) -/
example : ∀ o, o < 8 →
    (run (demo ++ dropAll [(.dev, 0), (.mem, 0), (.mem, 1), (.mem, 2), (.pool, 0)])).alive o = false := by
  decide

end Occa.Gc.C01
