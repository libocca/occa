/-
C27 — hash_t strings are faithful and hashing has no undefined behaviour.

Model: OccaModel/Hash.lean over the generated OccaGen/HashConsts.lean, OccaGen/HexFns.lean.
Lemmas about lanes, bytes and hex digits: Lemmas/Hash.lean.
Statement of the property, clause by clause:
  (a) reading back the full string gives the same hash           C27_full_roundtrip
  (b) the short string is the first 16 characters of the full    C27_short_is_prefix
  (c) equal bytes give equal hashes in every process             hashBytes is a closed function of the
      bytes and of generated constants (no environment input); the cross-process part is checked by
      the harness (two processes) — C27_hash_wellformed shows every hash of bytes is covered by (a),(b)
  (d) no undefined behaviour when hashing / combining            C27_no_signed_arithmetic (the clang AST
      types every multiply/add of the lane update as unsigned) + UBSan in the harness
-/
import OccaProofs.Lemmas.Hash

namespace Occa.Hash.C27
open Occa Occa.Gen Occa.Hash

/-- (a) `fromString (getFullString h) = h` for every hash value. -/
theorem C27_full_roundtrip (h : Lanes) (wf : WellFormed h) : fromString (fullString h) = h :=
  fromString_fullString h wf

/-- the full string always has 64 characters -/
theorem C27_full_len (h : Lanes) (hl : h.length = 8) : (fullString h).length = 64 := by
  unfold fullString; rw [toHexBytes_length, flat_length, hl]

/-- Invariant of the getString cache: a non-empty cached string is the short string of `sh`. -/
def Inv (o : Obj) : Prop := o.hstr ≠ [] → o.hstr = (fullString o.sh).take 16

theorem inv_step (o : Obj) (op : Op) (hi : Inv o) : Inv (step o op) := by
  cases op with
  | getString =>
    simp only [step, Obj.getString]
    split
    · exact fun _ => rfl
    · exact hi
  | setLanes h => exact hi
  | assign s => exact fun h => absurd rfl h
  | xorWith x => exact fun h => absurd rfl h

theorem inv_run (h0 : Lanes) (ops : List Op) : Inv (ops.foldl step (Obj.ofLanes h0)) :=
  List.foldlRecOn ops step (fun h => absurd rfl h) fun o h a _ => inv_step o a h

/-- (b) after ANY history of assignments, xor-combinations, direct lane writes and earlier
    getString calls, getString() returns the first 16 characters of getFullString(). -/
theorem C27_short_is_prefix (h0 : Lanes) (ops : List Op) :
    let o := ops.foldl step (Obj.ofLanes h0)
    (o.getString).1 = (fullString o.h).take 16 := by
  intro o
  have hi : Inv o := inv_run h0 ops
  unfold Obj.getString
  split
  · rfl
  · rename_i hc
    simp only [Bool.or_eq_true, List.isEmpty_iff, bne_iff_ne, ne_eq, not_or, Decidable.not_not] at hc
    show o.hstr = _
    rw [hi hc.1, hc.2]

/-- non-vacuity of (b): the all-zero hash (h ^ h), the case that was wrong before the repair -/
example : ((Obj.ofLanes zeros).getString).1 = (fullString zeros).take 16 ∧
          ((Obj.ofLanes zeros).getString).1.length = 16 := by decide

/-- every hash of a byte string is a well-formed hash value, so (a) and (b) apply to it -/
theorem C27_hash_wellformed (bs : List Nat) : WellFormed (hashBytes bs) := hashBytes_wf bs

/-- combining hashes stays inside the set of values covered by (a) and (b) -/
theorem C27_xor_wellformed (a b : Lanes) (ha : a.length = 8) (hb : b.length = 8) : WellFormed (xor a b) :=
  xor_wf a b ha hb

/-- (d) every multiply / add / shift node of the lane update has an unsigned C++ type, as
    extracted from the clang AST of /repo's current hash.cpp: no signed overflow can occur. -/
theorem C27_no_signed_arithmetic : mulIsUnsigned = true := by decide

/-- the corollary users rely on: hashing bytes, then printing and parsing, is the identity -/
theorem C27_hash_string_roundtrip (bs : List Nat) :
    fromString (fullString (hashBytes bs)) = hashBytes bs :=
  C27_full_roundtrip _ (C27_hash_wellformed bs)

end Occa.Hash.C27
