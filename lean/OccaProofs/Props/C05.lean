/-
C05 — Device memory accounting returns to zero and tracks live allocations.

Model: OccaModel/Pool.lean (`State`: the device counters `Dev` with a ghost trace of every value
`bytesAllocated` takes, the live device buffers `bufs` with their `counted = !isWrapped` flag, the
memory objects `mems` over them, up to two pools), instantiated with the statement variants of the
current source (`Gen.poolCfg`).
Clauses:
  memoryAllocated() = bytes of live malloc/clone allocations + bytes of live pool buffers,
     wrapped memory counting nothing                                   C05_allocated_is_sum
  the buffers in that sum are exactly the live ones                    C05_buffers_are_live
  maxMemoryAllocated() = largest value memoryAllocated() has taken     C05_max_is_running_max
  everything released => memoryAllocated() = 0                         C05_zero_when_released,
                                                                       C05_freeall_returns_to_zero
Histories: arbitrary `ops : List Op` — malloc, malloc with source, use_host_pointer with/without
own_host_pointer, wrapMemory, clone, slices, releases, pools created, grown, shrunk, re-aligned, freed.
-/
import OccaProofs.Lemmas.PoolKeep
import OccaGen.PoolConsts

namespace Occa.Pool.C05
open Occa Occa.Pool

/-- tie: the source currently contains every repaired statement the proofs rely on -/
theorem C05_source_is_repaired : Gen.poolCfg.Fixed := by decide

/-- memoryAllocated() is the sum of the sizes of the live non-wrapped buffers and of the live
    pools' backing buffers, after every operation of every history -/
theorem C05_allocated_is_sum (ops : List Op) :
    (run Gen.poolCfg ops).dev.alloc =
      countedBytes (run Gen.poolCfg ops).bufs + poolSize ((run Gen.poolCfg ops).pool 0) +
        poolSize ((run Gen.poolCfg ops).pool 1) :=
  (run_inv C05_source_is_repaired ops).account

/-- wrapped memory counts nothing, a counted buffer counts its size -/
example (d : List Byte) : countedBytes [⟨0, 40, true, d⟩, ⟨1, 16, false, d⟩] = 40 := rfl

example : ∃ ops, (run Gen.poolCfg ops).dev.alloc = 4 + 128 ∧ (run Gen.poolCfg ops).dev.maxAlloc = 4 + 128 + 256 :=
  ⟨[.mallochost 0 4 false 7, .wrap 1 4 9, .pool 0, .reserve 0 2 100, .reserve 0 3 100, .release 2, .release 3,
    .resize 0 100], by decide, by decide⟩

/-- the buffers that enter the sum are exactly the allocations some live memory object refers to
    (a buffer disappears, and is subtracted, when its last memory object is released) -/
theorem C05_buffers_are_live (ops : List Op) :
    (∀ b ∈ (run Gen.poolCfg ops).bufs, ∃ m ∈ (run Gen.poolCfg ops).mems, m.buf = b.id) ∧
    ((run Gen.poolCfg ops).bufs.map (·.id)).Nodup :=
  ⟨(run_inv C05_source_is_repaired ops).mems.bufLive, (run_inv C05_source_is_repaired ops).mems.bufIds⟩

/-- maxMemoryAllocated() is the maximum of all values bytesAllocated has taken (the ghost trace
    gets a new entry at every `+=` and `-=` of the counter, including the moment at which a pool
    holds its old and its new buffer), and the trace ends with the current value -/
theorem C05_max_is_running_max (ops : List Op) :
    (run Gen.poolCfg ops).dev.maxAlloc = maxOf (run Gen.poolCfg ops).dev.trace ∧
    (run Gen.poolCfg ops).dev.alloc = (run Gen.poolCfg ops).dev.trace.headD 0 ∧
    (run Gen.poolCfg ops).dev.alloc ≤ (run Gen.poolCfg ops).dev.maxAlloc :=
  ⟨(run_inv C05_source_is_repaired ops).dev.max_eq, (run_inv C05_source_is_repaired ops).dev.cur,
   (run_inv C05_source_is_repaired ops).dev.le⟩

/-- the trace really is the history of the counter: `+=` and `-=` extend it by the new value -/
theorem C05_trace_records (d : Dev) (n : Nat) :
    (d.add n).trace = (d.add n).alloc :: d.trace ∧ (d.sub n).trace = (d.sub n).alloc :: d.trace := ⟨rfl, rfl⟩

/-- once every memory object and pool is released, memoryAllocated() is 0 -/
theorem C05_zero_when_released (ops : List Op) (hm : (run Gen.poolCfg ops).mems = [])
    (h0 : (run Gen.poolCfg ops).pool 0 = none) (h1 : (run Gen.poolCfg ops).pool 1 = none) :
    (run Gen.poolCfg ops).dev.alloc = 0 :=
  alloc_zero_of_released (run_inv C05_source_is_repaired ops) hm h0 h1

/-- and that situation is reached by actually releasing everything: after `freeall` (every memory
    object released one by one, then both pools freed) nothing is live and memoryAllocated() is 0,
    whatever the history before -/
theorem C05_freeall_returns_to_zero (ops : List Op) :
    (step Gen.poolCfg (run Gen.poolCfg ops) .freeall).1.mems = [] ∧
    (step Gen.poolCfg (run Gen.poolCfg ops) .freeall).1.pool 0 = none ∧
    (step Gen.poolCfg (run Gen.poolCfg ops) .freeall).1.pool 1 = none ∧
    (step Gen.poolCfg (run Gen.poolCfg ops) .freeall).1.dev.alloc = 0 :=
  step_freeall C05_source_is_repaired (run_inv C05_source_is_repaired ops)

/-- a slot names one memory object: device memories have distinct slots, none of which is the slot
    of a pool reservation (so `release k` releases exactly one object) -/
theorem C05_slot_names_one_object (ops : List Op) :
    ((run Gen.poolCfg ops).mems.map (·.slot)).Nodup ∧
    ∀ m ∈ (run Gen.poolCfg ops).mems, ∀ i p, (run Gen.poolCfg ops).pool i = some p → findSlot m.slot p.resv = none :=
  ⟨(run_inv C05_source_is_repaired ops).mems.memSlots, (run_inv C05_source_is_repaired ops).cross⟩

example : ∃ ops, (run Gen.poolCfg ops).mems = [] ∧ (run Gen.poolCfg ops).pool 0 = none ∧
    (run Gen.poolCfg ops).dev.maxAlloc = 18 :=
  ⟨[.mallochost 0 4 true 7, .pool 0, .align 0 4, .reserve 0 1 6, .clone 2 1, .freeall], by decide, by decide, by decide⟩

/-! ### why the F08 repair is needed -/

def cfgNoF08 : Cfg := { Gen.poolCfg with hostPtrCounted := false }

/-- F08 as a model trace: malloc(40, ptr, use_host_pointer), release: the counter stays at 40 -/
theorem C05_zero_fails_without_F08 :
    ¬ ∀ (ops : List Op), (run cfgNoF08 ops).mems = [] → (run cfgNoF08 ops).pool 0 = none →
      (run cfgNoF08 ops).pool 1 = none → (run cfgNoF08 ops).dev.alloc = 0 := by
  intro h
  have := h [.mallochost 0 40 false 7, .release 0] rfl rfl rfl
  exact absurd this (by decide)

end Occa.Pool.C05
