/-
C21 (PARTIAL) — OpenMP kernels are deterministic for every thread count and schedule.

Proved on the loop-structure level: any interleaving of independent outer iterations gives the
sequential result (an OpenMP execution with any number of threads and any schedule is such an
interleaving; `omp atomic` / `omp critical` statements are single steps), atomic additions are
never lost while an unguarded read-modify-write can be, and the structure of the OpenMP
translation (`openmpT`, compared with the real translator by tools/checks/C21.py): the pragma
before every outer-most @outer loop, every @shared/@exclusive declaration and the exclusive index
inside the parallel loop body (hence private to an outer iteration), one `omp atomic` / `omp critical`
line per @atomic statement or region.  The OpenMP runtime and the compiler are assumptions.
-/
import OccaProofs.Lemmas.OklSem
import OccaProofs.Lemmas.OklHost
import OccaGen.OklFacts

namespace Occa.OklSem.C21

/-- C21, schedules: `iters` are the step sequences of the outer iterations in loop order.  Whatever
    the number of threads and the schedule, an OpenMP execution runs the steps in an order that
    keeps each iteration's own order — an interleaving.  If steps of different iterations commute
    (the kernel is independent), every such execution ends in the state of the Serial translation. -/
theorem C21_schedule_independent {α σ : Type} (f : α → σ → σ) (iters : List (List α))
    (hind : CrossCommute f iters) (exec : List α) (h : Interleave iters exec) (s : σ) :
    run f exec s = run f iters.flatten s :=
  run_interleave f iters exec h hind s

/-- steps on a shared cell: an indivisible addition (`omp atomic`), or the two halves of an
    unguarded `x += c` of thread `t` (read into a register, write register + c) -/
inductive Step | atomicAdd (c : Nat) | read (t : Nat) | write (t : Nat) (c : Nat)

def stepf : Step → Nat × (Nat → Nat) → Nat × (Nat → Nat)
  | .atomicAdd c, (x, reg) => (x + c, reg)
  | .read t, (x, reg) => (x, fun u => if u = t then x else reg u)
  | .write t c, (_, reg) => (reg t + c, reg)

/-- C21, "updates marked @atomic are never lost": however the atomic additions of the outer
    iterations interleave, the cell ends with the sum of all of them. -/
theorem C21_atomic_not_lost (iters : List (List Nat)) (exec : List Step)
    (h : Interleave (iters.map (List.map Step.atomicAdd)) exec) (x : Nat) (reg : Nat → Nat) :
    (run stepf exec (x, reg)).1 = x + (iters.flatten).sum := by
  have hc : CrossCommute stepf (iters.map (List.map Step.atomicAdd)) := by
    unfold CrossCommute
    rw [List.pairwise_map]
    apply List.pairwise_of_forall
    intro a b p hp q hq s
    obtain ⟨c1, _, rfl⟩ := List.mem_map.1 hp
    obtain ⟨c2, _, rfl⟩ := List.mem_map.1 hq
    exact Prod.ext (Nat.add_right_comm ..) rfl
  rw [run_interleave stepf _ exec h hc, ← List.map_flatten]
  generalize iters.flatten = l
  induction l generalizing x with
  | nil => rfl
  | cons c l ih => exact (ih (x + c)).trans (by rw [List.sum_cons, Nat.add_assoc])

/-- the same two increments without the guard can lose one -/
example : Interleave [[Step.read 0, .write 0 1], [.read 1, .write 1 1]] [.read 0, .read 1, .write 0 1, .write 1 1] ∧
    (run stepf [.read 0, .read 1, .write 0 1, .write 1 1] (0, fun _ => 0)).1 = 1 :=
  ⟨.step (α := Step) [] _ [.write 0 1] [[.read 1, .write 1 1]] _ (.step (α := Step) [[.write 0 1]] _ [.write 1 1] [] _
    (.step (α := Step) [] _ [] [[.write 1 1]] _ (.step (α := Step) [[]] _ [] [] _ (.done _ (by simp))))), rfl⟩

open Occa.Okl Occa.OklT

/-- C21, parallel region placement: in the OpenMP translation every outer-most @outer loop is
    immediately preceded by the `omp parallel for` pragma. -/
theorem C21_pragma_before_outermost_outer (t : Tree) : ∀ (c : SCtx) (pp : Bool), c.omp = true →
    PragmaOk c.inOuter pp (hostGo c t) := by
  rintro ⟨_, excl, io, ii, xs, sz⟩ pp rfl
  cases io
  · exact PragmaOk_hostGo t excl ii xs sz pp
  · exact .inOuter _ pp

/-- C21, no shared state: for a rule-conforming kernel every @shared / @exclusive declaration of the
    OpenMP (and Serial) translation, the exclusive index, its reset and its increment lie inside an
    @outer loop — and by `C21_pragma_before_outermost_outer` inside the body of a parallel loop, so they
    are private to one outer iteration. -/
theorem C21_no_shared_state (k : Kernel) (hk : rulesOk k = true) :
    PrivateOk false (hostGo ⟨true, hasExcl k.body, false, false, false, 1024⟩ k.body) ∧
    PragmaOk false false (hostGo ⟨true, hasExcl k.body, false, false, false, 1024⟩ k.body) :=
  ⟨PrivateOk_hostGo _ _ _ _ _ false ((rulesOk_iff k).1 hk).2.2.1, PragmaOk_hostGo _ _ _ _ _ _⟩

/-- C21, atomics: the OpenMP translation emits exactly one `omp atomic` / `omp critical` guard per
    @atomic statement or region of the kernel (none is dropped, none is invented). -/
theorem C21_atomics_guarded (t : Tree) : ∀ (c : SCtx), c.omp = true → guardCount (hostGo c t) = atomicCount t := by
  rintro ⟨_, excl, io, ii, xs, sz⟩ rfl
  exact guardCount_hostGo t excl io ii xs sz

/-- the pragma the source emits, and who rewrites @atomic -/
theorem C21_source_facts : Occa.Gen.Okl.ompPragma = "omp parallel for" ∧ "openmp" ∈ Occa.Gen.Okl.atomicRewriters :=
  ⟨rfl, by decide⟩

end Occa.OklSem.C21
