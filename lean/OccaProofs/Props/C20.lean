/-
C20 (PARTIAL) — Translated kernels compute what the OKL kernel means, on every backend.

What is proved here is the loop-structure level (OccaModel/OklSem.lean, OccaModel/OklT.lean):
which statement instances the launcher-style translation executes under the GPU launch model,
that independent iterations may run in any interleaving within barrier phases, that the Serial
translation's exclusive arrays give every inner iteration its own cell, that the launcher-style
translation puts a barrier after an outer-most @inner loop that mentions @shared memory and has
an @inner loop after it or a sequential loop around it.  Expression-level
rewrites, qualifiers, @restrict/@dim and the compilers are covered by the execution tie of
tools/checks/C20.py only (exploration).
-/
import OccaProofs.Lemmas.OklSem
import OccaModel.OklT
import OccaGen.OklFacts

namespace Occa.OklSem.C20

/-- what the whole launch grid executes -/
def GpuExecutes (od id : Nat → Nat) (s : Sem) (x : Inst) : Prop :=
  ∃ b t, InGrid od id b t ∧ x ∈ thr b t 0 0 [] [] [] s

/-- C20, index coverage: when all @outer (@inner) loops of the same nesting depth have the same
    positive trip count, the launch grid executes exactly the statement instances of the
    sequential reading: every one of them, and no other. -/
theorem C20_index_coverage_partial (od id : Nat → Nat) (hod : ∀ k, 0 < od k) (hid : ∀ k, 0 < id k)
    (s : Sem) (hu : Uniform od id 0 0 s) (x : Inst) :
    x ∈ seqTrace [] [] [] s ↔ GpuExecutes od id s x :=
  coverage od id hod hid s 0 0 [] [] [] x hu

example : ∃ s, Uniform (fun _ => 2) (fun _ => 3) 0 0 s ∧ (seqTrace [] [] [] s).length = 12 :=
  ⟨.outer 2 (.inner 3 (.stmt 0 .nil) (.inner 3 (.stmt 1 .nil) .nil)) .nil, by simp [Uniform], rfl⟩

/-- the statement the property makes for *every* rule-conforming kernel, with the dimensions the
    launcher actually takes (those of the first loop of each depth) -/
def C20_index_coverage_full : Prop :=
  ∀ (s : Sem) (x : Inst),
    x ∈ seqTrace [] [] [] s ↔ GpuExecutes (launchDims s).1 (launchDims s).2 s x

/-- … is false of the current code (finding F66): two sibling @inner loops with different trip counts
    pass every OKL rule; the launcher takes the dimensions of the first, the second then runs for
    thread indices it has no iteration for. -/
theorem C20_index_coverage_full_fails : ¬ C20_index_coverage_full := by
  intro h
  have := (h (.outer 1 (.inner 2 (.stmt 0 .nil) (.inner 1 (.stmt 1 .nil) .nil)) .nil) ⟨1, [0], [1], []⟩).2
    ⟨fun _ => 0, fun k => if k = 0 then 1 else 0,
      ⟨fun k => by cases k <;> simp [launchDims, firstCount],
       fun k => by cases k <;> simp [launchDims, firstCount]⟩, by simp [thr]⟩
  simp [seqTrace] at this

/-- C20, independent iterations: the GPU runs the threads of a block phase by phase (a phase ends
    at a barrier); within a phase the steps of different threads may interleave in any way.  If
    within every phase steps of different threads commute, the block ends in the same state as
    the sequential reading, which runs the threads of each phase one after the other. -/
theorem C20_independent_commute {α σ : Type} (f : α → σ → σ)
    (phases : List (List (List α))) (exec : List (List α))
    (hlen : exec.length = phases.length)
    (hint : ∀ p (hp : p < phases.length), Interleave phases[p] (exec[p]'(by omega)))
    (hcomm : ∀ ph ∈ phases, CrossCommute f ph) (s : σ) :
    run f exec.flatten s = run f (phases.map List.flatten).flatten s := by
  induction phases generalizing exec s with
  | nil => rw [List.length_eq_zero_iff.1 hlen]; rfl
  | cons ph rest ih =>
    cases exec with
    | nil => cases hlen
    | cons e es =>
      simp only [List.flatten_cons, List.map_cons, run_append]
      rw [run_interleave f ph e (hint 0 (Nat.succ_pos _)) (hcomm ph List.mem_cons_self)]
      exact ih es (Nat.succ.inj hlen) (fun p hp => hint (p + 1) (Nat.succ_lt_succ hp))
        (fun q hq => hcomm q (List.mem_cons_of_mem _ hq)) _

example : Interleave [[1, 2], [3]] [1, 3, 2] :=
  .step [] 1 [2] [[3]] _ (.step [[2]] 3 [] [] _ (.step [] 2 [] [[]] _ (.done _ (by simp))))

/-- C20, @exclusive: in the Serial translation the exclusive index is set to 0 before every
    outer-most @inner loop and incremented at the end of every inner-most @inner body; so within a
    nest of @inner loops with trip counts `dims` the inner-most bodies see the values
    0, 1, …, ∏dims − 1 in order: the same inner iteration gets the same cell in every @inner
    section, different iterations get different cells, all below the array size ∏dims. -/
theorem C20_exclusive_private (dims : List Nat) :
    (counterRun dims 0).1 = List.range dims.prod ∧
    (counterRun dims 0).1.Nodup ∧ ∀ c ∈ (counterRun dims 0).1, c < dims.prod := by
  rw [counterRun_spec, ← List.range_eq_range']
  exact ⟨rfl, List.nodup_range, fun c => List.mem_range.1⟩

example : (counterRun [2, 3] 0).1 = [0, 1, 2, 3, 4, 5] := by rw [counterRun_spec]; rfl

open Occa.Okl Occa.OklT in
/-- C20, barriers: in the launcher-style translation an outer-most @inner loop that mentions a
    @shared variable and is followed by another @inner loop (in its block or in an enclosing block
    of the kernel) or lies inside a sequential loop, and is not marked @nobarrier, is followed by a
    barrier. -/
theorem C20_barrier_after_shared_section (c : LCtx) (o : Bool) (h : Hdr) (uses : List Bool) (kids next : Tree)
    (hin : c.inInner = false)
    (hfollow : hasInnerAttr next = true ∨ c.after = true ∨ c.inLoop = true)
    (hshared : uses.any id = true ∨ mentionsShared kids = true) :
    ∃ body, devGo c (.node ⟨.okl false true h false, uses⟩ kids next) =
      .node .block body (.node .barrier .nil (devGo c next)) := by
  refine ⟨TT.node .declPlain .nil (devGo ⟨c.dev, true, c.inLoop, c.after || hasInnerAttr next⟩ kids), ?_⟩
  have h1 : (hasInnerAttr next || c.after || c.inLoop) = true := by
    rcases hfollow with h | h | h <;> simp [h]
  have h2 : (uses.any id || mentionsShared kids) = true := by
    rcases hshared with h | h <;> simp [h]
  simp only [devGo, hin, h1, h2, Bool.not_false, Bool.and_true, ↓reduceIte, TT.leaf]

/-- the barrier rule above is the repaired one (F64): the source looks at every enclosing block -/
theorem C20_source_has_barrier_repair : Occa.Gen.Okl.barrierLooksUp = true := by decide

end Occa.OklSem.C20
