/-
C19 — @dim array access computes the documented linear index.

Model: OccaModel/Dim.lean (`codeIndex`: the loop of dim::applyCodeTransformations on numbers, `linear`:
the documented mixed-radix value, `orderValid`: dimOrder::isValid), OccaModel/LoopExpr.lean
(`dimIndexExpr`: the tree, after fix F26).
Clauses of the property:
  (a) the rewrite computes the documented mixed-radix index, for every arity and every order
                                                                  C19_code_is_formula, C19_index_expr_value
  (b) every index and dimension argument is evaluated as a complete expression whatever operators it
      contains                                                    C19_index_expr_faithful (+ C19_old_misread:
                                                                  the tree built before fix F26)
  (c) for in-range indices the index is a bijection onto [0, D0*…*Dk)
                                                                  C19_in_range, C19_injective, C19_surjective
  (d) @dimOrder accepts exactly the permutations of 0..k          C19_order_valid
  The arity is unbounded (the property's "up to 4" is a special case).
-/
import OccaProofs.Lemmas.Dim
import OccaProofs.Lemmas.ExprGroup
import OccaProofs.Lemmas.ExprGrammar

namespace Occa.Dim.C19
open Occa Occa.Dim Occa.LoopExpr

/-- (a) The loop `index = a[o_k]; index = a[o_i] + D[o_i] * index` computes the documented mixed-radix
    value `a[o_0] + D[o_0] * (a[o_1] + D[o_1] * (… a[o_k]))`, for every arity and every order list. -/
theorem C19_code_is_formula (D ix : List Int) (ord : List Nat) : codeIndex D ix ord = linear D ix ord := by
  unfold codeIndex linear
  cases hrev : ord.reverse with
  | nil => rw [List.reverse_eq_nil_iff.mp hrev]; rfl
  | cons last restRev =>
    rw [List.reverse_eq_cons_iff.mp hrev, mixed_append_last (fun o => (ix.getD o 0, D.getD o 0)), List.foldr_reverse]

example : codeIndex [2, 3] [1, 2] [1, 0] = 2 + 3 * 1 := by decide   -- docs: yx(1,2) with @dimOrder(1,0) -> 2 + (1 * 3)

/-- (a) The tree built by the rewrite evaluates to that value for index and dimension *expressions*. -/
theorem C19_index_expr_value (env : String → Int) (dims args : List Expr) (order : List Nat) :
    eval env (dimIndexExpr dims args order) = linear (dims.map (eval env)) (args.map (eval env)) order := by
  rw [← C19_code_is_formula]
  unfold dimIndexExpr Occa.Dim.codeIndex
  cases order.reverse with
  | nil => rfl
  | cons last restRev =>
    simp only [getD_map_eval]
    exact (List.foldl_hom (eval env) fun x o => by simp [eval]).symm

/-- (b) Its text is derived by the C expression grammar (`Derives`, Lemmas/ExprGrammar.lean) as the very tree that
    was built, for index and dimension arguments of every operator class (each only has to be grouped itself,
    as everything the OKL parser produced is): every argument is read as a complete expression. -/
theorem C19_index_expr_faithful (dims args : List Expr) (order : List Nat)
    (hd : ∀ e ∈ dims, Grouped e) (ha : ∀ e ∈ args, Grouped e) :
    ∃ ts : List Tok, renderAll ts = print (dimIndexExpr dims args order) ∧
      Derives 16 ts (dimIndexExpr dims args order) := by
  apply grouped_reads
  unfold dimIndexExpr
  cases order.reverse with
  | nil => rfl
  | cons last restRev =>
    refine List.foldlRecOn restRev _ (grouped_getD args ha last) fun index hidx o _ => ?_
    exact (fits_bin "+" (prec_pm true) (fits_wrap (grouped_getD args ha o)).mono
      (fits_wrap (fits_bin "*" prec_mul (fits_wrap (grouped_getD dims hd o)).mono
        (fits_wrap hidx).mono).grouped).mono).grouped

example : Grouped (dimIndexExpr [.lit 3, .lit 5] [.bin "&" (.var "a") (.var "b"), .tern (.var "j") (.lit 1) (.lit 2)] [0, 1]) := by
  decide

/-- (b) Before fix F26 `x(a & b, j)` with `@dim(3, 5)` was printed `x[a & b + (3 * j)]`: the grammar derives
    that text as `a & (b + (3 * j))`, whose value (a = 1, b = 2, j = 1: 1) is not the index (3). -/
theorem C19_old_misread :
    let args : List Expr := [.bin "&" (.var "a") (.var "b"), .var "j"]
    let dims : List Expr := [.lit 3, .lit 5]
    let r : Expr := .bin "&" (.var "a") (.bin "+" (.var "b") (.paren (.bin "*" (.lit 3) (.var "j"))))
    let env : String → Int := fun n => if n = "a" then 1 else if n = "b" then 2 else 1
    (∃ ts, renderAll ts = print (dimIndexExprOld dims args [0, 1]) ∧ Derives 16 ts r) ∧ eval env r = 1 ∧
      linear (dims.map (eval env)) (args.map (eval env)) [0, 1] = 3 := by
  intro args dims r env
  obtain ⟨ts, h1, h2⟩ := grouped_reads r (by decide)
  exact ⟨⟨ts, h1.trans (by decide), h2⟩, by decide, by decide⟩

/-- (c) In-range indices give an index inside the array: `0 ≤ linear < D0 * … * Dk`, for every
    permutation order. -/
theorem C19_in_range (D ix : List Int) (ord : List Nat) (hp : ord.Perm (List.range D.length))
    (hr : InRange D ix) : 0 ≤ linear D ix ord ∧ linear D ix ord < prod D := by
  have h := mixed_range _ (digitsOk_order D ix ord hp hr)
  rwa [List.map_map, show (Prod.snd ∘ fun o => (ix.getD o 0, D.getD o 0)) = fun o => D.getD o 0 from rfl,
    prod_order D ord hp] at h

example : [2, 0, 1].Perm (List.range [4, 5, 6].length) ∧ InRange [4, 5, 6] [3, 0, 5] ∧ linear [4, 5, 6] [3, 0, 5] [2, 0, 1] = 5 + 6 * (3 + 4 * 0) := by
  decide

/-- (c) Different in-range index tuples get different linear indices. -/
theorem C19_injective (D ix ix' : List Int) (ord : List Nat) (hp : ord.Perm (List.range D.length))
    (hr : InRange D ix) (hr' : InRange D ix') (he : linear D ix ord = linear D ix' ord) : ix = ix' := by
  rw [← decode_linear D ix ord hp hr, he, decode_linear D ix' ord hp hr']

/-- (c) Every position of the array is hit: onto `[0, D0 * … * Dk)`. -/
theorem C19_surjective (D : List Int) (ord : List Nat) (hp : ord.Perm (List.range D.length))
    (hpos : ∀ d ∈ D, 0 < d) (v : Int) (h0 : 0 ≤ v) (h1 : v < prod D) :
    ∃ ix, InRange D ix ∧ linear D ix ord = v :=
  ⟨decode D ord v, linear_decode D ord hp hpos v h0 h1⟩

example : ∃ ix, InRange [2, 3, 4] ix ∧ linear [2, 3, 4] ix [2, 0, 1] = 17 := ⟨[0, 2, 1], by decide, by decide⟩

/-- (d) `dimOrder::isValid` (range check + duplicate flags) accepts exactly the non-empty argument lists
    that are a permutation of `0 … k`. -/
theorem C19_order_valid (args : List Int) :
    orderValid args = true ↔
      args ≠ [] ∧ (∀ a ∈ args, 0 ≤ a) ∧ (args.map Int.toNat).Perm (List.range args.length) := by
  unfold orderValid
  simp only [Bool.and_eq_true, Bool.not_eq_true', List.isEmpty_eq_false_iff]
  rw [orderValidGo_iff]
  constructor
  · intro ⟨hne, hr, hnd, _⟩
    refine ⟨hne, fun a ha => (hr a ha).1, ?_⟩
    rw [← List.length_map (f := Int.toNat)]
    exact perm_range_of_nodup _ hnd (List.forall_mem_map.mpr fun a ha => by have := hr a ha; rw [List.length_map]; omega)
  · intro ⟨hne, hnn, hp⟩
    refine ⟨hne, fun a ha => ?_, hp.nodup_iff.mpr List.nodup_range, by simp⟩
    have := List.mem_range.mp (hp.subset (List.mem_map_of_mem (f := Int.toNat) ha))
    have := hnn a ha
    omega

example : orderValid [2, 0, 1] = true ∧ orderValid [0, 0] = false ∧ orderValid [0, 2] = false ∧ orderValid [-1, 0] = false := by
  decide

end Occa.Dim.C19
