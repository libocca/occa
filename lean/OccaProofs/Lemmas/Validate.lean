/-
modeKernel_t::setupRun (model: `validate`, `validateArgs`) against the declarative compatibility
relation.
-/
import OccaProofs.Lemmas.Dtype
import OccaProofs.Lemmas.Cast

namespace Occa.Dtype
open Occa

/-- does argument `a` fit parameter `m`: memory or occa::null exactly for pointer parameters, and a
    memory's element type must be castable to the parameter's -/
def ArgFits (a : Arg) (m : ArgMeta) : Prop :=
  match a with
  | .mem d => m.isPtr = true ∧ CastOK d m.dtype
  | .null => m.isPtr = true
  | .scalar => m.isPtr = false
  | .hostPtr => m.isPtr = false

/-- the compatible argument lists of a parameter list: same length, every argument fits -/
def Compatible : List ArgMeta → List Arg → Prop
  | [], [] => True
  | m :: ms, a :: as => ArgFits a m ∧ Compatible ms as
  | _, _ => False

/-- memory or null: what setupRun calls `isPtr` of an argument -/
def Arg.isPtrLike : Arg → Bool
  | .mem _ => true
  | .null => true
  | _ => false

/-- the exception setupRun raises for a non-fitting argument `a` at (1-based) position `i` -/
def errKind (a : Arg) (m : ArgMeta) (i : Nat) : VErr :=
  if a.isPtrLike != m.isPtr then (if m.isPtr then .expectsMemory i else .expectsNonMemory i)
  else .wrongType i

theorem compatible_iff : ∀ (ms : List ArgMeta) (args : List Arg),
    Compatible ms args ↔ args.length = ms.length ∧
      ∀ i (h1 : i < args.length) (h2 : i < ms.length), ArgFits args[i] ms[i]
  | [], [] => by simp [Compatible]
  | [], _ :: _ => by simp [Compatible]
  | _ :: _, [] => by simp [Compatible]
  | m :: ms, a :: as => by
      simp only [Compatible, compatible_iff ms as, List.length_cons, Nat.add_right_cancel_iff]
      constructor
      · rintro ⟨h0, hl, hi⟩
        refine ⟨hl, fun i h1 h2 => ?_⟩
        cases i with
        | zero => exact h0
        | succ i => exact hi i (Nat.lt_of_succ_lt_succ h1) (Nat.lt_of_succ_lt_succ h2)
      · rintro ⟨hl, hi⟩
        exact ⟨hi 0 (Nat.zero_lt_succ _) (Nat.zero_lt_succ _), hl,
          fun i h1 h2 => hi (i + 1) (Nat.succ_lt_succ h1) (Nat.succ_lt_succ h2)⟩

theorem validateArgs_cons (hG : Gen.cyclicGuard = true) (a : Arg) (as : List Arg) (m : ArgMeta)
    (ms : List ArgMeta) (i : Nat) :
    (ArgFits a m → validateArgs (a :: as) (m :: ms) i = validateArgs as ms (i + 1)) ∧
    (¬ ArgFits a m → validateArgs (a :: as) (m :: ms) i = .error (errKind a m i)) := by
  obtain ⟨c, p, t, n⟩ := m
  cases a with
  | mem d =>
    cases p
    · exact ⟨fun h => (nomatch h.1), fun _ => rfl⟩
    · obtain ⟨r, hr, hr'⟩ := canCast_spec hG d t
      rw [validateArgs, hr]
      cases r
      · exact ⟨fun h => (nomatch hr'.mpr h.2), fun _ => rfl⟩
      · exact ⟨fun _ => rfl, fun h => absurd ⟨rfl, hr'.mp rfl⟩ h⟩
  | null =>
    cases p
    · exact ⟨fun h => (nomatch h), fun _ => rfl⟩
    · exact ⟨fun _ => rfl, fun h => absurd rfl h⟩
  | scalar =>
    cases p
    · exact ⟨fun _ => rfl, fun h => absurd rfl h⟩
    · exact ⟨fun h => (nomatch h), fun _ => rfl⟩
  | hostPtr =>
    cases p
    · exact ⟨fun _ => rfl, fun h => absurd rfl h⟩
    · exact ⟨fun h => (nomatch h), fun _ => rfl⟩

theorem validateArgs_spec (hG : Gen.cyclicGuard = true) :
    ∀ (args : List Arg) (ms : List ArgMeta) (i : Nat), args.length = ms.length →
      (validateArgs args ms i = .ok () ↔ Compatible ms args)
  | [], [], _, _ => ⟨fun _ => trivial, fun _ => rfl⟩
  | [], _ :: _, _, h => nomatch h
  | _ :: _, [], _, h => nomatch h
  | a :: as, m :: ms, i, h => by
      by_cases hfit : ArgFits a m
      · rw [(validateArgs_cons hG a as m ms i).1 hfit, validateArgs_spec hG as ms (i + 1) (Nat.succ.inj h)]
        exact (and_iff_right hfit).symm
      · rw [(validateArgs_cons hG a as m ms i).2 hfit]
        exact ⟨fun h => (nomatch h), fun h => absurd h.1 hfit⟩

theorem validateArgs_error (hG : Gen.cyclicGuard = true) :
    ∀ (args : List Arg) (ms : List ArgMeta) (i : Nat) (e : VErr), validateArgs args ms i = .error e →
      ∃ k, ∃ (h1 : k < args.length) (h2 : k < ms.length),
        (∀ j (g1 : j < args.length) (g2 : j < ms.length), j < k → ArgFits args[j] ms[j]) ∧
        ¬ ArgFits args[k] ms[k] ∧ e = errKind args[k] ms[k] (k + i)
  | [], _, _, _, h => nomatch h
  | _ :: _, [], _, _, h => nomatch h
  | a :: as, m :: ms, i, e, h => by
      by_cases hfit : ArgFits a m
      · rw [(validateArgs_cons hG a as m ms i).1 hfit] at h
        obtain ⟨k, h1, h2, hb, hn, he⟩ := validateArgs_error hG as ms (i + 1) e h
        refine ⟨k + 1, Nat.succ_lt_succ h1, Nat.succ_lt_succ h2, fun j g1 g2 hj => ?_, hn,
          Nat.add_right_comm k 1 i ▸ he⟩
        cases j with
        | zero => exact hfit
        | succ j => exact hb j _ _ (Nat.lt_of_succ_lt_succ hj)
      · rw [(validateArgs_cons hG a as m ms i).2 hfit] at h
        exact ⟨0, Nat.zero_lt_succ _, Nat.zero_lt_succ _, fun j _ _ hj => absurd hj (Nat.not_lt_zero j), hfit,
          (Nat.zero_add i).symm ▸ (Except.error.inj h).symm⟩

theorem errKind_ne_trap (a : Arg) (m : ArgMeta) (i : Nat) (t : Trap) : errKind a m i ≠ .trap t := by
  unfold errKind
  split
  · split <;> nofun
  · nofun

theorem validateArgs_no_trap (hG : Gen.cyclicGuard = true) (args : List Arg) (ms : List ArgMeta) (i : Nat)
    (t : Trap) : validateArgs args ms i ≠ .error (.trap t) := fun h =>
  have ⟨_, _, _, _, _, he⟩ := validateArgs_error hG args ms i _ h
  errKind_ne_trap _ _ _ t he.symm

theorem validate_eq (m : KernelMeta) (tv : Bool) (args : List Arg) :
    validate m tv args =
      if m.initialized = true ∧ tv = true then
        if args.length = m.arguments.length then validateArgs args m.arguments 1 else .error .count
      else .ok () := by
  unfold validate
  cases m.initialized <;> cases tv <;> simp <;> rfl

/-- the loop sees a parameter's dtype only through `canCast` -/
theorem validateArgs_norm : ∀ (args : List Arg) (ms : List ArgMeta) (i : Nat),
    validateArgs args (ms.map ArgMeta.norm) i = validateArgs args ms i
  | a :: as, m :: ms, i => by
      have hc : ∀ d, canCast d (Dtype.norm "" m.dtype) = canCast d m.dtype := fun d =>
        canCast_congr rfl rfl (isByte_norm m.dtype "") (Dtype.flatten_norm m.dtype "")
      simp only [List.map_cons, validateArgs, ArgMeta.norm, hc, validateArgs_norm as ms (i + 1)]
  | [], _, _ => rfl
  | _ :: _, [], _ => rfl

end Occa.Dtype
