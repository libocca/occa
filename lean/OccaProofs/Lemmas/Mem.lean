/-
C02 (OccaModel/Mem.lean): what holds of every operation, from one pass over `step`.  `step_outcome` says that an
operation raises exactly when one of its guards fires (`Refused`), traps only from a broken state or against the
caller's contract, and otherwise changes the state in one of a few ways (`Change`); invariance, framing, the
monotonicity facts, the confinement of writes and the absence of traps are read off that relation.
-/
import OccaProofs.Lemmas.MemOps

namespace Occa.Mem

/-- the handle an operation writes through -/
def Dest (s : State) : Op → Option View
  | .copyFromHost v _ _ _ => view? s v
  | .copyFromMem d _ _ _ _ => view? s d
  | .copyToMem _ d _ _ _ => view? s d
  | _ => none

/-- the dtype named by the request has at least one byte (every dtype but `void`/`none`) -/
def Op.wf : Op → Prop
  | .malloc _ _ e _ => 0 < e
  | .mallocFrom _ _ e _ => 0 < e
  | .wrap _ _ _ e => 0 < e
  | .cast _ _ e => 0 < e
  | .setDtype _ e => 0 < e
  | _ => True

/-- what the C++ API silently assumes about raw host pointers: the array behind a pointer is at
    least as long as the (in-range) request; `wrap` is given one of the caller's two arrays -/
def Contract (s : State) : Op → Prop
  | .malloc _ n e (some dt) => (n * (e : Int)).toNat ≤ dt.length
  | .wrap _ hb n e => hb < nHostBufs ∧ (n * (e : Int)).toNat ≤ hostBufSize
  | .copyFromHost v data cnt off =>
      ∀ p, view? s v = some p → udimLe (countBytes p cnt + (p.esz : Int) * off) p.size = true →
        (countBytes p cnt).toNat ≤ data.length
  | .copyToHost v cap cnt off =>
      ∀ p, view? s v = some p → udimLe (countBytes p cnt + (p.esz : Int) * off) p.size = true →
        (countBytes p cnt).toNat ≤ cap
  | .hostWrite hb off data => hb < nHostBufs ∧ off + data.length ≤ hostBufSize
  | .hostRead hb off n => hb < nHostBufs ∧ off + n ≤ hostBufSize
  | _ => True

/-- One of the operation's own guards fires, in the model's terms (`sliceView`, `Fits`, `copyGuards`) and with no
    hypothesis on the state.  For the six expression operations the clause is, word for word, the `E` of the
    expression's row (`…Expr_yields`): `outcome_assignTo` is applied to the row as it stands.
    `clone`, `assign`, `free` and the caller's own accesses never raise. -/
def Refused (s : State) : Op → Prop
  | .malloc _ n e _ => n ≠ 0 ∧ n * (e : Int) < 0
  | .mallocFrom _ n e src => n ≠ 0 ∧ (n * (e : Int) < 0 ∨
      ∃ sv, view? s src = some sv ∧ sv.size ≠ 0 ∧ (sv.size : Int) < n * (e : Int))
  | .wrap _ _ n e => n * (e : Int) < 0
  | .slice _ src off cnt => ∃ p, view? s src = some p ∧ ∃ e, sliceView p off cnt = .error e
  | .cast _ src _ => view? s src = none
  | .setDtype v _ => view? s v = none
  | .copyFromHost v _ cnt off => ∃ p, view? s v = some p ∧ ¬ Fits p cnt ((p.esz : Int) * off) p.size
  | .copyToHost v _ cnt off => ∃ p, view? s v = some p ∧ ¬ Fits p cnt ((p.esz : Int) * off) p.size
  | .copyFromMem d src cnt doff soff =>
      match view? s d, view? s src with
      | none, none => False
      | some dv, some sv => ∃ e, copyGuards dv dv sv cnt doff soff = .error e
      | _, _ => True
  | .copyToMem src d cnt doff soff =>
      match view? s src, view? s d with
      | none, none => False
      | some sv, some dv => ∃ e, copyGuards sv dv sv cnt doff soff = .error e
      | _, _ => True
  | _ => False

/-- What a successful operation does to the state: nothing; bytes overwritten inside one buffer (within the range of
    `Dest`, unless the caller wrote into its own array); a dtype changed in place; handles rebound to objects that
    handles pointed to; one more object, assigned to a handle. -/
inductive Change (s : State) (op : Op) : State → Prop
  | none : Change s op s
  | write {i pos : Nat} {b : Buffer} {data : List Byte} : s.bufs[i]? = some b →
      (Inv s → pos + data.length ≤ b.length) →
      ((∀ hb off dt, op ≠ .hostWrite hb off dt) →
        ∃ p, Dest s op = some p ∧ i = p.buf ∧ p.off ≤ pos ∧ pos + data.length ≤ p.off + p.size) →
      Change s op (setBuf s i (writeAt b pos data))
  | retag {m e : Nat} {p : View} : s.mems[m]? = some p → (op.wf → 0 < e) →
      Change s op { s with mems := s.mems.set m { p with esz := e } }
  | rebind {f : Nat → Option Nat} : (∀ x m, f x = some m → ∃ y, s.vars y = some m) →
      Change s op { s with vars := f }
  | newMem {s1 : State} {v : View} (d : Nat) : Extends s s1 v → (op.wf → EszPos s → 0 < v.esz) →
      Change s op (setVar s1 d (some s.mems.length))

/-- Everything `step s op` can be.  Every exit records whether a guard fired (`raise`: `Refused`; `trap`, `done`:
    `¬ Refused`): that is what makes "raises iff `Refused`" an equivalence read off this relation, with no second pass
    over `step`. -/
inductive Outcome (s : State) (op : Op) : State × Res → Prop
  | raise (e : Err) : Refused s op → Outcome s op (s, .err e)
  | trap : ¬ Refused s op → (Inv s → ¬ Contract s op) → Outcome s op (s, .trap)
  | done {s' : State} (o : Option (List Byte)) : ¬ Refused s op → Change s op s' → Outcome s op (s', .ok o)

theorem outcome_assignTo {s : State} {op : Op} {N T : Prop} {Q : State → View → Prop} {r : MRes}
    (hr : r.Yields s N (Refused s op) T Q) (hq : op.wf → EszPos s → ∀ s1 v, Q s1 v → 0 < v.esz)
    (ht : T → Inv s → ¬ Contract s op) (d : Nat) : Outcome s op (assignTo s d r) := by
  match r, hr with
  | .val _ none, ⟨hE, rfl, _⟩ =>
    exact .done none hE (.rebind (f := fun w => if w = d then none else s.vars w) fun x m hx => by
      split at hx
      · cases hx
      · exact ⟨x, hx⟩)
  | .val s1 (some _), ⟨hE, rfl, v, hx, hv⟩ => exact .done none hE (.newMem d hx fun hw hp => hq hw hp s1 v hv)
  | .err e, hE => exact .raise e hE
  | .trap, ⟨hE, hT⟩ => exact .trap hE (ht hT)

theorem outcome_hostCopy {s : State} {op : Op} {v cap : Nat} {cnt off : Int} {e3 : Err}
    {k : View → Buffer → State × Res}
    (hR : Refused s op ↔ ∃ p, view? s v = some p ∧ ¬ Fits p cnt ((p.esz : Int) * off) p.size)
    (hC : Contract s op → ∀ p, view? s v = some p →
      udimLe (countBytes p cnt + (p.esz : Int) * off) p.size = true → (countBytes p cnt).toNat ≤ cap)
    (hk : ∀ p b, view? s v = some p → Fits p cnt ((p.esz : Int) * off) p.size → (countBytes p cnt).toNat ≤ cap →
      s.bufs[p.buf]? = some b → ∃ s' o, k p b = (s', .ok o) ∧ Change s op s') :
    Outcome s op (hostCopy s v cnt off cap e3 k) := by
  cases hp : view? s v with
  | none =>
    rw [show hostCopy s v cnt off cap e3 k = (s, .ok none) by simp only [hostCopy, hp]]
    exact .done none (fun h => by obtain ⟨p, h1, _⟩ := hR.mp h; rw [hp] at h1; cases h1) .none
  | some p =>
    by_cases hf : Fits p cnt ((p.esz : Int) * off) p.size
    case neg =>
      obtain ⟨e, he⟩ := hostCopy_of_not_fits (cap := cap) (e3 := e3) (k := k) hp hf
      rw [he]; exact .raise e (hR.mpr ⟨p, hp, hf⟩)
    have hnr : ¬ Refused s op := fun h => by obtain ⟨p', h1, h2⟩ := hR.mp h; rw [hp] at h1; cases h1; exact h2 hf
    rw [hostCopy_of_fits hp hf]
    by_cases hl : cap < (countBytes p cnt).toNat
    · rw [if_pos hl]; exact .trap hnr fun _ hc => Nat.not_lt.mpr (hC hc p hp hf.2.2) hl
    rw [if_neg hl]
    cases hb : s.bufs[p.buf]? with
    | none => exact .trap hnr fun h _ => (h.viewOk hp).ne_none hb
    | some b =>
      obtain ⟨s', o, hk1, hk2⟩ := hk p b hp hf (Nat.not_lt.mp hl) hb
      simp only [hk1]; exact .done o hnr hk2

theorem outcome_copyGuards {s : State} {op : Op} {dst src self : View} {cnt doff soff : Int}
    (hR : Refused s op ↔ ∃ e, copyGuards self dst src cnt doff soff = .error e) (hd : Dest s op = some dst)
    (hv : Inv s → ViewOk s dst) (hvs : Inv s → ViewOk s src) :
    Outcome s op (match copyGuards self dst src cnt doff soff with
      | .error e => (s, .err e)
      | .ok (bytes, dOff, sOff) => copyBytes s dst src bytes dOff sOff) := by
  cases hcg : copyGuards self dst src cnt doff soff with
  | error e => exact .raise e (hR.mpr ⟨e, hcg⟩)
  | ok t =>
    obtain ⟨bytes, dOff, sOff⟩ := t
    have hnr : ¬ Refused s op := fun h => by obtain ⟨e, he⟩ := hR.mp h; rw [hcg] at he; cases he
    simp only []
    rcases copyBytes_cases s dst src bytes dOff sOff with ⟨hno, h⟩ | ⟨db, sb, hdb, _, h⟩
    · rw [h]; exact .trap hnr fun hi _ => hno.elim (hv hi).ne_none (hvs hi).ne_none
    · rw [h]
      have := readAt_length_le sb (src.off + sOff) bytes
      obtain ⟨fd, _, ⟨⟩⟩ := copyGuards_ok_iff.mp hcg
      have := fd.bounds
      refine .done none hnr (.write hdb (fun h => ?_) fun _ => ⟨dst, hd, rfl, Nat.le_add_right _ _, by omega⟩)
      have := (hv h).le hdb
      omega

theorem step_outcome (s : State) (op : Op) : Outcome s op (step s op) := by
  cases op with
  | malloc v n e data =>
    refine outcome_assignTo (op := .malloc v n e data) (mallocExpr_yields s n e data)
      (fun hw _ _ v hv => by obtain ⟨_, _, rfl, _⟩ := hv; exact hw) ?_ v
    rintro ⟨dt, rfl, hl⟩ _ hc
    exact absurd hl (Nat.not_lt.mpr hc)
  | mallocFrom v n e src =>
    exact outcome_assignTo (op := .mallocFrom v n e src) (mallocFromExpr_yields s n e src)
      (fun hw _ _ v hv => by rw [hv.1]; exact hw) (fun hn h _ => hn h) v
  | wrap v hb n e =>
    exact outcome_assignTo (op := .wrap v hb n e) (wrapExpr_yields s hb n e) (fun hw _ _ v hv => by rw [hv.1]; exact hw)
      (fun hn _ hc => hn hc) v
  | slice d src off cnt =>
    refine outcome_assignTo (op := .slice d src off cnt) (sliceExpr_yields s src off cnt) (fun _ hp _ v hv => ?_)
      False.elim d
    obtain ⟨p, h1, h2⟩ := hv
    rw [(sliceView_ok h2).2.1]; exact hp.view h1
  | cast d src e =>
    refine outcome_assignTo (op := .cast d src e) (castExpr_yields s src e) (fun hw _ _ v hv => ?_) False.elim d
    obtain ⟨p, c, _, _, rfl⟩ := hv
    exact hw
  | clone d src =>
    refine outcome_assignTo (op := .clone d src) (cloneExpr_yields s src) (fun _ hp _ v hv => ?_) (fun hn h _ => hn h) d
    obtain ⟨p, h1, rfl, _⟩ := hv
    exact (hp.view h1 :)
  | setDtype v e =>
    simp only [step, doSetDtype]
    cases hv : s.vars v with
    | none => exact .raise _ (view?_of_var hv)
    | some m =>
      simp only []
      cases hm : s.mems[m]? with
      | none => exact .raise _ ((view?_of_var hv).trans hm)
      | some p => exact .done none (fun h => nomatch ((view?_of_var hv).trans hm).symm.trans h) (.retag hm id)
  | copyFromHost v data cnt off =>
    rw [step_copyFromHost_eq]
    refine outcome_hostCopy Iff.rfl (fun h => h) fun p b hp hf hl hb => ⟨_, _, rfl, ?_⟩
    have hb' := hf.bounds
    have hlen := length_take_map_some hl
    refine .write hb (fun h => ?_) fun _ => ⟨p, hp, rfl, Nat.le_add_right _ _, by omega⟩
    have := (h.viewOk hp).le hb
    omega
  | copyToHost v cap cnt off =>
    rw [step_copyToHost_eq]
    exact outcome_hostCopy Iff.rfl (fun h => h) fun p b _ _ _ _ => ⟨s, _, rfl, .none⟩
  | copyFromMem d src cnt doff soff =>
    simp only [step, doCopyFromMem]
    cases hd : view? s d with
    | none =>
      cases hs : view? s src with
      | none => exact .done none (fun h => by simp only [Refused, hd, hs] at h) .none
      | some sv => exact .raise _ (by simp only [Refused, hd, hs])
    | some dv =>
      cases hs : view? s src with
      | none => exact .raise _ (by simp only [Refused, hd, hs])
      | some sv =>
        exact outcome_copyGuards (by simp only [Refused, hd, hs]) hd (fun h => h.viewOk hd) (fun h => h.viewOk hs)
  | copyToMem src d cnt doff soff =>
    simp only [step, doCopyToMem]
    cases hs : view? s src with
    | none =>
      cases hd : view? s d with
      | none => exact .done none (fun h => by simp only [Refused, hd, hs] at h) .none
      | some dv => exact .raise _ (by simp only [Refused, hd, hs])
    | some sv =>
      cases hd : view? s d with
      | none => exact .raise _ (by simp only [Refused, hd, hs])
      | some dv =>
        exact outcome_copyGuards (by simp only [Refused, hd, hs]) hd (fun h => h.viewOk hd) (fun h => h.viewOk hs)
  | assign d src =>
    exact .done none id (.rebind (f := fun w => if w = d then s.vars src else s.vars w) fun x m hx => by
      split at hx
      · exact ⟨src, hx⟩
      · exact ⟨x, hx⟩)
  | free v =>
    simp only [step, doFree]
    cases s.vars v with
    | none => exact .done none id .none
    | some m =>
      exact .done none id (.rebind (f := fun w => if s.vars w = some m then none else s.vars w) fun x k hx => by
        split at hx
        · cases hx
        · exact ⟨x, hx⟩)
  | hostWrite hb off data =>
    simp only [step, doHostWrite]
    cases hb1 : s.bufs[hb]? with
    | none => exact .trap id fun h hc => h.host_ne_none hc.1 hb1
    | some b =>
      simp only []
      by_cases hc : hb < nHostBufs ∧ off + data.length ≤ b.length
      · rw [if_pos hc]
        exact .done none id (.write hb1 (fun _ => by rw [List.length_map]; exact hc.2) fun h => absurd rfl (h hb off data))
      · rw [if_neg hc]; exact .trap id fun h hk => hc ⟨hk.1, by rw [h.host_length hk.1 hb1]; exact hk.2⟩
  | hostRead hb off n =>
    simp only [step, doHostRead]
    cases hb1 : s.bufs[hb]? with
    | none => exact .trap id fun h hc => h.host_ne_none hc.1 hb1
    | some b =>
      simp only []
      by_cases hc : hb < nHostBufs ∧ off + n ≤ b.length
      · rw [if_pos hc]; exact .done _ id .none
      · rw [if_neg hc]; exact .trap id fun h hk => hc ⟨hk.1, by rw [h.host_length hk.1 hb1]; exact hk.2⟩

theorem step_change (s : State) (op : Op) : Change s op (step s op).1 := by
  have he := step_outcome s op
  generalize step s op = r at he
  cases he with
  | raise => exact .none
  | trap => exact .none
  | done _ _ hc => exact hc

theorem step_inv {s : State} (h : Inv s) (op : Op) : Inv (step s op).1 := by
  have he := step_change s op
  generalize (step s op).1 = s' at he
  cases he with
  | none => exact h
  | write hb hl _ => exact h.setBuf hb (writeAt_length (hl h))
  | retag hm _ => exact h.setEsz hm _
  | rebind hf => exact h.rebind fun x m hx => by obtain ⟨y, hy⟩ := hf x m hx; exact h.vars y m hy
  | newMem d hx _ =>
    refine (hx.inv h).rebind fun x m hm => ?_
    split at hm
    · cases hm; rw [hx.mems, List.length_append]; exact Nat.lt_succ_self _
    · exact (hx.inv h).vars _ _ hm

theorem run_inv {s : State} (h : Inv s) (ops : List Op) : Inv (run s ops) := by
  induction ops generalizing s with
  | nil => exact h
  | cons op rest ih => exact ih (step_inv h op)

theorem step_frame {s : State} {op : Op} (h : ∀ o, (step s op).2 ≠ .ok o) : (step s op).1 = s := by
  have he := step_outcome s op
  generalize step s op = r at he h
  cases he with
  | raise => rfl
  | trap => rfl
  | done o => exact absurd rfl (h o)

theorem step_memsLe (s : State) (op : Op) : MemsLe s (step s op).1 := by
  have he := step_change s op
  generalize (step s op).1 = s' at he
  cases he with
  | none => exact MemsLe.refl _
  | write => exact MemsLe.refl _
  | retag hm _ => exact MemsLe.setEsz hm
  | rebind => exact MemsLe.refl _
  | newMem d hx _ => exact hx.memsLe

theorem run_memsLe (s : State) (ops : List Op) : MemsLe s (run s ops) := by
  induction ops generalizing s with
  | nil => exact MemsLe.refl _
  | cons op rest ih => exact (step_memsLe s op).trans (ih _)

theorem step_eszPos {s : State} (h : EszPos s) {op : Op} (hw : op.wf) : EszPos (step s op).1 := by
  have he := step_change s op
  generalize (step s op).1 = s' at he
  cases he with
  | none => exact h
  | write => exact h
  | retag _ he => exact h.setEsz (he hw)
  | rebind => exact h
  | newMem d hx hv => exact hx.eszPos h (hv hw h)

theorem init_eszPos : EszPos init := by
  intro m v h; simp [init] at h

theorem run_eszPos {s : State} (h : EszPos s) {ops : List Op} (hw : ∀ op ∈ ops, op.wf) : EszPos (run s ops) := by
  induction ops generalizing s with
  | nil => exact h
  | cons op rest ih =>
    exact ih (step_eszPos h (hw op (by simp))) (fun o ho => hw o (by simp [ho]))

/-- `hostWrite`, the caller scribbling into its own array, is not an occa operation: hence `hop` -/
theorem step_writes_confined {s : State} (h : Inv s) (op : Op) (hop : ∀ hb off data, op ≠ .hostWrite hb off data)
    (q : View) (j : Nat) (hq : q.buf < s.bufs.length)
    (hout : ∀ p, Dest s op = some p → q.buf ≠ p.buf ∨ q.off + j < p.off ∨ p.off + p.size ≤ q.off + j) :
    byteAt (step s op).1 q j = byteAt s q j := by
  have he := step_change s op
  generalize (step s op).1 = s' at he
  cases he with
  | none => rfl
  | write hb hl hd =>
    obtain ⟨p, hp, rfl, h1, h2⟩ := hd hop
    rw [byteAt_setBuf_writeAt hb (hl h), if_neg]
    intro hc
    rcases hout p hp with h3 | h3 | h3 <;> omega
  | retag => rfl
  | rebind => rfl
  | newMem d hx _ => exact byteAt_kept hx.bufs hq j

theorem step_noTrap {s : State} (h : Inv s) {op : Op} (hc : Contract s op) : (step s op).2 ≠ .trap := by
  have he := step_outcome s op
  generalize step s op = r at he
  cases he with
  | raise => nofun
  | trap _ ht => exact fun _ => ht h hc
  | done => nofun

/-- the caller's contract along a history -/
def ContractAll : State → List Op → Prop
  | _, [] => True
  | s, op :: rest => Contract s op ∧ ContractAll (step s op).1 rest

theorem results_noTrap {s : State} (h : Inv s) {ops : List Op} (hc : ContractAll s ops) :
    Res.trap ∉ results s ops := by
  induction ops generalizing s with
  | nil => simp [results]
  | cons op rest ih =>
    simp only [results, List.mem_cons, not_or]
    exact ⟨fun he => step_noTrap h hc.1 he.symm, ih (step_inv h op) hc.2⟩

end Occa.Mem
