/-
The invariant that ties the shape automaton (`shStep`), the parser state (`step`) and the
tokens consumed so far, and what it says about the top of the current scope given the kind of
the previous token (`PrevE` in operand position, `PrevO` after an operand).  `Lexed` is the
hypothesis on operator tokens under which the run is followed: the tokenizer produced them.
-/
import OccaProofs.Lemmas.ExprPop

namespace Occa.Expr
open Occa.Gen

/-- one scope of the parser: frames above the open pair, the open pair (none for the root scope),
    and the operand on top if there is one -/
structure Lvl where
  pre : List Frame
  base : Option OpNode
  top : Option Expr

def baseFrames (b : Option OpNode) : List Frame :=
  match b with
  | some n => [Frame.opn n]
  | none => []

def Lvl.fs (l : Lvl) : List Frame := l.pre ++ baseFrames l.base

def Lvl.toks (l : Lvl) : List Tok := scopeToks l.fs l.top

structure Lvl.Good (l : Lvl) : Prop where
  frames : FramesOk l.fs
  noOpn : ∀ f ∈ l.pre, f.isOpn = false
  topOk : ∀ e, l.top = some e → colonLu e = false
  topCanon : ∀ e, l.top = some e → canonB e = true ∧ rootPrec e = 0

/-- a scope matches its description -/
def Lvl.Rep (l : Lvl) (sc : Scope) : Prop := sc.out = scopeOut l.fs l.top ∧ sc.ops = scopeOps l.fs

/-- an open pair: the enclosing level `par`, the opener `n`, the shape entry and `before` -/
structure PairOk (par : Lvl) (n : OpNode) (sh : ShScope) (before : Option Tok) : Prop where
  closer : sh.closerTy = shl1 n.op.ty
  kind : if sh.inE then has n.op.ty T.parentheses = true ∨ has n.op.ty T.braces = true
         else has n.op.ty T.parentheses = true ∨ has n.op.ty T.brackets = true
  parTop : (if sh.inE then par.top = none else par.top.isSome = true) ∧
           (∀ f, par.fs.head? = some f → f.isPost = false)
  before : if sh.inE then (before = none ∨ ∃ b, before = some (.op b) ∧ has b.ty T.pairEnd = false)
           else ((∃ t, before = some t ∧ (∀ o, t ≠ .op o)) ∨ ∃ b, before = some (.op b) ∧ has b.ty T.pairEnd = true)
  savedQ : sh.savedQ = questCount par.fs
  cast : sh.inE = true → sh.castOk = true → ∀ f, par.fs.head? = some f → f.accepts Op.parenCast.prec = true

/-- the levels of the state, innermost first, with the scopes they describe -/
inductive Levels : Lvl → List Lvl → Scope → List Scope → List ShScope → Prop
  | root (l : Lvl) (sc : Scope) : l.Rep sc → l.Good → l.base = none → Levels l [] sc [] []
  | push (l par : Lvl) (stk : List Lvl) (sc psc : Scope) (pstack : List Scope) (sh : ShScope) (shs : List ShScope)
      (n : OpNode) :
      l.Rep sc → l.Good → l.base = some n → PairOk par n sh sc.before → Levels par stk psc pstack shs →
      Levels l (par :: stk) sc (psc :: pstack) (sh :: shs)

def allToks (cur : Lvl) (stk : List Lvl) : List Tok :=
  (stk.reverse.flatMap Lvl.toks) ++ cur.toks

/-- what the previous token says about the top of the current scope, in operand position -/
def PrevE (s : Sh) (cur : Lvl) : Prop :=
  cur.top = none ∧ (∀ f, cur.fs.head? = some f → f.isPost = false) ∧
  (if s.prevCastEnd then ∃ n fs', cur.fs = Frame.pre n :: fs' ∧ n.op = .parenCast
   else (cur.fs = [] ∧ s.prev = none) ∨
        (∃ f fs', cur.fs = f :: fs' ∧ s.prev = some (.op f.node.op)))

/-- ... and after an operand -/
def PrevO (s : Sh) (cur : Lvl) : Prop :=
  s.prevCastEnd = false ∧ ModeO cur.fs cur.top ∧
  ((cur.top.isSome = true ∧ ((∃ t, s.prev = some t ∧ (∀ o, t ≠ .op o)) ∨
                              (∃ b, s.prev = some (.op b) ∧ has b.ty T.pairEnd = true))) ∨
   (cur.top = none ∧ ∃ n e fs', cur.fs = Frame.post n e :: fs' ∧ s.prev = some (.op n.op)))

def ContentOk (s : Sh) (cur : Lvl) : Prop :=
  match s.content with
  | .empty => cur.pre = [] ∧ cur.top = none
  | .oneType => cur.pre = [] ∧ ∃ n k, cur.top = some (.vtype n k)
  | .other => ¬ (cur.pre = [] ∧ (cur.top = none ∨ ∃ n k, cur.top = some (.vtype n k)))

structure Inv (s : Sh) (σ : St) (consumed : List Tok) (cur : Lvl) (stk : List Lvl) : Prop where
  levels : Levels cur stk σ.cur σ.stack s.stack
  toks : consumed = allToks cur stk
  prev : σ.prev = s.prev
  castEnd : σ.prevCastEnd = s.prevCastEnd
  mode : if s.needOperand then PrevE s cur else PrevO s cur
  pending : s.pendingQ = questCount cur.fs
  content : ContentOk s cur

/-- what a scope has contained so far, read off its description -/
def Lvl.content (l : Lvl) : Content :=
  match l.pre, l.top with
  | [], none => .empty
  | [], some e => if isTypeNode e then .oneType else .other
  | _, _ => .other

theorem contentOk_iff {s : Sh} {cur : Lvl} : ContentOk s cur ↔ s.content = cur.content := by
  obtain ⟨pre, base, top⟩ := cur
  unfold ContentOk Lvl.content
  cases pre with
  | cons f fs => cases s.content <;> simp
  | nil =>
    cases top with
    | none => cases s.content <;> simp
    | some e => cases h : isTypeNode e <;> cases s.content <;> simp [← isTypeNode_iff, h]

theorem Lvl.fs_some {l : Lvl} {n : OpNode} (h : l.base = some n) : l.fs = l.pre ++ [Frame.opn n] := by
  rw [Lvl.fs, h]; rfl

theorem Lvl.toks_some {l : Lvl} {n : OpNode} (h : l.base = some n) : l.toks = Tok.op n.op :: scopeToks l.pre l.top := by
  rw [Lvl.toks, Lvl.fs_some h, scopeToks_append]; rfl

theorem ContentOk.pre_nil {s : Sh} {cur : Lvl} (h : ContentOk s cur) (he : s.content = .empty) : cur.pre = [] := by
  rw [ContentOk, he] at h; exact h.1

theorem Lvl.fs_none {l : Lvl} (h : l.base = none) : l.fs = l.pre := by
  rw [Lvl.fs, h]; exact List.append_nil _

/-- the parser follows the automaton's move to `s'` on the token `t` -/
abbrev Follows (σ : St) (t : Tok) (next : Option Tok) (s' : Sh) (consumed : List Tok) : Prop :=
  ∃ σ' cur' stk', step σ t next = .ok σ' ∧ Inv s' σ' (consumed ++ [t]) cur' stk'

theorem Inv.modeE {s : Sh} {σ : St} {consumed : List Tok} {cur : Lvl} {stk : List Lvl}
    (h : Inv s σ consumed cur stk) (hne : s.needOperand = true) : PrevE s cur :=
  (if_pos hne).mp h.mode

theorem Inv.modeO {s : Sh} {σ : St} {consumed : List Tok} {cur : Lvl} {stk : List Lvl}
    (h : Inv s σ consumed cur stk) (hno : s.needOperand = false) : PrevO s cur :=
  (if_neg (Bool.eq_false_iff.1 hno)).mp h.mode

theorem Levels.cur_rep {cur : Lvl} {stk : List Lvl} {sc : Scope} {stack : List Scope} {shs : List ShScope}
    (h : Levels cur stk sc stack shs) : cur.Rep sc ∧ cur.Good := by
  cases h with
  | root _ _ h1 h2 _ => exact ⟨h1, h2⟩
  | push _ _ _ _ _ _ _ _ _ h1 h2 _ _ _ => exact ⟨h1, h2⟩

theorem Levels.inv_push {cur : Lvl} {stk : List Lvl} {sc : Scope} {stack : List Scope} {sh : ShScope} {shs : List ShScope}
    (h : Levels cur stk sc stack (sh :: shs)) :
    ∃ par stk' psc pstack n, stk = par :: stk' ∧ stack = psc :: pstack ∧ cur.Good ∧ cur.base = some n ∧
      PairOk par n sh sc.before ∧ Levels par stk' psc pstack shs := by
  cases h with
  | push _ par stk' _ psc pstack _ _ n _ h2 h3 h4 h5 => exact ⟨par, stk', psc, pstack, n, rfl, rfl, h2, h3, h4, h5⟩

theorem Levels.inv_root {cur : Lvl} {stk : List Lvl} {sc : Scope} {stack : List Scope}
    (h : Levels cur stk sc stack []) : stk = [] ∧ cur.Rep sc ∧ cur.Good ∧ cur.base = none := by
  cases h with
  | root _ _ h1 h2 h3 => exact ⟨rfl, h1, h2, h3⟩

theorem Levels.replaceCur {cur cur' : Lvl} {stk : List Lvl} {sc sc' : Scope} {stack : List Scope} {shs : List ShScope}
    (h : Levels cur stk sc stack shs) (hrep : cur'.Rep sc') (hgood : cur'.Good)
    (hbase : cur'.base = cur.base) (hbefore : sc'.before = sc.before) :
    Levels cur' stk sc' stack shs := by
  cases h with
  | root _ _ _ _ hb => exact Levels.root cur' sc' hrep hgood (by rw [hbase, hb])
  | push _ par stk' _ psc pstack sh shs' n _ _ hb hp hl =>
    exact Levels.push cur' par stk' sc' psc pstack sh shs' n hrep hgood (by rw [hbase, hb]) (by rw [hbefore]; exact hp) hl

theorem allToks_replace (cur cur' : Lvl) (stk : List Lvl) (extra : List Tok)
    (h : cur'.toks = cur.toks ++ extra) : allToks cur' stk = allToks cur stk ++ extra := by
  simp [allToks, h, List.append_assoc]

theorem allToks_pop (cur par : Lvl) (stk : List Lvl) : allToks cur (par :: stk) = allToks par stk ++ cur.toks := by
  simp [allToks, List.flatMap_append]

/-- a suffix of the frames left by a reduction still contains the open pair -/
theorem split_base (pre : List Frame) (b : Option OpNode) (dropped fs' : List Frame)
    (h : pre ++ baseFrames b = dropped ++ fs') (hd : ∀ f ∈ dropped, f.isOpn = false) :
    ∃ pre', fs' = pre' ++ baseFrames b ∧ pre = dropped ++ pre' := by
  rcases List.append_eq_append_iff.1 h with ⟨a', h1, h2⟩ | ⟨pre', h1, h2⟩
  · -- `dropped` cannot reach into the open pair
    cases a' with
    | nil => exact ⟨[], by simpa using h2.symm, by simpa using h1.symm⟩
    | cons x xs =>
      cases b with
      | none => cases h2
      | some n => obtain ⟨rfl, -⟩ := List.cons.inj h2; cases hd (.opn n) (by simp [h1])
  · exact ⟨pre', h2, h1⟩

theorem Lvl.Good.setTop {l : Lvl} (hg : l.Good) {r : Expr} (h1 : colonLu r = false) (h2 : canonB r = true)
    (h3 : rootPrec r = 0) : Lvl.Good { l with top := some r } :=
  ⟨hg.frames, hg.noOpn, fun e he => by cases he; exact h1, fun e he => by cases he; exact ⟨h2, h3⟩⟩

/-- the operand on top of a scope is a primary expression, so the loops can start -/
theorem Lvl.Good.ready {l : Lvl} (hg : l.Good) (hm : ModeO l.fs l.top) : Ready l.fs l.top where
  frames := hg.frames
  mode := hm
  topOk := hg.topOk
  topCanon e he := (hg.topCanon e he).1
  topAccepted e he f hf := by
    rw [(hg.topCanon e he).2]
    exact accepts_zero (hg.frames.ok f (List.mem_of_mem_head? hf)) ((he ▸ hm).head_notPost f hf)

theorem Inv.ready {s : Sh} {σ : St} {consumed : List Tok} {cur : Lvl} {stk : List Lvl}
    (h : Inv s σ consumed cur stk) (hno : s.needOperand = false) : Ready cur.fs cur.top :=
  h.levels.cur_rep.2.ready (h.modeO hno).2.1

theorem PrevE.keeps {s : Sh} {cur : Lvl} (h : PrevE s cur) {o : Op} (hk : prefixKeeps o s = true)
    (g : Frame) (hg : cur.fs.head? = some g) : keeps o g.node.op = true := by
  obtain ⟨_, _, hprev⟩ := h
  unfold prefixKeeps at hk
  cases hce : s.prevCastEnd <;> simp only [hce, if_true, Bool.false_eq_true, if_false] at hk hprev
  · rcases hprev with ⟨hnil, _⟩ | ⟨g', fs', hfs, hp⟩
    · rw [hnil] at hg; cases hg
    · rw [hfs] at hg; cases hg; simpa [hp] using hk
  · obtain ⟨n, fs', hfs, hn⟩ := hprev
    rw [hfs] at hg; cases hg; simpa [Frame.node, hn] using hk

/-- the hypothesis `hprev` of `isLeftUnary_E` -/
theorem PrevE.prev_kind {s : Sh} {cur : Lvl} (h : PrevE s cur) (hg : cur.Good) :
    s.prevCastEnd = true ∨ s.prev = none ∨ ∃ q, s.prev = some (.op q) ∧
      (has q.ty T.pairStart = true ∨ has q.ty T.leftUnary = true ∨ has q.ty T.binary = true) := by
  obtain ⟨_, hnp, hprev⟩ := h
  cases hce : s.prevCastEnd
  · simp only [hce, Bool.false_eq_true, if_false] at hprev
    rcases hprev with ⟨_, hp⟩ | ⟨f, fs', hfs, hp⟩
    · exact Or.inr (Or.inl hp)
    · exact Or.inr (Or.inr ⟨_, hp, frame_prev_kind (hg.frames.ok f (hfs ▸ List.mem_cons_self ..)) (hnp f (hfs ▸ rfl))⟩)
  · exact Or.inl rfl

theorem PrevO.kinds {s : Sh} {cur : Lvl} (h : PrevO s cur) (hg : cur.Good) :
    ((∃ t, s.prev = some t ∧ (∀ x, t ≠ .op x)) ∨ (∃ b, s.prev = some (.op b) ∧ has b.ty T.pairEnd = true) ∨
     (∃ p, s.prev = some (.op p) ∧ has p.ty T.rightUnary = true)) ∧
    (isPostfixTok s.prev = false → ∀ f, cur.fs.head? = some f → f.isPost = false) := by
  obtain ⟨_, hm, hk⟩ := h
  rcases hk with ⟨hts, hk⟩ | ⟨htn, n, e, fs', hfs, hp⟩
  · refine ⟨?_, fun _ f hf => ?_⟩
    · rcases hk with hk | hk
      · exact Or.inl hk
      · exact Or.inr (Or.inl hk)
    · obtain ⟨e, he⟩ := Option.isSome_iff_exists.1 hts
      exact (he ▸ hm).head_notPost f hf
  · have hru : has n.op.ty T.rightUnary = true := hg.frames.ok (Frame.post n e) (by rw [hfs]; simp)
    refine ⟨Or.inr (Or.inr ⟨n.op, hp, hru⟩), fun hnp => ?_⟩
    rw [hp] at hnp; cases hru.symm.trans hnp

theorem PrevO.notStart {s : Sh} {cur : Lvl} (h : PrevO s cur) (hg : cur.Good) : isPairStartTok s.prev = false := by
  rcases (PrevO.kinds h hg).1 with ⟨t, ht, hno⟩ | ⟨b, hb, hbe⟩ | ⟨p, hp, hpr⟩
  · rw [ht, isPairStartTok, (Tok.not_op hno).1]; exact none_facts.1
  · simp [hb, isPairStartTok, Tok.opType, closer_class b hbe]
  · simp [hp, isPairStartTok, Tok.opType, post_class p hpr]

/-- tokens as the tokenizer produces them: operators are the registered ones -/
def Lexed (ts : List Tok) : Prop := ∀ o, Tok.op o ∈ ts → o ∈ registered

theorem Lexed_of_lexedB (ts : List Tok) (h : lexedB ts = true) : Lexed ts := by
  intro o ho
  simp only [lexedB, List.all_eq_true] at h
  have := h (.op o) ho
  simpa using this

end Occa.Expr
