/-
C02 (OccaModel/Mem.lean): byte arrays, byte `j` of a view, the state invariant, what it means for a state to have
gained one `modeMemory_t` (`Extends`), which is all a memory-typed expression does to it, the form in which the
row of such an expression is stated (`MRes.Yields`), and a successful assignment read off a row (`assignTo_new`).
-/
import OccaModel.Mem

namespace Occa.Mem

theorem writeAt_length {b : Buffer} {pos : Nat} {data : List Byte} (h : pos + data.length ≤ b.length) :
    (writeAt b pos data).length = b.length := by
  simp only [writeAt, List.length_append, List.length_take, List.length_drop]
  omega

theorem readAt_length {b : Buffer} {pos n : Nat} (h : pos + n ≤ b.length) : (readAt b pos n).length = n := by
  simp only [readAt, List.length_take, List.length_drop]
  omega

theorem readAt_length_le (b : Buffer) (pos n : Nat) : (readAt b pos n).length ≤ n := by
  simp only [readAt, List.length_take]
  omega

theorem getElem?_writeAt {b : Buffer} {pos : Nat} {data : List Byte} (h : pos + data.length ≤ b.length) (i : Nat) :
    (writeAt b pos data)[i]? = if pos ≤ i ∧ i < pos + data.length then data[i - pos]? else b[i]? := by
  unfold writeAt
  have : min pos b.length = pos := by omega
  simp only [List.getElem?_append, List.length_take, List.length_append, List.getElem?_take, List.getElem?_drop, this]
  by_cases h1 : i < pos
  · rw [if_pos (by omega), if_pos h1, if_pos h1, if_neg (by omega)]
  by_cases h2 : i < pos + data.length
  · rw [if_pos h2, if_neg h1, if_pos ⟨by omega, h2⟩]
  · rw [if_neg h2, if_neg (by omega)]
    congr 1; omega

theorem getElem?_readAt {b : Buffer} {pos n i : Nat} (h : i < n) : (readAt b pos n)[i]? = b[pos + i]? := by
  simp [readAt, h]

theorem getElem?_readAt_ge {b : Buffer} {pos n i : Nat} (h : n ≤ i) : (readAt b pos n)[i]? = none := by
  simp only [readAt, List.getElem?_eq_none_iff, List.length_take, List.length_drop]
  omega

theorem readAt_writeAt {b : Buffer} {pos : Nat} (data : List Byte) (h : pos ≤ b.length) :
    readAt (writeAt b pos data) pos data.length = data := by
  have hl : (b.take pos).length = pos := by simp only [List.length_take]; omega
  unfold readAt writeAt
  rw [List.append_assoc, List.drop_left' hl, List.take_left' rfl]

theorem length_take_map_some {data : List UInt8} {n : Nat} (h : n ≤ data.length) :
    ((data.take n).map some).length = n := by
  rw [List.length_map, List.length_take]; exact Nat.min_eq_left h

theorem getElem?_concat {α : Type} {l : List α} {a w : α} {m : Nat} (h : (l ++ [a])[m]? = some w) :
    l[m]? = some w ∨ (m = l.length ∧ w = a) := by
  rcases Nat.lt_trichotomy m l.length with hlt | heq | hgt
  · left; rwa [List.getElem?_append_left hlt] at h
  · right; subst heq; simp at h; exact ⟨rfl, h.symm⟩
  · rw [List.getElem?_eq_none (by simp only [List.length_append, List.length_singleton]; omega)] at h; cases h

theorem getElem?_set_some {α : Type} {l : List α} {m k : Nat} {a w : α} (h : (l.set m a)[k]? = some w) :
    (k = m ∧ w = a) ∨ l[k]? = some w := by
  rw [List.getElem?_set] at h
  split at h
  · split at h
    · exact .inl ⟨‹m = k›.symm, (Option.some.inj h).symm⟩
    · cases h
  · exact .inr h

/-- byte `j` of view `p` in state `s` (`none`: outside the buffer) -/
def byteAt (s : State) (p : View) (j : Nat) : Option Byte := (s.bufs[p.buf]?).bind (·[p.off + j]?)

theorem byteAt_setBuf_writeAt {s : State} {i pos : Nat} {b : Buffer} {data : List Byte}
    (hb : s.bufs[i]? = some b) (hin : pos + data.length ≤ b.length) (q : View) (j : Nat) :
    byteAt (setBuf s i (writeAt b pos data)) q j =
      if q.buf = i ∧ pos ≤ q.off + j ∧ q.off + j < pos + data.length then data[q.off + j - pos]?
      else byteAt s q j := by
  have hlt : i < s.bufs.length := (List.getElem?_eq_some_iff.mp hb).1
  unfold byteAt setBuf
  by_cases hqi : q.buf = i
  · subst hqi
    simp only [List.getElem?_set_self hlt, hb, Option.bind_some, true_and]
    rw [getElem?_writeAt hin]
  · have hne : i ≠ q.buf := fun h => hqi h.symm
    simp only [List.getElem?_set_ne hne, hqi, false_and, if_false]

/-- the view lies inside its buffer -/
def ViewOk (s : State) (v : View) : Prop := ∃ b, s.bufs[v.buf]? = some b ∧ v.off + v.size ≤ b.length

/-- every reachable `modeMemory_t` lies inside its buffer, every handle points to an existing
    `modeMemory_t`, the caller's host arrays are there -/
structure Inv (s : State) : Prop where
  views : ∀ (m : Nat) (v : View), s.mems[m]? = some v → ViewOk s v
  vars : ∀ (x m : Nat), s.vars x = some m → m < s.mems.length
  host : ∀ hb : Nat, hb < nHostBufs → ∃ b, s.bufs[hb]? = some b ∧ b.length = hostBufSize

/-- buffers only grow in number and keep their length -/
@[reducible] def BufLe (s s' : State) : Prop :=
  ∀ (i : Nat) (b : Buffer), s.bufs[i]? = some b → ∃ b', s'.bufs[i]? = some b' ∧ b'.length = b.length

/-- the older buffers are byte for byte what they were -/
@[reducible] def BufsKept (s s' : State) : Prop := ∀ (i : Nat), i < s.bufs.length → s'.bufs[i]? = s.bufs[i]?

/-- a later state knows every `modeMemory_t` of the earlier one, at the same place -/
@[reducible] def MemsLe (s s' : State) : Prop :=
  ∀ (m : Nat) (v : View), s.mems[m]? = some v →
    ∃ v', s'.mems[m]? = some v' ∧ v'.buf = v.buf ∧ v'.off = v.off ∧ v'.size = v.size

/-- every reachable `modeMemory_t` has a dtype of at least one byte -/
def EszPos (s : State) : Prop := ∀ (m : Nat) (v : View), s.mems[m]? = some v → 0 < v.esz

theorem BufLe.refl (s : State) : BufLe s s := fun _ b h => ⟨b, h, rfl⟩

theorem BufsKept.trans {a b c : State} (h1 : BufsKept a b) (h2 : BufsKept b c) (hl : a.bufs.length ≤ b.bufs.length) :
    BufsKept a c := fun i hi => by rw [h2 i (by omega), h1 i hi]

theorem BufsKept.bufLe {s s' : State} (h : BufsKept s s') : BufLe s s' := fun i b hi =>
  ⟨b, by rw [h i (List.getElem?_eq_some_iff.mp hi).1]; exact hi, rfl⟩

theorem byteAt_kept {s s' : State} (h : BufsKept s s') {q : View} (hq : q.buf < s.bufs.length) (j : Nat) :
    byteAt s' q j = byteAt s q j := by
  unfold byteAt; rw [h _ hq]

theorem MemsLe.refl (s : State) : MemsLe s s := fun _ v h => ⟨v, h, rfl, rfl, rfl⟩

theorem MemsLe.trans {a b c : State} (h1 : MemsLe a b) (h2 : MemsLe b c) : MemsLe a c := by
  intro m v hv
  obtain ⟨v1, hv1, e1, e2, e3⟩ := h1 m v hv
  obtain ⟨v2, hv2, f1, f2, f3⟩ := h2 m v1 hv1
  exact ⟨v2, hv2, by rw [f1, e1], by rw [f2, e2], by rw [f3, e3]⟩

theorem ViewOk.le {s : State} {v : View} {b : Buffer} (h : ViewOk s v) (hb : s.bufs[v.buf]? = some b) :
    v.off + v.size ≤ b.length := by
  obtain ⟨b', hb', hin⟩ := h
  rw [hb] at hb'; cases hb'
  exact hin

theorem ViewOk.ne_none {s : State} {v : View} (h : ViewOk s v) : s.bufs[v.buf]? ≠ none := by
  obtain ⟨b, hb, _⟩ := h
  rw [hb]; nofun

theorem ViewOk.buf_lt {s : State} {v : View} (h : ViewOk s v) : v.buf < s.bufs.length := by
  obtain ⟨b, hb, _⟩ := h
  exact (List.getElem?_eq_some_iff.mp hb).1

theorem ViewOk.mono {s s' : State} {v : View} (h : ViewOk s v) (hb : BufLe s s') : ViewOk s' v := by
  obtain ⟨b, h1, h2⟩ := h
  obtain ⟨b', h3, h4⟩ := hb _ _ h1
  exact ⟨b', h3, by omega⟩

theorem ViewOk.retag {s : State} {v : View} (h : ViewOk s v) (e : Nat) : ViewOk s { v with esz := e } := h

theorem bufLe_setBuf {s : State} {i : Nat} {b b' : Buffer} (hi : s.bufs[i]? = some b)
    (hl : b'.length = b.length) : BufLe s (setBuf s i b') := by
  intro j c hj
  by_cases hji : i = j
  · subst hji
    have : i < s.bufs.length := (List.getElem?_eq_some_iff.mp hi).1
    rw [hi] at hj; cases hj
    exact ⟨b', by simp [setBuf, this], hl⟩
  · exact ⟨c, by simp [setBuf, hji, hj], rfl⟩

theorem init_inv : Inv init := by
  refine ⟨?_, ?_, ?_⟩
  · intro m v h; simp [init] at h
  · intro x m h; simp [init] at h
  · intro hb h
    have : hb = 0 ∨ hb = 1 := by simp [nHostBufs] at h; omega
    rcases this with rfl | rfl <;> exact ⟨_, rfl, List.length_replicate⟩

theorem Inv.setBuf {s : State} (h : Inv s) {i : Nat} {b b' : Buffer} (hi : s.bufs[i]? = some b)
    (hl : b'.length = b.length) : Inv (setBuf s i b') := by
  have hb := bufLe_setBuf hi hl
  refine ⟨fun m v hmv => (h.views m v hmv).mono hb, h.vars, fun k hk => ?_⟩
  obtain ⟨c, h1, h2⟩ := h.host k hk
  obtain ⟨c', h3, h4⟩ := hb _ _ h1
  exact ⟨c', h3, by omega⟩

theorem Inv.rebind {s : State} (h : Inv s) {f : Nat → Option Nat} (hf : ∀ x m, f x = some m → m < s.mems.length) :
    Inv { s with vars := f } :=
  ⟨h.views, hf, h.host⟩

theorem Inv.setEsz {s : State} (h : Inv s) {m : Nat} {p : View} (hp : s.mems[m]? = some p) (e : Nat) :
    Inv { s with mems := s.mems.set m { p with esz := e } } := by
  refine ⟨fun k v hk => ?_, fun x k hx => by simp only [List.length_set]; exact h.vars _ _ hx, h.host⟩
  rcases getElem?_set_some hk with ⟨_, rfl⟩ | hk
  · exact (h.views _ _ hp).retag e
  · exact h.views _ _ hk

theorem MemsLe.setEsz {s : State} {m e : Nat} {p : View} (hp : s.mems[m]? = some p) :
    MemsLe s { s with mems := s.mems.set m { p with esz := e } } := by
  intro k v hv
  have hlt : m < s.mems.length := (List.getElem?_eq_some_iff.mp hp).1
  by_cases hmk : m = k
  · subst hmk
    rw [hp] at hv; cases hv
    exact ⟨{ p with esz := e }, List.getElem?_set_self hlt, rfl, rfl, rfl⟩
  · exact ⟨v, by rw [← hv]; exact List.getElem?_set_ne hmk, rfl, rfl, rfl⟩

theorem EszPos.setEsz {s : State} (h : EszPos s) {m e : Nat} {p : View} (he : 0 < e) :
    EszPos { s with mems := s.mems.set m { p with esz := e } } := by
  intro k v hk
  rcases getElem?_set_some hk with ⟨_, rfl⟩ | hk
  · exact he
  · exact h _ _ hk

theorem view?_of_var {s : State} {x : Nat} {o : Option Nat} (h : s.vars x = o) :
    view? s x = o.bind fun m => s.mems[m]? := by
  unfold view?; rw [h]

theorem view?_some {s : State} {x : Nat} {p : View} (h : view? s x = some p) :
    ∃ m, s.vars x = some m ∧ s.mems[m]? = some p := by
  unfold view? at h
  cases hv : s.vars x with
  | none => rw [hv] at h; cases h
  | some m => rw [hv] at h; exact ⟨m, rfl, h⟩

theorem Inv.viewOk {s : State} (h : Inv s) {x : Nat} {p : View} (hp : view? s x = some p) : ViewOk s p := by
  obtain ⟨m, _, hm⟩ := view?_some hp
  exact h.views _ _ hm

theorem Inv.host_ne_none {s : State} (h : Inv s) {hb : Nat} (hlt : hb < nHostBufs) : s.bufs[hb]? ≠ none := by
  obtain ⟨b, hb1, _⟩ := h.host hb hlt
  rw [hb1]; nofun

theorem Inv.host_length {s : State} (h : Inv s) {hb : Nat} {b : Buffer} (hlt : hb < nHostBufs)
    (hb1 : s.bufs[hb]? = some b) : b.length = hostBufSize := by
  obtain ⟨b', hb', hl⟩ := h.host hb hlt
  rw [hb1] at hb'; cases hb'
  exact hl

theorem Inv.buf_lt {s : State} (h : Inv s) {m : Nat} {v : View} (hv : s.mems[m]? = some v) : v.buf < s.bufs.length :=
  (h.views _ _ hv).buf_lt

theorem EszPos.view {s : State} (h : EszPos s) {x : Nat} {p : View} (hp : view? s x = some p) : 0 < p.esz := by
  obtain ⟨m, _, hm⟩ := view?_some hp
  exact h _ _ hm

theorem view?_setVar (s : State) (d : Nat) (m : Option Nat) (x : Nat) :
    view? (setVar s d m) x = if x = d then m.bind (fun k => s.mems[k]?) else view? s x := by
  unfold view? setVar
  simp only []
  split <;> rfl

/-- `s1` is `s` with one more `modeMemory_t`, `v`, at the next free index; the handles and the older
    buffers are untouched (new buffers may have appeared).  What every memory-typed expression does
    to the state when it yields a memory. -/
structure Extends (s s1 : State) (v : View) : Prop where
  vars : s1.vars = s.vars
  mems : s1.mems = s.mems ++ [v]
  bufs : BufsKept s s1
  viewOk : Inv s → ViewOk s1 v

theorem extends_pushMem {s : State} {v : View} (hv : Inv s → ViewOk s v) : Extends s (pushMem s v) v :=
  ⟨rfl, rfl, fun _ _ => rfl, hv⟩

theorem Extends.mems_new {s s1 : State} {v : View} (hx : Extends s s1 v) : s1.mems[s.mems.length]? = some v := by
  rw [hx.mems]; exact List.getElem?_concat_length

theorem Extends.inv {s s1 : State} {v : View} (hx : Extends s s1 v) (h : Inv s) : Inv s1 := by
  refine ⟨?_, ?_, ?_⟩
  · intro m w hm
    rw [hx.mems] at hm
    rcases getElem?_concat hm with hm | ⟨_, rfl⟩
    · exact (h.views _ _ hm).mono hx.bufs.bufLe
    · exact hx.viewOk h
  · intro x m hm
    rw [hx.vars] at hm
    have := h.vars _ _ hm
    rw [hx.mems, List.length_append]; omega
  · intro k hk
    obtain ⟨b, h1, h2⟩ := h.host k hk
    exact ⟨b, by rw [hx.bufs k (List.getElem?_eq_some_iff.mp h1).1]; exact h1, h2⟩

theorem Extends.memsLe {s s1 : State} {v : View} (hx : Extends s s1 v) : MemsLe s s1 := by
  intro m w hw
  have : m < s.mems.length := (List.getElem?_eq_some_iff.mp hw).1
  exact ⟨w, by rw [hx.mems, List.getElem?_append_left this]; exact hw, rfl, rfl, rfl⟩

theorem Extends.eszPos {s s1 : State} {v : View} (hx : Extends s s1 v) (h : EszPos s) (hv : 0 < v.esz) : EszPos s1 := by
  intro m w hw
  rw [hx.mems] at hw
  rcases getElem?_concat hw with hw | ⟨_, rfl⟩
  · exact h _ _ hw
  · exact hv

theorem Extends.view_old {s s1 : State} {v : View} (hx : Extends s s1 v) (h : Inv s) (x : Nat) :
    view? s1 x = view? s x := by
  unfold view?
  rw [hx.vars, hx.mems]
  cases hv : s.vars x with
  | none => rfl
  | some m => simp only [Option.bind_some, List.getElem?_append_left (h.vars _ _ hv)]

theorem Extends.view_setVar {s s1 : State} {v : View} (hx : Extends s s1 v) (d x : Nat) :
    view? (setVar s1 d (some s.mems.length)) x = if x = d then some v else view? s1 x := by
  rw [view?_setVar, Option.bind_some, hx.mems_new]

theorem Extends.setBuf {s s1 : State} {v : View} (hx : Extends s s1 v) {i : Nat} {b b' : Buffer}
    (hi : s1.bufs[i]? = some b) (hn : s.bufs.length ≤ i) (hl : b'.length = b.length) :
    Extends s (setBuf s1 i b') v :=
  ⟨hx.vars, hx.mems, fun j hj => by
      show (s1.bufs.set i b')[j]? = _
      rw [List.getElem?_set_ne (by omega)]; exact hx.bufs j hj,
    fun h => (hx.viewOk h).mono (bufLe_setBuf hi hl)⟩

theorem Extends.retag {s s1 : State} {v : View} (hx : Extends s s1 v) (e : Nat) :
    Extends s { s1 with mems := s1.mems.set s.mems.length { v with esz := e } } { v with esz := e } :=
  ⟨hx.vars, by simp [hx.mems], hx.bufs, fun h => (hx.viewOk h).retag e⟩

/-- The row of a memory-typed expression evaluated in `s`: it raises exactly if `E`; otherwise it traps
    (only if `T`), or yields no memory and `s` itself (only if `N`), or a state `s1` with one more `modeMemory_t` `v`
    at the next free index, where `Q s1 v` (which may speak of the bytes of the new memory). -/
def MRes.Yields (s : State) (N E T : Prop) (Q : State → View → Prop) : MRes → Prop
  | .val s1 none => ¬ E ∧ s1 = s ∧ N
  | .val s1 (some m) => ¬ E ∧ m = s.mems.length ∧ ∃ v, Extends s s1 v ∧ Q s1 v
  | .err _ => E
  | .trap => ¬ E ∧ T

theorem assignTo_noTrap {s0 : State} {d : Nat} : ∀ {r : MRes}, r ≠ .trap → (assignTo s0 d r).2 ≠ .trap
  | .val _ _, _ => nofun
  | .err _, _ => nofun
  | .trap, h => absurd rfl h

theorem assignTo_frame {s0 : State} {d : Nat} :
    ∀ {r : MRes}, (∀ o, (assignTo s0 d r).2 ≠ .ok o) → (assignTo s0 d r).1 = s0
  | .val _ _, h => absurd rfl (h none)
  | .err _, _ => rfl
  | .trap, _ => rfl

theorem assignTo_new {s : State} {N E T : Prop} {Q : State → View → Prop} {r : MRes} {d : Nat} {o : Option (List Byte)}
    (hr : r.Yields s N E T Q) (hn : ¬ N) (hok : (assignTo s d r).2 = .ok o) :
    ∃ s1 v, Extends s s1 v ∧ Q s1 v ∧ (assignTo s d r).1 = setVar s1 d (some s.mems.length) ∧
      view? (assignTo s d r).1 d = some v ∧ (Inv s → ∀ x, x ≠ d → view? (assignTo s d r).1 x = view? s x) := by
  match r, hr with
  | .val _ none, hr => exact absurd hr.2.2 hn
  | .val s1 (some _), ⟨_, rfl, v, hx, hv⟩ =>
    refine ⟨s1, v, hx, hv, rfl, ?_, fun h x hne => ?_⟩
    · show view? (setVar s1 d (some s.mems.length)) d = some v
      rw [hx.view_setVar, if_pos rfl]
    · show view? (setVar s1 d (some s.mems.length)) x = view? s x
      rw [hx.view_setVar, if_neg hne, hx.view_old h]
  | .err e, _ => cases hok
  | .trap, _ => cases hok

end Occa.Mem
