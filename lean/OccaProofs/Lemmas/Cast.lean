/-
The loops of dtype_t::isCyclic / canBeCastedTo (model: OccaModel/Dtype.lean) against the declarative
cast rule: `byte` on either side, or the longer flattening is a whole number (≥ 1) of repetitions
of the shorter one.  Also: `canCast` never traps (no division by zero, no out-of-bounds read); `isCyclic`
on its own can, on an empty vector with a positive cycle length, which `canCast` never passes it.
-/
import OccaModel.Dtype

namespace Occa.Dtype
open Occa

def IsRep (xs ys : List Leaf) : Prop := ∃ n, 1 ≤ n ∧ ys = repeatList n xs

/-- the declarative cast rule -/
def CastOK (a b : Dtype) : Prop :=
  isByte a = true ∨ isByte b = true ∨ IsRep a.flatten b.flatten ∨ IsRep b.flatten a.flatten

theorem length_repeatList {α : Type} (xs : List α) : ∀ n, (repeatList n xs).length = n * xs.length
  | 0 => by simp [repeatList]
  | n + 1 => by simp [repeatList, length_repeatList xs n, Nat.add_mul, Nat.add_comm]

theorem repeatList_nil {α : Type} (n : Nat) : repeatList n ([] : List α) = [] :=
  List.eq_nil_of_length_eq_zero (length_repeatList [] n)

theorem take_repeatList {α : Type} (xs : List α) : ∀ n, 1 ≤ n → (repeatList n xs).take xs.length = xs
  | _ + 1, _ => List.take_left

theorem repeatList_add {α : Type} (xs : List α) : ∀ m n, repeatList (m + n) xs = repeatList m xs ++ repeatList n xs
  | 0, n => by simp [repeatList]
  | m + 1, n => by rw [Nat.add_right_comm, repeatList, repeatList, repeatList_add xs m n, List.append_assoc]

theorem repeatList_mul {α : Type} (xs : List α) (b : Nat) : ∀ a, repeatList a (repeatList b xs) = repeatList (a * b) xs
  | 0 => by simp [repeatList]
  | a + 1 => by rw [repeatList, repeatList_mul xs b a, Nat.succ_mul, Nat.add_comm (a * b), repeatList_add]

theorem getElem?_repeatList {α : Type} (xs : List α) {t : Nat} (ht : t < xs.length) :
    ∀ n k, k < n → (repeatList n xs)[t + k * xs.length]? = xs[t]?
  | n + 1, 0, _ => by simpa [repeatList] using List.getElem?_append_left ht
  | n + 1, k + 1, h => by
      rw [repeatList, List.getElem?_append_right (by rw [Nat.succ_mul]; omega), Nat.succ_mul, ← Nat.add_assoc,
        Nat.add_sub_cancel]
      exact getElem?_repeatList xs ht n k (Nat.lt_of_succ_lt_succ h)

/-- `isCyclic` reads `vec` as `q` rows of length `l` and walks it by columns (entry `t` of row `k` against entry `t`
    of row 0); `repeatList` lays the same matrix out by rows. -/
theorem periodic_iff (vec : List Leaf) (l q : Nat) (hl : 0 < l) (hq : 1 ≤ q) (hlen : vec.length = q * l) :
    (∀ t, t < l → ∀ k, 1 ≤ k → k < q → vec[t + k * l]? = vec[t]?) ↔ IsRep (vec.take l) vec := by
  generalize hw : vec.take l = w
  have hwl : w.length = l := by
    rw [← hw, List.length_take, hlen]; exact Nat.min_eq_left (Nat.le_mul_of_pos_left l hq)
  subst hwl
  have hwt : ∀ t, t < w.length → w[t]? = vec[t]? := fun t ht => hw ▸ List.getElem?_take_of_lt ht
  constructor
  · intro h
    refine ⟨q, hq, List.ext_getElem? fun j => ?_⟩
    by_cases hj : j < q * w.length
    · have hm : j % w.length < w.length := Nat.mod_lt _ hl
      have hd : j / w.length < q := (Nat.div_lt_iff_lt_mul hl).mpr hj
      rw [← Nat.mod_add_div' j w.length, getElem?_repeatList w hm q _ hd, hwt _ hm]
      by_cases h0 : j / w.length = 0
      · rw [h0, Nat.zero_mul, Nat.add_zero]
      · exact h _ hm _ (Nat.pos_of_ne_zero h0) hd
    · rw [List.getElem?_eq_none (by omega), List.getElem?_eq_none (by rw [length_repeatList]; omega)]
  · rintro ⟨n, _, h⟩ t ht k _ hk
    have hn : n = q :=
      Nat.eq_of_mul_eq_mul_right hl ((length_repeatList w n).symm.trans ((congrArg List.length h).symm.trans hlen))
    rw [← hwt t ht, h]
    exact getElem?_repeatList w ht n k (hn ▸ hk)

/-- `x` does not trap and answers whether `P` holds: the form of every specification below -/
def Decides (x : Except Trap Bool) (P : Prop) : Prop := ∃ b, x = .ok b ∧ (b = true ↔ P)

namespace Decides
variable {x r rest : Except Trap Bool} {P Q : Prop}

theorem yes (h : P) : Decides (.ok true) P := ⟨true, rfl, iff_of_true rfl h⟩

theorem no (h : ¬ P) : Decides (.ok false) P := ⟨false, rfl, iff_of_false nofun h⟩

theorem congr (h : Decides x P) (e : P ↔ Q) : Decides x Q :=
  let ⟨b, hb, hp⟩ := h; ⟨b, hb, hp.trans e⟩

theorem ok_true_iff (h : Decides x P) : x = .ok true ↔ P := by
  obtain ⟨b, rfl, hp⟩ := h
  exact ⟨fun e => hp.mp (Except.ok.inj e), fun p => congrArg _ (hp.mpr p)⟩

/-- one iteration of a comparing loop: `if (a != b) return false;` and go on -/
theorem step {a b : Leaf} (h : Decides rest P) : Decides (if a ≠ b then .ok false else rest) (a = b ∧ P) := by
  by_cases hab : a = b
  · rw [if_neg (not_not_intro hab)]; exact h.congr (and_iff_right hab).symm
  · rw [if_pos hab]; exact .no fun h => hab h.1

/-- `r`, and if it says yes, `rest`: the bind the loops write out by hand.  The `match` of this statement and the model's
    are two matchers over the closed type `Except Trap Bool`, which the unifier identifies; a rule polymorphic in the value
    type would not fire (`Post.on`, Lemmas/Dtype.lean). -/
theorem seq (hr : Decides r P) (hrest : Decides rest Q) :
    Decides (match (generalizing := false) r with | .error t => .error t | .ok false => .ok false | .ok true => rest)
      (P ∧ Q) := by
  obtain ⟨b, rfl, hp⟩ := hr
  cases b
  · exact .no fun h => nomatch hp.mpr h.1
  · exact hrest.congr (and_iff_right (hp.mp rfl)).symm

end Decides

theorem at_ok {vec : List Leaf} {i : Nat} (h : i < vec.length) : at_ vec i = .ok vec[i] := by
  simp [at_, List.getElem?_eq_getElem h]

theorem add_mul_lt {t c q l : Nat} (ht : t < l) (hc : c < q) : t + c * l < q * l :=
  calc t + c * l < (c + 1) * l := by rw [Nat.add_mul, Nat.one_mul]; omega
    _ ≤ q * l := Nat.mul_le_mul_right l hc

theorem forall_Ico_succ {P : Nat → Prop} {c e : Nat} (h : c < e) :
    (∀ k, c ≤ k → k < e → P k) ↔ P c ∧ ∀ k, c + 1 ≤ k → k < e → P k :=
  ⟨fun H => ⟨H c (Nat.le_refl c) h, fun k h1 h2 => H k (Nat.le_of_succ_le h1) h2⟩,
   fun H k h1 h2 => (Nat.eq_or_lt_of_le h1).elim (fun e => e ▸ H.1) (fun h' => H.2 k h' h2)⟩

theorem cyclicInner_spec {vec : List Leaf} {L i e : Nat} (x : Leaf) (hi : i < L) (he : e * L ≤ vec.length)
    (n c : Nat) (h : c + n = e) :
    Decides (cyclicInner vec L i x n c) (∀ k, c ≤ k → k < e → vec[i + k * L]? = some x) := by
  induction n generalizing c with
  | zero => exact .yes fun k h1 h2 => absurd h2 (by omega)
  | succ n ih =>
    have h0 : i + c * L < vec.length := Nat.lt_of_lt_of_le (add_mul_lt hi (by omega)) he
    simp only [cyclicInner, at_ok h0]
    refine (Decides.step (ih (c + 1) (by omega))).congr ?_
    rw [forall_Ico_succ (show c < e by omega), List.getElem?_eq_getElem h0, Option.some.injEq, eq_comm]

theorem cyclicOuter_spec {vec : List Leaf} {L cycles : Nat} (hc : 1 ≤ cycles) (hlen : cycles * L ≤ vec.length)
    (n i : Nat) (h : i + n = L) :
    Decides (cyclicOuter vec L cycles n i)
      (∀ t, i ≤ t → t < L → ∀ k, 1 ≤ k → k < cycles → vec[t + k * L]? = vec[t]?) := by
  induction n generalizing i with
  | zero => exact .yes fun t h1 h2 => absurd h2 (by omega)
  | succ n ih =>
    have hi : i < L := by omega
    have h0 : i < vec.length := by simpa using Nat.lt_of_lt_of_le (add_mul_lt (c := 0) hi hc) hlen
    have hin := cyclicInner_spec vec[i] hi hlen (cycles - 1) 1 (by omega)
    rw [← List.getElem?_eq_getElem h0] at hin
    rw [forall_Ico_succ hi]
    simp only [cyclicOuter, at_ok h0]
    exact .seq hin (ih (i + 1) (by omega))

theorem prefixEq_spec (a b : List Leaf) : ∀ n i, i + n ≤ a.length → i + n ≤ b.length →
    Decides (prefixEq a b n i) ((a.drop i).take n = (b.drop i).take n)
  | 0, _, _, _ => .yes rfl
  | n + 1, i, ha, hb => by
    have h1 : i < a.length := by omega
    have h2 : i < b.length := by omega
    simp only [prefixEq, at_ok h1, at_ok h2, List.drop_eq_getElem_cons h1, List.drop_eq_getElem_cons h2,
      List.take_succ_cons, List.cons.injEq]
    exact .step (prefixEq_spec a b n (i + 1) (by omega) (by omega))

theorem IsRep.length_le {f t : List Leaf} (h : IsRep f t) : f.length ≤ t.length := by
  obtain ⟨n, hn, rfl⟩ := h
  rw [length_repeatList]
  exact Nat.le_mul_of_pos_left _ hn

theorem IsRep.take_eq {f t : List Leaf} (h : IsRep f t) : t.take f.length = f := by
  obtain ⟨n, hn, rfl⟩ := h
  exact take_repeatList f n hn

theorem isRep_take_iff {f t : List Leaf} : IsRep (t.take f.length) t ∧ f = t.take f.length ↔ IsRep f t :=
  ⟨fun ⟨h, e⟩ => by rw [e]; exact h, fun h => ⟨h.take_eq.symm ▸ h, h.take_eq.symm⟩⟩

/-- `l = 0` needs no clause: copies of `[]` are not the non-empty `vec`.  `l > vec.length` does: `take` is then all
    of `vec`, one copy of itself, and the code answers no (the remainder is not 0). -/
theorem isCyclic_spec (hG : Gen.cyclicGuard = true) (vec : List Leaf) (l : Nat) (hv : 0 < vec.length) :
    Decides (isCyclic vec l) (l ≤ vec.length ∧ IsRep (vec.take l) vec) := by
  unfold isCyclic
  by_cases hl : l = 0
  · simp only [hG, hl, Nat.le_refl, decide_true, Bool.and_self, if_true]
    refine .no fun ⟨_, n, _, h⟩ => List.ne_nil_of_length_pos hv ?_
    rwa [List.take_zero, repeatList_nil] at h
  · have hl' : 0 < l := Nat.pos_of_ne_zero hl
    simp only [hG, Nat.le_zero, hl, decide_false, Bool.and_false, Bool.false_eq_true, if_false, cmod, cdiv]
    by_cases hm : vec.length % l = 0
    · have hlen : vec.length = vec.length / l * l := by rw [Nat.div_mul_cancel (Nat.dvd_of_mod_eq_zero hm)]
      have hq : 1 ≤ vec.length / l := Nat.pos_of_ne_zero fun h => by rw [h, Nat.zero_mul] at hlen; omega
      simp only [hm, ne_eq, not_true_eq_false, if_false]
      refine (cyclicOuter_spec hq (Nat.le_of_eq hlen.symm) l 0 (Nat.zero_add l)).congr ?_
      rw [and_iff_right (Nat.le_of_dvd hv (Nat.dvd_of_mod_eq_zero hm)), ← periodic_iff vec l _ hl' hq hlen]
      exact ⟨fun h t => h t (Nat.zero_le t), fun h t _ => h t⟩
    · simp only [hm, ne_eq, not_false_eq_true, if_true]
      refine .no fun ⟨hle, n, _, h⟩ => hm ?_
      rw [h, length_repeatList, List.length_take, Nat.min_eq_left hle, Nat.mul_mod_left]

theorem canCast_spec (hG : Gen.cyclicGuard = true) (a b : Dtype) : Decides (canCast a b) (CastOK a b) := by
  unfold canCast CastOK
  by_cases hb : (isByte a || isByte b) = true
  · rw [if_pos hb]
    exact .yes (((Bool.or_eq_true _ _).mp hb).elim .inl fun h => .inr (.inl h))
  · rw [if_neg hb]
    simp only [Bool.or_eq_true, not_or] at hb
    refine Decides.congr ?_ (show IsRep a.flatten b.flatten ∨ IsRep b.flatten a.flatten ↔ _ by simp [hb])
    generalize a.flatten = f
    generalize b.flatten = t
    have pre : ∀ e, e ≤ f.length → e ≤ t.length → Decides (prefixEq f t e 0) (f.take e = t.take e) := fun e ha hb =>
      prefixEq_spec f t e 0 ((Nat.zero_add e).symm ▸ ha) ((Nat.zero_add e).symm ▸ hb)
    by_cases h1 : f.length < t.length
    · have hno : ¬ IsRep t f := fun h => absurd h.length_le (Nat.not_le_of_lt h1)
      rw [if_pos h1, or_iff_left hno]
      refine (Decides.seq (isCyclic_spec hG t f.length (by omega)) (pre _ (Nat.le_refl _) (Nat.le_of_lt h1))).congr ?_
      rw [and_iff_right (Nat.le_of_lt h1), List.take_length]
      exact isRep_take_iff
    · by_cases h2 : f.length > t.length
      · have hno : ¬ IsRep f t := fun h => absurd h.length_le (Nat.not_le_of_lt h2)
        rw [if_neg h1, if_pos h2, or_iff_right hno]
        refine (Decides.seq (isCyclic_spec hG f t.length (by omega))
          ((pre _ (Nat.le_of_lt h2) (Nat.le_refl _)).congr eq_comm)).congr ?_
        rw [and_iff_right (Nat.le_of_lt h2), List.take_length]
        exact isRep_take_iff
      · have he : f.length = t.length := by omega
        rw [if_neg h1, if_neg h2]
        refine (pre _ (Nat.le_refl _) (Nat.le_of_eq he)).congr ?_
        rw [List.take_length, he, List.take_length]
        exact ⟨fun h => h ▸ .inl ⟨1, Nat.le_refl 1, (List.append_nil f).symm⟩,
          fun h => h.elim (fun h => by rw [← h.take_eq, he, List.take_length])
            (fun h => by rw [← h.take_eq, ← he, List.take_length])⟩

end Occa.Dtype
