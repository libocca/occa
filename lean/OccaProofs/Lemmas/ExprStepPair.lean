/-
Opening and closing brackets: an opener starts a level of its own (`Levels.push`, with `PairOk`
recording what the shape automaton knows about the position); a closer reduces what is above the
opener (`close_core`), and `attachPair` turns the pair into a cast operator or into a value of the
enclosing level (`attach_value`).  In both cases `step` succeeds and `Inv` holds again.
-/
import OccaProofs.Lemmas.ExprInv

namespace Occa.Expr
open Occa.Gen

variable {s s' : Sh} {σ : St} {next : Option Tok} {consumed : List Tok} {cur : Lvl} {stk : List Lvl}

theorem step_open_eq (σ : St) (o : Op) (next : Option Tok) (h : has o.ty T.pairStart = true) :
    step σ (.op o) next =
      .ok { cur := { out := [], ops := [{ op := o }], before := if σ.prevCastEnd then none else σ.prev },
            stack := σ.cur :: σ.stack, prev := some (.op o) } := by
  simp [step, h]

theorem shStep_open {s s' : Sh} {o : Op} {next : Option Tok} (h1 : has o.ty T.pairStart = true)
    (h : shStep s (.op o) next = some s') :
    ∃ cok, s' = { needOperand := true, pendingQ := 0, content := .empty,
                  stack := { closerTy := shl1 o.ty, inE := s.needOperand, savedQ := s.pendingQ, castOk := cok } :: s.stack,
                  prev := some (.op o), prevCastEnd := false } ∧
      if s.needOperand then (has o.ty T.parentheses || has o.ty T.braces) = true ∧ cok = prefixKeeps .parenCast s
      else (has o.ty T.parentheses || has o.ty T.brackets) = true ∧ isPostfixTok s.prev = false := by
  simp only [shStep, h1, if_true] at h
  cases hne : s.needOperand <;> simp only [hne, if_true, Bool.false_eq_true, if_false] at h ⊢ <;>
    split at h <;> cases h
  · rename_i hk
    simp only [Bool.and_eq_true, Bool.not_eq_true'] at hk
    exact ⟨true, rfl, hk⟩
  · exact ⟨_, rfl, ‹_›, rfl⟩

theorem step_open {o : Op} (hinv : Inv s σ consumed cur stk) (h1 : has o.ty T.pairStart = true)
    (hsh : shStep s (.op o) next = some s') :
    Follows σ (.op o) next s' consumed := by
  obtain ⟨cok, rfl, hk⟩ := shStep_open h1 hsh
  obtain ⟨hrep, hgood⟩ := hinv.levels.cur_rep
  let n : OpNode := { op := o }
  let cur' : Lvl := { pre := [], base := some n, top := none }
  have hcur'good : cur'.Good :=
    ⟨FramesOk.nil.cons (f := Frame.opn n) h1 (fun g hg => by cases hg) (by simp [Frame.outs])
      (by simp [Frame.operands]) rfl, by simp [cur'], by simp [cur'], by simp [cur']⟩
  have htoks : allToks cur' (cur :: stk) = allToks cur stk ++ [Tok.op o] := by rw [allToks_pop]; rfl
  have hpair : PairOk cur n { closerTy := shl1 o.ty, inE := s.needOperand, savedQ := s.pendingQ, castOk := cok }
      (if σ.prevCastEnd then none else σ.prev) := by
    rw [hinv.castEnd, hinv.prev]
    cases hne : s.needOperand <;> simp only [hne, if_true, Bool.false_eq_true, if_false] at hk
    · have hO := hinv.modeO hne
      obtain ⟨hkinds, hnotpost⟩ := PrevO.kinds hO hgood
      obtain ⟨hce, hm, _⟩ := hO
      have hnp := hnotpost hk.2
      refine ⟨rfl, by simpa using hk.1, ⟨?_, hnp⟩, ?_, hinv.pending, fun h => by simp at h⟩
      · exact Option.isSome_iff_exists.2 (hm.top_some hnp)
      · simp only [hce, Bool.false_eq_true, if_false]
        rcases hkinds with h | h | ⟨p, hp, hpr⟩
        · exact Or.inl h
        · exact Or.inr h
        · rw [hp] at hk; cases hpr.symm.trans hk.2
    · have hE := hinv.modeE hne
      have ⟨htop, hnp, _⟩ := hE
      refine ⟨rfl, by simpa using hk.1, ⟨htop, hnp⟩, ?_, hinv.pending, ?_⟩
      · simp only [if_true]
        rcases hE.prev_kind hgood with hce | hp | ⟨q, hp, hq⟩
        · simp [hce]
        · simp [hp]
        · by_cases hce : s.prevCastEnd = true
          · simp [hce]
          · simp only [hce, Bool.false_eq_true, if_false]
            exact Or.inr ⟨q, hp, kinds_not_pairEnd q hq⟩
      · -- a cast may follow the pending operator
        intro _ hkeep g hg
        exact accepts_of_keeps (hgood.frames.ok g (List.mem_of_mem_head? hg)) (hnp g hg) _
          (hE.keeps (hk.2 ▸ hkeep) g hg)
  refine ⟨_, cur', cur :: stk, step_open_eq σ o next h1,
    Levels.push cur' cur stk _ σ.cur σ.stack _ s.stack n ⟨rfl, rfl⟩ hcur'good rfl hpair hinv.levels,
    by rw [htoks, hinv.toks], rfl, rfl, ?_, rfl, rfl, rfl⟩
  show PrevE _ _
  refine ⟨rfl, fun f hf => by cases hf; rfl, ?_⟩
  simp only [Bool.false_eq_true, if_false]
  exact Or.inr ⟨Frame.opn n, [], rfl, rfl⟩

theorem applyTernary_noop (out : List Expr) (h : ∀ e, out.head? = some e → colonLu e = false) :
    applyTernary out = out := by
  unfold applyTernary
  split
  · rename_i o2 fv o1 tv c rest
    have := h (.lu o2 fv) rfl
    simp only [colonLu] at this
    simp [this]
  · rfl

theorem apply_pairEnd (o : Op) (prev : Option Tok) (out : List Expr) (h : has o.ty T.pairEnd = true) :
    applyOperator { op := o } prev out =
      .ok (match out with
           | v :: rest => if !isPairStartTok prev then .pair o v :: rest else .pair o .empty :: v :: rest
           | [] => [.pair o .empty]) := by
  obtain ⟨_, _, f3, f4, f5, f6⟩ := closer_class o h
  cases out with
  | nil => simp [applyOperator, f3, f4, f5, f6]
  | cons v rest =>
    simp only [applyOperator, f3, f4, f5, f6, Bool.false_eq_true, if_false, if_true]
    split <;> rfl

theorem step_close_eq (σ : St) (o : Op) (next : Option Tok) (parent : Scope) (rest : List Scope)
    (h2 : has o.ty T.pairEnd = true) (hs : σ.stack = parent :: rest) :
    step σ (.op o) next =
      match closeLoop o σ.prev (σ.cur.out ++ parent.out) (σ.cur.ops ++ parent.ops) with
      | .error x => .error x
      | .ok (out, ops) =>
        match attachPair σ.cur.before out ops with
        | .error x => .error x
        | .ok (out', ops', isCast) =>
          .ok { cur := { parent with out := out', ops := ops' }, stack := rest, prev := some (.op o), prevCastEnd := isCast } := by
  simp only [step, (closer_class o h2).1, h2, hs, Bool.false_eq_true, if_false, if_true]
  rfl

theorem closeLoop_open (o : Op) (prev : Option Tok) (out : List Expr) (n : OpNode) (ops : List OpNode)
    (hn : has n.op.ty T.pairStart = true) (hm : (o.ty == shl1 n.op.ty) = true) (h2 : has o.ty T.pairEnd = true)
    (h : ∀ e, out.head? = some e → colonLu e = false) :
    closeLoop o prev out (n :: ops) =
      .ok (match (generalizing := false) out with
           | v :: rest => if !isPairStartTok prev then .pair o v :: rest else .pair o .empty :: v :: rest
           | [] => [.pair o .empty], ops) := by
  rw [closeLoop]
  simp only [hn, if_true, hm, applyTernary_noop out h, apply_pairEnd o prev out h2]

/-- the result of `closePair`: the content of the pair as one `pairNode` on the enclosing scope -/
theorem close_core {s : Sh} {σ : St} {consumed : List Tok} {cur par : Lvl} {stk : List Lvl}
    (hinv : Inv s σ consumed cur (par :: stk)) (o : Op) (n : OpNode) (parent : Scope)
    (hbase : cur.base = some n) (hpar : par.Rep parent) (hparg : par.Good)
    (h2 : has o.ty T.pairEnd = true) (hm : (o.ty == shl1 n.op.ty) = true)
    (hq : s.pendingQ = 0) (hmode : s.needOperand = false ∨ s.content = .empty) :
    ∃ v', closeLoop o σ.prev (σ.cur.out ++ parent.out) (σ.cur.ops ++ parent.ops) =
            .ok (.pair o v' :: parent.out, parent.ops) ∧
          printToks v' = scopeToks cur.pre cur.top ∧
          (isTypeNode v' = true ↔ s.content = .oneType) ∧ canonB v' = true := by
  obtain ⟨hrep, hgood⟩ := hinv.levels.cur_rep
  have hfs := Lvl.fs_some hbase
  have hopn : has n.op.ty T.pairStart = true := hgood.frames.ok (Frame.opn n) (by rw [hfs]; simp)
  have hparhead : ∀ e, parent.out.head? = some e → colonLu e = false := by
    intro e he
    rcases List.mem_append.1 (hpar.1 ▸ List.mem_of_mem_head? he) with h | h
    · exact hparg.topOk e (by simpa using h)
    · obtain ⟨f, hf, hef⟩ := List.mem_flatMap.1 h
      exact hparg.frames.nocolon f hf e hef
  rw [hrep.1, hrep.2, hfs]
  cases hne : s.needOperand
  · -- an operand is available: reduce everything above the open pair
    have hmd := hinv.modeO hne
    have hred : ∀ f ∈ cur.pre, f.reducible = true :=
      reducible_of_questCount_zero cur.pre _ hgood.noOpn (by rw [← hfs, ← hinv.pending, hq])
    obtain ⟨v, hrdy, hv1, hvn, hvt, _, hv4⟩ := reduce_all σ.prev [Frame.opn n] (fun f hf => by cases hf; rfl)
      cur.pre cur.top hred (hfs ▸ hinv.ready hne)
    refine ⟨v, ?_, hv1, ?_, hrdy.topCanon v rfl⟩
    · rw [hv4 o parent.out parent.ops]
      show closeLoop o σ.prev (v :: parent.out) (n :: parent.ops) = _
      rw [closeLoop_open o σ.prev _ n parent.ops hopn hm h2 (fun e he => by cases he; exact hrdy.topOk v rfl)]
      simp [hinv.prev ▸ PrevO.notStart hmd hgood]
    · rw [contentOk_iff.1 hinv.content, Lvl.content]
      cases hp : cur.pre with
      | nil => rw [hvn hp]; cases h : isTypeNode v <;> simp [h]
      | cons f fs => simp [hvt (hp ▸ List.cons_ne_nil f fs)]
  · -- an empty pair
    have hce : s.content = .empty := by
      rcases hmode with h | h
      · rw [hne] at h; cases h
      · exact h
    obtain ⟨htop, hnp, hprev⟩ := hinv.modeE hne
    have hpre := hinv.content.pre_nil hce
    have hprevtok : isPairStartTok σ.prev = true := by
      rw [hinv.prev]
      by_cases hcast : s.prevCastEnd = true
      · simp only [hcast, if_true] at hprev
        obtain ⟨m, fs', hh, _⟩ := hprev
        rw [hfs, hpre] at hh; cases hh
      · simp only [hcast, Bool.false_eq_true, if_false] at hprev
        rcases hprev with ⟨hh, _⟩ | ⟨f, fs', hh, hp⟩
        · rw [hfs, hpre] at hh; cases hh
        · rw [hfs, hpre] at hh; cases hh
          rw [hp]; exact hopn
    refine ⟨.empty, ?_, by rw [hpre, htop]; rfl, by simp [isTypeNode, hce], rfl⟩
    rw [hpre, htop]
    show closeLoop o σ.prev parent.out (n :: parent.ops) = _
    rw [closeLoop_open o σ.prev parent.out n parent.ops hopn hm h2 hparhead]
    cases parent.out <;> simp [hprevtok]

theorem attachPair_E {before : Option Tok} (out : List Expr) (ops : List OpNode)
    (h : before = none ∨ ∃ b, before = some (.op b) ∧ has b.ty T.pairEnd = false) :
    attachPair before out ops = transformLastPair out ops := by
  unfold attachPair
  split
  · rfl
  · rcases h with rfl | ⟨b, rfl, hbe⟩
    · rfl
    · simp [hbe]

theorem attachPair_O {before : Option Tok} (p f : Expr) (rest : List Expr) (ops : List OpNode)
    (h : (∃ t, before = some t ∧ ∀ o, t ≠ .op o) ∨ ∃ b, before = some (.op b) ∧ has b.ty T.pairEnd = true) :
    attachPair before (p :: f :: rest) ops = attachPair.attach (p :: f :: rest) ops := by
  unfold attachPair
  have hlen : ¬ (p :: f :: rest).length < 2 := by simp
  simp only [hlen, if_false]
  rcases h with ⟨t, rfl, hno⟩ | ⟨b, rfl, hbe⟩
  · cases t with
    | op x => exact absurd rfl (hno x)
    | _ => rfl
  · simp [hbe]

/-- the pair becomes a value of the enclosing scope: `( v )`, `{ v }`, `f ( v )` or `f [ v ]` -/
theorem attach_value {par : Lvl} {parent : Scope} {n : OpNode} {o : Op} {sc : ShScope} {before : Option Tok} {v : Expr}
    (hpar : par.Rep parent) (hparg : par.Good) (hpair : PairOk par n sc before)
    (hopn : has n.op.ty T.pairStart = true) (hm : (o.ty == shl1 n.op.ty) = true) (hvc : canonB v = true)
    (hnc : (sc.inE && has o.ty T.parentheses && isTypeNode v) = false) :
    ∃ r, attachPair before (.pair o v :: parent.out) parent.ops = .ok (r :: scopeOut par.fs none, parent.ops, false) ∧
      colonLu r = false ∧ (∀ m k, r ≠ .vtype m k) ∧ canonB r = true ∧ rootPrec r = 0 ∧
      printToks r = topToks par.top ++ Tok.op n.op :: printToks v ++ [Tok.op o] := by
  obtain ⟨-, hkind, ⟨hptop, -⟩, hbefore, -, -⟩ := hpair
  rw [hpar.1]
  cases hE : sc.inE <;> simp only [hE, if_true, Bool.false_eq_true, if_false] at hkind hptop hbefore
  · -- after an operand: call or subscript
    obtain ⟨f, hf⟩ := Option.isSome_iff_exists.mp hptop
    obtain ⟨fc1, fc2⟩ := hparg.topCanon f hf
    rw [hf, scopeOut_some, attachPair_O _ _ _ _ hbefore]
    rcases pair_match n.op o hopn hm with ⟨ha, rfl⟩ | ⟨ha, rfl⟩ | ⟨ha, rfl⟩ | ⟨ha, rfl⟩
    · exact ⟨.call f v, by simp [attachPair.attach, paren_kinds], rfl, nofun, by simp [canonB, fc1, fc2, hvc], rfl,
        by rw [ha]; simp [topToks, printToks]⟩
    · rw [ha] at hkind; exact absurd hkind (by decide)
    · exact ⟨.sub f v, by simp [attachPair.attach, paren_kinds], rfl, nofun, by simp [canonB, fc1, fc2, hvc], rfl,
        by rw [ha]; simp [topToks, printToks]⟩
    · rw [ha] at hkind; exact absurd hkind (by decide)
  · -- operand position: parentheses or tuple
    rw [hptop, attachPair_E _ _ hbefore]
    rcases pair_match n.op o hopn hm with ⟨ha, rfl⟩ | ⟨ha, rfl⟩ | ⟨ha, rfl⟩ | ⟨ha, rfl⟩
    · have hty : isTypeNode v = false := by simpa [hE, paren_kinds] using hnc
      refine ⟨.paren v, ?_, rfl, nofun, by simp [canonB, hvc], rfl, by rw [ha]; simp [topToks, printToks]⟩
      cases v with
      | vtype m k => cases hty
      | _ => rfl
    · exact ⟨.tuple v, by simp [transformLastPair, paren_kinds], rfl, nofun, by simp [canonB, hvc], rfl,
        by rw [ha]; simp [topToks, printToks]⟩
    · rw [ha] at hkind; exact absurd hkind (by decide)
    · rw [ha] at hkind; exact absurd hkind (by decide)

theorem shStep_close {s s' : Sh} {o : Op} {next : Option Tok} (h2 : has o.ty T.pairEnd = true)
    (h : shStep s (.op o) next = some s') :
    ∃ sc rest cast, s.stack = sc :: rest ∧ o.ty = sc.closerTy ∧ s.pendingQ = 0 ∧
      (s.needOperand = false ∨ s.content = .empty) ∧
      cast = (sc.inE && has o.ty T.parentheses && s.content == .oneType) ∧ (cast = true → sc.castOk = true) ∧
      s' = { needOperand := cast, pendingQ := sc.savedQ, content := .other, stack := rest, prev := some (.op o),
             prevCastEnd := cast } := by
  simp only [shStep, (closer_class o h2).1, h2, Bool.false_eq_true, if_false, if_true] at h
  split at h
  · cases h
  rename_i sc rest hs
  split at h
  case isFalse => cases h
  rename_i hcond
  simp only [Bool.and_eq_true, beq_iff_eq, Bool.or_eq_true, Bool.not_eq_true'] at hcond
  refine ⟨sc, rest, _, hs, hcond.1.1, hcond.1.2, hcond.2.imp_right (by simp), rfl, ?_⟩
  split at h
  · rename_i hcast
    split at h <;> cases h
    exact ⟨fun _ => ‹_›, by rw [hcast]⟩
  · rename_i hcast
    cases h
    exact ⟨fun hc => absurd hc hcast, by rw [Bool.not_eq_true] at hcast; rw [hcast]⟩

theorem step_close {o : Op} (hinv : Inv s σ consumed cur stk) (h2 : has o.ty T.pairEnd = true)
    (hsh : shStep s (.op o) next = some s') :
    Follows σ (.op o) next s' consumed := by
  obtain ⟨sc, rest, cast, hstack, hc1, hc2, hc3, hcast, hck, rfl⟩ := shStep_close h2 hsh
  have hl := hinv.levels
  rw [hstack] at hl
  obtain ⟨par, stk', psc, pstack, n, rfl, hσstack, hgood, hbase, hpair, hlev⟩ := hl.inv_push
  obtain ⟨hparrep, hpargood⟩ := hlev.cur_rep
  have hopn : has n.op.ty T.pairStart = true := hgood.frames.ok (Frame.opn n) (by rw [Lvl.fs_some hbase]; simp)
  have hm : (o.ty == shl1 n.op.ty) = true := by rw [hc1, hpair.closer]; simp
  obtain ⟨v, hclose, hvtoks, hvty, hvcan⟩ := close_core hinv o n psc hbase hparrep hpargood h2 hm hc2 hc3
  have hstep := step_close_eq σ o next psc pstack h2 hσstack
  simp only [hclose] at hstep
  -- the tokens of the closed scope go to the enclosing one
  have htoks : ∀ par' : Lvl, par'.toks = par.toks ++ (Tok.op n.op :: printToks v ++ [Tok.op o]) →
      consumed ++ [Tok.op o] = allToks par' stk' := by
    intro par' h
    rw [hinv.toks, allToks_pop, allToks_replace par par' stk' _ h, Lvl.toks_some hbase, hvtoks]
    simp
  have hty : (s.content == .oneType) = isTypeNode v := Bool.eq_iff_iff.2 (beq_iff_eq.trans hvty.symm)
  rw [hty] at hcast
  cases cast with
  | true =>
    -- `( type )` in operand position: a cast operator is pushed
    simp only [Bool.true_eq, Bool.and_eq_true] at hcast
    obtain ⟨⟨hE, hpo⟩, hT⟩ := hcast
    obtain ⟨m, k, rfl⟩ := (isTypeNode_iff v).1 hT
    have ho : o = .parenthesesEnd ∧ n.op = .parenthesesStart := by
      rcases pair_match n.op o hopn hm with ⟨ha, rfl⟩ | ⟨ha, rfl⟩ | ⟨ha, rfl⟩ | ⟨ha, rfl⟩
      · exact ⟨rfl, ha⟩
      all_goals exact absurd hpo (by decide)
    obtain ⟨rfl, hn⟩ := ho
    have hptop : par.top = none := by simpa [hE] using hpair.parTop.1
    let cn : OpNode := { op := .parenCast, castName := m, castPtrs := k }
    have hatt : attachPair σ.cur.before (.pair .parenthesesEnd (.vtype m k) :: psc.out) psc.ops =
        .ok (psc.out, cn :: psc.ops, true) := by
      rw [attachPair_E _ _ (by simpa [hE] using hpair.before)]; rfl
    simp only [hatt] at hstep
    refine ⟨_, { par with pre := Frame.pre cn :: par.pre }, stk', hstep, ?_, htoks _ ?_, rfl, rfl, ?_, ?_, ?_⟩
    · refine hlev.replaceCur ⟨?_, ?_⟩ ⟨?_, ?_, hpargood.topOk, hpargood.topCanon⟩ rfl rfl
      · show psc.out = scopeOut (Frame.pre cn :: par.fs) par.top
        rw [hparrep.1]; simp [scopeOut, Frame.outs]
      · show cn :: psc.ops = scopeOps (Frame.pre cn :: par.fs)
        rw [hparrep.2]; rfl
      · exact hpargood.frames.cons (f := Frame.pre cn) parenCast_preOk
          (fun g hg => ⟨hpair.parTop.2 g hg, hpair.cast hE (hck rfl) g hg⟩) nofun nofun rfl
      · exact List.forall_mem_cons.2 ⟨rfl, hpargood.noOpn⟩
    · show scopeToks (Frame.pre cn :: par.fs) par.top = scopeToks par.fs par.top ++ _
      rw [hptop, scopeToks_cons, hn]
      simp [Frame.toks, pfxToks, cn, special_facts, printToks, topToks]
    · exact ⟨hptop, fun f hf => by cases hf; rfl, cn, par.fs, rfl, rfl⟩
    · exact hpair.savedQ.trans (questCount_cons rfl par.fs).symm
    · exact contentOk_iff.2 rfl
  | false =>
    -- the pair becomes a value
    obtain ⟨r, hatt, hr1, hr2, hr3, hr4, hr5⟩ :=
      attach_value hparrep hpargood hpair hopn hm hvcan hcast.symm
    simp only [hatt] at hstep
    refine ⟨_, { par with top := some r }, stk', hstep, ?_, htoks _ ?_, rfl, rfl, ?_, hpair.savedQ, ?_⟩
    · exact hlev.replaceCur ⟨(scopeOut_some par.fs r).symm, hparrep.2⟩ (hpargood.setTop hr1 hr3 hr4) rfl rfl
    · show scopeToks par.fs (some r) = scopeToks par.fs par.top ++ _
      rw [scopeToks_some, hr5, scopeToks_top par.fs par.top]; simp only [List.append_assoc]
    · exact ⟨rfl, Or.inl ⟨rfl, hpair.parTop.2⟩, Or.inl ⟨rfl, Or.inr ⟨o, rfl, h2⟩⟩⟩
    · rintro ⟨_, hh | ⟨m, k, hh⟩⟩
      · cases hh
      · exact hr2 m k (Option.some.inj hh)

end Occa.Expr
