/-
Tie (T) of the JSON models to the source: the hand-written definitions of OccaModel/Json.lean,
JsonPath.lean and Props.lean agree with the tables and shapes that translate/gen_json.py extracts from
the CURRENT json.cpp / json.tpp / primitive.hpp / primitive.cpp / lex.cpp / string.cpp / device.cpp.
If the code changes (a character dropped from the whitespace set, an escape added, keys no longer
escaped, a layer added to getObjectSpecificProps, …) the generated file changes and these theorems stop
checking, which the check reports as a broken proof obligation.
-/
import OccaGen.JsonConsts
import OccaModel.Props

namespace Occa.Json
open Occa.Gen.Json

/- The four tables are compared for an arbitrary byte, from the shape of the definitions: the two character sets by
   unfolding, the escape and unescape switches on the listed characters by evaluation and on every other byte by the
   default branch on both sides. -/

theorem isWs_eq_table (c : UInt8) : isWs c = wsChars.contains c ∧ isKeyEnd c = keyEndChars.contains c := by
  simp only [isKeyEnd, isWs, wsChars, keyEndChars, List.contains_cons, List.contains_nil, Bool.or_false,
    Bool.or_assoc]
  exact ⟨rfl, rfl⟩

/-- lex::whitespaceCharset and json::objectKeyEndChars -/
theorem gen_ws_agrees : ∀ n, n < 256 →
    isWs (UInt8.ofNat n) = wsChars.contains (UInt8.ofNat n)
      ∧ isKeyEnd (UInt8.ofNat n) = keyEndChars.contains (UInt8.ofNat n) :=
  fun _ _ => isWs_eq_table _

theorem escByte_eq_table (c : UInt8) :
    escByte c = match escapes.lookup c with | some l => [cBackslash, l] | none => [c] := by
  by_cases h : c ∈ [34, 92, 8, 12, 10, 13, 9]
  · simp only [List.mem_cons, List.not_mem_nil, or_false] at h
    rcases h with rfl | rfl | rfl | rfl | rfl | rfl | rfl <;> rfl
  · simp only [List.mem_cons, List.not_mem_nil, or_false, not_or] at h
    simp [escByte, escapes, List.lookup, cQuote, cBackslash, cBs, cFf, cNl, cCr, cTab, h, Bool.beq_eq_decide_eq]

/-- the escape switch of the dumper -/
theorem gen_escape_agrees : ∀ n, n < 256 →
    escByte (UInt8.ofNat n) =
      match escapes.lookup (UInt8.ofNat n) with
      | some l => [cBackslash, l]
      | none => [UInt8.ofNat n] :=
  fun _ _ => escByte_eq_table _

def okStr : Res Bytes → Option Bytes
  | .ok (s, _) => some s
  | .error _ => none

theorem unescape_eq_table (d : UInt8) :
    okStr (loadStr cQuote true [d, cQuote] []) =
      if d = cNl ∧ loaderSkipsEscapedNewline = true then some []
      else if d = 117 ∧ loaderKeepsUnicodeEscapes = true then none
      else match unescapes.lookup d with
        | some c => some [c]
        | none => some [d] := by
  by_cases h : d ∈ [10, 117, 98, 102, 110, 114, 116]
  · simp only [List.mem_cons, List.not_mem_nil, or_false] at h
    rcases h with rfl | rfl | rfl | rfl | rfl | rfl | rfl <;> rfl
  · simp only [List.mem_cons, List.not_mem_nil, or_false, not_or] at h
    simp [loadStr, okStr, unescapes, List.lookup, cQuote, cBackslash, cNl, h, Bool.beq_eq_decide_eq]

/-- the unescape switch of the loader: after a backslash, a listed letter gives the listed character,
    a newline is skipped, `u` starts a kept \uXXXX escape (an error here: no hex digits follow), every
    other character stands for itself -/
theorem gen_unescape_agrees : ∀ n, n < 256 →
    okStr (loadStr cQuote true [UInt8.ofNat n, cQuote] []) =
      if UInt8.ofNat n = cNl ∧ loaderSkipsEscapedNewline = true then some []
      else if UInt8.ofNat n = 117 ∧ loaderKeepsUnicodeEscapes = true then none
      else match unescapes.lookup (UInt8.ofNat n) with
        | some c => some [c]
        | none => some [UInt8.ofNat n] :=
  fun _ _ => unescape_eq_table _

/-- bit positions of primitiveType, print precisions, the `L` suffix -/
theorem gen_prim_agrees :
    [PType.none, .bool, .i8, .u8, .i16, .u16, .i32, .u32, .i64, .u64, .f32, .f64].map PType.rank = typeRanks
      ∧ floatPrecision = 8 ∧ doublePrecision = 16
      ∧ longSuffixTypes = ["int64_", "uint64_"] ∧ toStringPrefersSource = true := by
  decide

/-- the shapes the model of the repaired code relies on -/
theorem gen_shapes_agree :
    keysEscaped = true ∧ noneMemberDumpedAsBraces = true ∧ closingBraceRequired = true
      ∧ mergeTestsLiteralKey = true ∧ getPathValueEscapes = true ∧ pathAccessorsEscape = true
      ∧ setConvertsThroughAsObject = true ∧ typedAssignClearsSource = true := by
  decide

/-- the `+` chains and removals of getModeSpecificProps / getObjectSpecificProps / initialObjectProps
    are the ones modelled in OccaModel/Props.lean -/
theorem gen_layers_agree :
    modeLayers = [[], ["modes", "$M"]] ∧ modeRemoves = [["modes"]]
      ∧ objectLayers = [["$O"], ["$O", "modes", "$M"], ["modes", "$M", "$O"]]
      ∧ objectRemoves = [["$O", "modes"], ["modes"]]
      ∧ initialSettingsBelowUser = true ∧ initialSetsMode = true := by
  decide

end Occa.Json
