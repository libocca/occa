/-
The build pipeline obeys the staging discipline whatever the file system answers: a small program logic
over `Prog` (`Safe`; `Guar` is the part of it that needs no bookkeeping), a rule for every procedure of
OccaModel/BuildFS.lean (the temp names are taken in the order of their call sites, `FreshFrom`), and
`safe_buildProg`.  A program that `Safe` accepts keeps `Good`
when it runs alone (`run_good`).
-/
import OccaProofs.Lemmas.BuildFS
namespace Occa.BuildFS

/-- the paths a step writes to satisfy `P`, and a rename targets a final name -/
def touchedOK (P : Path → Prop) : Op → Prop
  | .creat p => P p
  | .append p _ => P p
  | .close p => P p
  | .rename a b => P a ∧ b.tmp = none
  | .exec _ outs => ∀ x ∈ outs, P x
  | _ => True

theorem touchedOK_outs {P : Path → Prop} {o : Op} (h : touchedOK P o) : ∀ x ∈ execOutsOf o, P x := by
  cases o with
  | exec _ outs => exact h
  | _ => exact fun _ hx => (List.not_mem_nil hx).elim

/-- all traces of the program from discipline state `st` are accepted, every name it writes to satisfies `P`
    (a rename goes to a final name), it does an `rmrf` only if `Rm`, and when the program returns `a` in state
    `st'` then `Q a st'`.  `P` and `Rm` ride along so that the one walk through the build (`safe_buildProg`)
    also yields what each of its steps guarantees to the other processes (`safe_guar`). -/
def Safe (S : Spec) (pid : Nat) (P : Path → Prop) (Rm : Prop) {α : Type} : Prog α → AS → (α → AS → Prop) → Prop
  | .ret a, st, Q => Q a st
  | .fail, _, _ => True
  | .act o k, st, Q => touchedOK P o ∧ (isRmrf o = true → Rm) ∧
      ∃ st', Accepted S st pid o st' ∧ ∀ r, Safe S pid P Rm (k r) st' Q

theorem safe_bind {S : Spec} {pid : Nat} {P : Path → Prop} {Rm : Prop} {α β : Type} {m : Prog α} {f : α → Prog β} {st : AS}
    {Q : α → AS → Prop} {R : β → AS → Prop}
    (hm : Safe S pid P Rm m st Q) (hf : ∀ a st', Q a st' → Safe S pid P Rm (f a) st' R) :
    Safe S pid P Rm (m >>= f) st R := by
  induction m generalizing st with
  | ret a => exact hf a st hm
  | fail => trivial
  | act o k ih =>
    obtain ⟨hP, hR, st', h1, h2⟩ := hm
    exact ⟨hP, hR, st', h1, fun r => ih r (h2 r)⟩

theorem safe_seq {S : Spec} {pid : Nat} {P : Path → Prop} {Rm : Prop} {α β : Type} {m : Prog α} {f : α → Prog β} {st st' : AS}
    {R : β → AS → Prop} (hm : Safe S pid P Rm m st (fun _ s => s = st')) (hf : ∀ a, Safe S pid P Rm (f a) st' R) :
    Safe S pid P Rm (m >>= f) st R :=
  safe_bind hm fun a _ h => h ▸ hf a

theorem safe_mono {S : Spec} {pid : Nat} {P : Path → Prop} {Rm : Prop} {α : Type} {m : Prog α} {st : AS} {Q R : α → AS → Prop}
    (hm : Safe S pid P Rm m st Q) (h : ∀ a st', Q a st' → R a st') : Safe S pid P Rm m st R :=
  Prog.bind_ret m ▸ safe_bind hm h

theorem safe_post {S : Spec} {pid : Nat} {P : Path → Prop} {Rm : Prop} {α : Type} {m : Prog α} {st st' : AS} {R : α → AS → Prop}
    (hm : Safe S pid P Rm m st (fun _ s => s = st')) (h : ∀ a, R a st') : Safe S pid P Rm m st R :=
  safe_mono hm fun a _ e => e ▸ h a

theorem safe_ite {S : Spec} {pid : Nat} {P : Path → Prop} {Rm : Prop} {α : Type} {b : Bool} {m m' : Prog α} {st : AS}
    {Q : α → AS → Prop} (ht : b = true → Safe S pid P Rm m st Q) (hf : b = false → Safe S pid P Rm m' st Q) :
    Safe S pid P Rm (if b = true then m else m') st Q := by
  cases b
  · exact hf rfl
  · exact ht rfl

theorem safe_trace {S : Spec} {pid : Nat} {P : Path → Prop} {Rm : Prop} {α : Type} {m : Prog α} {st : AS} {Q : α → AS → Prop}
    (hm : Safe S pid P Rm m st Q) (t : Trace) (ht : IsTrace pid m t) : (acceptsFrom S st t).isSome = true := by
  induction ht generalizing st with
  | nil m => simp [acceptsFrom]
  | act o k r t _ ih =>
    obtain ⟨_, _, st', h1, h2⟩ := hm
    simp only [acceptsFrom]
    rw [acceptStep_res S st pid o r true, acceptStep_iff.2 h1]
    exact ih (h2 r)

/-- what every step of the program guarantees, whatever the answers (no bookkeeping needed to state it) -/
def Guar (G : Op → Prop) {α : Type} : Prog α → Prop
  | .ret _ => True
  | .fail => True
  | .act o k => G o ∧ ∀ r, Guar G (k r)

theorem safe_guar {S : Spec} {pid : Nat} {P : Path → Prop} {Rm : Prop} {α : Type} {m : Prog α} {st : AS} {Q : α → AS → Prop}
    (hm : Safe S pid P Rm m st Q) : Guar (fun o => touchedOK P o ∧ (isRmrf o = true → Rm)) m := by
  induction m generalizing st with
  | ret a => trivial
  | fail => trivial
  | act o k ih =>
    obtain ⟨hP, hR, st', _, h2⟩ := hm
    exact ⟨⟨hP, hR⟩, fun r => ih r (h2 r)⟩

theorem guar_trace {G : Op → Prop} {pid : Nat} {α : Type} (m : Prog α) (hm : Guar G m) (t : Trace) (ht : IsTrace pid m t) :
    ∀ e ∈ t, G e.op := by
  induction ht with
  | nil m => intro e he; cases he
  | act o k r t _ ih =>
    intro e he
    rcases List.mem_cons.1 he with rfl | he'
    · exact hm.1
    · exact ih (hm.2 r) e he'

theorem run_good {S : Spec} {pid : Nat} (hS : S.Coherent) {P : Path → Prop} {Rm : Prop} {α : Type} {m : Prog α} {Q : α → AS → Prop}
    (hm : Safe S pid P Rm m AS.empty Q) {fs : FS} (hG : Good S fs) (hfresh : ∀ x, P x → fs.files x = none) :
    Good S (run S pid m fs).2.1 := by
  have htr := run_isTrace (S := S) (pid := pid) m fs
  rw [run_apply]
  refine prefix_good (t2 := []) hS hG ?_ ?_ <;> rw [List.append_nil]
  · exact safe_trace hm _ htr
  · exact fun e he x hx => hfresh x (touchedOK_outs (guar_trace m (safe_guar hm) _ htr e he).1 x hx)

section steps
variable {S : Spec} {pid : Nat} {P : Path → Prop} {Rm : Prop} {st : AS}

/-- the two side conditions default to `simp`: they are trivial for steps that only read -/
theorem safe_act {α : Type} {o : Op} {k : Bool → Prog α} {st' : AS} {Q : α → AS → Prop} (h : Accepted S st pid o st')
    (hk : ∀ r, Safe S pid P Rm (k r) st' Q)
    (hP : touchedOK P o := by simp [touchedOK]) (hR : isRmrf o = true → Rm := by simp [isRmrf]) :
    Safe S pid P Rm (.act o k) st Q := ⟨hP, hR, st', h, hk⟩

theorem safe_op {o : Op} {st' : AS} (h : Accepted S st pid o st')
    (hP : touchedOK P o := by simp [touchedOK]) (hR : isRmrf o = true → Rm := by simp [isRmrf]) :
    Safe S pid P Rm (op o) st (fun _ s => s = st') := safe_act h (fun _ => rfl) hP hR

theorem acc_stat {p : Path} (hp : p.tmp = none) : Accepted S st pid (.stat p) st :=
  .stat fun h => by simp [Path.isTemp, hp] at h
theorem acc_openRead {p : Path} (hp : p.tmp = none) : Accepted S st pid (.openRead p) st :=
  .openRead fun h => by simp [Path.isTemp, hp] at h
theorem acc_stat_own {p : Path} {ts : TS} (h : st p = some (pid, ts)) : Accepted S st pid (.stat p) st :=
  .stat fun _ => by simp [owned, h]
end steps

section procs
variable {S : Spec} {pid : Nat} {P : Path → Prop} {Rm : Prop}

theorem withTok_isTemp (p : Path) (tok : String) : (p.withTok tok).isTemp = true := rfl
theorem withTok_final (p : Path) (tok : String) (hp : p.tmp = none) : (p.withTok tok).final = p := by
  cases p; simp_all [Path.withTok, Path.final]
theorem withTok_dir (p : Path) (tok : String) : (p.withTok tok).dir = p.dir := rfl

theorem safe_ioExists (st : AS) {p : Path} (hp : p.tmp = none) :
    Safe S pid P Rm (ioExists p) st (fun _ s => s = st) := safe_op (acc_openRead hp)
theorem safe_isFile (st : AS) {p : Path} (hp : p.tmp = none) :
    Safe S pid P Rm (isFile p) st (fun _ s => s = st) := safe_op (acc_stat hp)

theorem safe_readFile (st : AS) {p : Path} (hp : p.tmp = none) :
    Safe S pid P Rm (readFile p) st (fun _ s => s = st) :=
  safe_act (acc_openRead hp) fun _ => safe_ite (fun _ => safe_act (acc_stat hp) fun _ => rfl) fun _ => trivial

theorem safe_mkpath (st : AS) (d : String) : Safe S pid P Rm (mkpath d) st (fun _ s => s = st) :=
  safe_act (.statDir _) fun _ => safe_ite (fun _ => rfl) fun _ => safe_act (.mkdir _) fun _ => rfl

theorem safe_sync (st : AS) {p : Path} (h : p.isTemp = true → ownedClosed st pid p = true) :
    Safe S pid P Rm (sync p) st (fun _ s => s = st) :=
  safe_act (.openRead h) fun _ => safe_act (.fsync h) fun _ => safe_act (.fsyncDir _) fun _ => rfl

theorem safe_ioWrite (st : AS) {t : Path} (c : Bytes) (ht : t.isTemp = true) (hn : st t = none) (hPt : P t) :
    Safe S pid P Rm (ioWrite t c) st (fun _ s => s = st.set t (pid, .closedW c)) := by
  unfold ioWrite
  refine safe_seq (safe_mkpath st t.dir) fun _ => ?_
  refine safe_seq (safe_op (.creat ht hn) hPt) fun _ => safe_ite (fun _ => ?_) fun _ => trivial
  have h0 : (st.set t (pid, .opened [])) t = some (pid, .opened []) := AS.set_same ..
  refine safe_bind (Q := fun _ s => s = st.set t (pid, .opened c)) (safe_ite (fun hc => ?_) fun _ => ?_) ?_
  · exact List.isEmpty_iff.1 hc ▸ rfl
  · refine safe_seq (safe_op (.append _ h0) hPt) fun _ => ?_
    show _ = _
    rw [AS.set_set, List.nil_append]
  · intro _ s hs; subst s
    have h1 : (st.set t (pid, .opened c)) t = some (pid, .opened c) := AS.set_same ..
    refine safe_seq (safe_op (.close h1) hPt) fun _ => ?_
    have h2 : ((st.set t (pid, .opened c)).set t (pid, .closedW c)) t = some (pid, .closedW c) := AS.set_same ..
    refine safe_mono (safe_sync _ fun _ => by simp [ownedClosed, h2]) ?_
    intro _ s hs; subst s
    rw [AS.set_set]

/-- the bookkeeping changed at most at the names in `T` -/
def OnlyAt (T : Path → Prop) (st st' : AS) : Prop := ∀ q, ¬ T q → st' q = st q

theorem OnlyAt.refl {T : Path → Prop} (st : AS) : OnlyAt T st st := fun _ _ => rfl
theorem OnlyAt.set (st : AS) (t : Path) (v : Nat × TS) : OnlyAt (· = t) st (st.set t v) :=
  fun _ hq => AS.set_ne _ _ _ _ hq
theorem OnlyAt.upd (st : AS) (X : Path → Prop) [DecidablePred X] (v : Nat × TS) : OnlyAt X st (st.upd X v) :=
  fun _ hq => if_neg hq
theorem OnlyAt.trans {T : Path → Prop} {a b c : AS} (h1 : OnlyAt T a b) (h2 : OnlyAt T b c) : OnlyAt T a c :=
  fun q hq => (h2 q hq).trans (h1 q hq)
theorem OnlyAt.mono {T T' : Path → Prop} {a b : AS} (h : OnlyAt T a b) (hT : ∀ q, T q → T' q) : OnlyAt T' a b :=
  fun q hq => h q fun hq' => hq (hT q hq')

theorem safe_moveStaged (st : AS) {p : Path} {tok : String} (hp : p.tmp = none)
    (hm : Movable S pid st (p.withTok tok) p) (hPt : P (p.withTok tok)) :
    Safe S pid P Rm (moveStaged (p.withTok tok) p) st (fun _ s => OnlyAt (· = p.withTok tok) st s) := by
  obtain ⟨ts, hts⟩ := hm.owned
  refine safe_act (acc_stat_own hts) fun _ => safe_ite (fun _ => ?_) fun _ => OnlyAt.refl st
  refine safe_act (.rename rfl (withTok_final p tok hp) hm) (fun _ => safe_ite (fun _ => OnlyAt.set st _ _) fun _ => ?_) ⟨hPt, hp⟩
  exact safe_act (acc_stat hp) fun _ => safe_ite (fun _ => OnlyAt.set st _ _) fun _ => trivial

theorem safe_writeProducer (st : AS) (p : Path) (tok : String) (c : Bytes) (hv : S.valid p c = true)
    (hn : st (p.withTok tok) = none) (hPt : P (p.withTok tok)) :
    Safe S pid P Rm (writeProducer c (p.withTok tok)) st
      (fun ok s => OnlyAt (· = p.withTok tok) st s ∧ (ok = true → Movable S pid s (p.withTok tok) p)) := by
  unfold writeProducer
  refine safe_seq (safe_ioWrite st c (withTok_isTemp p tok) hn hPt) fun _ => ?_
  exact ⟨OnlyAt.set st _ _, fun _ => Or.inl ⟨c, AS.set_same .., hv⟩⟩

/-- no temp name with a token of call site `n` or later has been used -/
def FreshFrom (c : Config) (st : AS) (n : Nat) : Prop := ∀ q i, q.tmp = some (c.toks i) → n ≤ i → st q = none

theorem FreshFrom.empty (c : Config) (n : Nat) : FreshFrom c AS.empty n := fun _ _ _ _ => rfl

theorem FreshFrom.mono {c : Config} {st : AS} {n m : Nat} (h : FreshFrom c st n) (hnm : n ≤ m) : FreshFrom c st m :=
  fun q i hq hi => h q i hq (Nat.le_trans hnm hi)

theorem FreshFrom.at {c : Config} {st : AS} {n : Nat} (h : FreshFrom c st n) (p : Path) (i : Nat) (hi : n ≤ i) :
    st (p.withTok (c.toks i)) = none := h _ i rfl hi

theorem FreshFrom.step {c : Config} (hinj : ∀ i j, c.toks i = c.toks j → i = j) {st s : AS} {n m : Nat} {T : Path → Prop}
    (hT : ∀ q, T q → ∃ i, i < m ∧ q.tmp = some (c.toks i)) (hn : n ≤ m)
    (h : FreshFrom c st n) (ho : OnlyAt T st s) : FreshFrom c s m := by
  intro q k hq hk
  rw [ho q]
  · exact h q k hq (by omega)
  · intro hq'
    obtain ⟨i, hi, hqi⟩ := hT q hq'
    have := hinj _ _ (Option.some.inj (hq ▸ hqi))
    omega

theorem withTok_ne {c : Config} (hinj : ∀ i j, c.toks i = c.toks j → i = j) (p1 p2 : Path) (i j : Nat) (h : i ≠ j) :
    p1.withTok (c.toks i) ≠ p2.withTok (c.toks j) := by
  intro e
  have : (p1.withTok (c.toks i)).tmp = (p2.withTok (c.toks j)).tmp := by rw [e]
  exact h (hinj _ _ (Option.some.inj this))

variable {c : Config}

theorem safe_stageFile (hc : CfgOK S c) (st : AS) (n : Nat) (p : Path) (skip : Bool) (prod : Path → Prog Bool)
    (hp : p.tmp = none) (hf : FreshFrom c st n)
    (hprod : st (p.withTok (c.toks n)) = none → Safe S pid (IsTok c) Rm (prod (p.withTok (c.toks n))) st
      (fun ok s => OnlyAt (· = p.withTok (c.toks n)) st s ∧ (ok = true → Movable S pid s (p.withTok (c.toks n)) p))) :
    Safe S pid (IsTok c) Rm (stageFile p (c.toks n) skip prod) st (fun _ s => FreshFrom c s (n + 1)) := by
  refine safe_mono (Q := fun _ s => OnlyAt (· = p.withTok (c.toks n)) st s) ?_ fun _ _ ho =>
    hf.step hc.toks_inj (fun q (hq : q = _) => ⟨n, by omega, hq ▸ rfl⟩) (by omega) ho
  unfold stageFile
  refine safe_seq (safe_mkpath st p.dir) fun _ => ?_
  refine safe_seq (safe_isFile st hp) fun e => safe_ite (fun _ => OnlyAt.refl st) fun _ => ?_
  refine safe_bind (hprod (hf.at p n (Nat.le_refl _))) ?_
  intro ok s ⟨h1, h2⟩
  refine safe_ite (fun hok => ?_) fun _ => h1
  exact safe_mono (safe_moveStaged s hp (h2 hok) ⟨n, rfl⟩) fun _ s' h3 => h1.trans h3

theorem safe_stageWrite (hc : CfgOK S c) (st : AS) (n : Nat) (p : Path) (skip : Bool) (content : Bytes)
    (hp : p.tmp = none) (hv : S.valid p content = true) (hf : FreshFrom c st n) :
    Safe S pid (IsTok c) Rm (stageFile p (c.toks n) skip (writeProducer content)) st (fun _ s => FreshFrom c s (n + 1)) :=
  safe_stageFile hc st n p skip _ hp hf fun hn => safe_writeProducer st p _ content hv hn ⟨n, rfl⟩

theorem safe_stageFiles2 (hc : CfgOK S c) (st : AS) {n m : Nat} (hnm : n < m) (p1 p2 : Path) (skip : Bool)
    (prod : Path → Path → Prog Bool) (hp1 : p1.tmp = none) (hp2 : p2.tmp = none) (hf : FreshFrom c st n)
    (hprod : st (p1.withTok (c.toks n)) = none → st (p2.withTok (c.toks m)) = none →
      p1.withTok (c.toks n) ≠ p2.withTok (c.toks m) →
      Safe S pid (IsTok c) Rm (prod (p1.withTok (c.toks n)) (p2.withTok (c.toks m))) st
        (fun ok s => OnlyAt (fun q => q = p1.withTok (c.toks n) ∨ q = p2.withTok (c.toks m)) st s ∧
          (ok = true → Movable S pid s (p1.withTok (c.toks n)) p1 ∧ Movable S pid s (p2.withTok (c.toks m)) p2))) :
    Safe S pid (IsTok c) Rm (stageFiles2 p1 (c.toks n) p2 (c.toks m) skip prod) st (fun _ s => FreshFrom c s (m + 1)) := by
  have hne := withTok_ne hc.toks_inj p1 p2 n m (by omega)
  refine safe_mono (Q := fun _ s => OnlyAt (fun q => q = p1.withTok (c.toks n) ∨ q = p2.withTok (c.toks m)) st s) ?_ fun _ _ ho =>
    hf.step hc.toks_inj (fun q hq => hq.elim (fun h => ⟨n, by omega, h ▸ rfl⟩) (fun h => ⟨m, by omega, h ▸ rfl⟩)) (by omega) ho
  unfold stageFiles2
  refine safe_seq (safe_mkpath st p1.dir) fun _ => ?_
  refine safe_seq (safe_isFile st hp1) fun e1 => ?_
  refine safe_seq (safe_mkpath st p2.dir) fun _ => ?_
  refine safe_seq (safe_isFile st hp2) fun e2 => safe_ite (fun _ => OnlyAt.refl st) fun _ => ?_
  refine safe_bind (hprod (hf.at _ _ (Nat.le_refl _)) (hf.at _ _ (by omega)) hne) ?_
  intro ok s ⟨h1, h2⟩
  refine safe_ite (fun hok => ?_) fun _ => h1
  obtain ⟨m1, m2⟩ := h2 hok
  refine safe_bind (safe_moveStaged s hp1 m1 ⟨n, rfl⟩) ?_
  intro _ s' h3
  -- the first move leaves the second temp name as it was
  have m2' : Movable S pid s' (p2.withTok (c.toks m)) p2 := Movable.of_eq (h3 _ hne.symm) m2
  exact safe_mono (safe_moveStaged s' hp2 m2' ⟨m, rfl⟩) fun _ s'' h4 =>
    h1.trans ((h3.mono fun _ => .inl).trans (h4.mono fun _ => .inr))

theorem safe_applyDependencyHash (st : AS) : Safe S pid P Rm (applyDependencyHash c) st (fun _ s => s = st) := by
  unfold applyDependencyHash
  exact safe_seq (safe_ioExists st rfl) fun _ => safe_ite (fun _ => safe_readFile st rfl) fun _ => rfl

theorem safe_cacheFile (hc : CfgOK S c) (st : AS) (n : Nat) (dst : Path) (content : Bytes) (src : Option Path)
    (hp : dst.tmp = none) (hv : S.valid dst content = true) (hsrc : ∀ s, src = some s → s.tmp = none)
    (hf : FreshFrom c st n) :
    Safe S pid (IsTok c) Rm (cacheFile dst (c.toks n) content src) st (fun _ s => FreshFrom c s (n + 1)) := by
  unfold cacheFile
  refine safe_seq (safe_isFile st hp) fun _ => safe_ite (fun _ => hf.mono (Nat.le_succ _)) fun _ => ?_
  refine safe_seq (st' := st) ?_ fun _ => safe_stageWrite hc st n dst true content hp hv hf
  cases src with
  | none => rfl
  | some s0 => exact safe_readFile st (hsrc s0 rfl)

theorem safe_exec (st : AS) (src : Path) (outs : List Path) (hs : src.tmp = none)
    (houts : ∀ o ∈ outs, o.isTemp = true ∧ st o = none ∧ o.dir = src.dir ∧ S.recipe o.final = some src.base ∧ P o)
    (hnd : outs.Nodup) :
    Safe S pid P Rm (op (.exec src outs)) st (fun _ s => s = st.upd (· ∈ outs) (pid, .compiled)) :=
  safe_op (.exec (by simp [Path.isTemp, hs])
      (execOuts_spec.2 ⟨fun o ho => ⟨(houts o ho).1, (houts o ho).2.1, (houts o ho).2.2.1, (houts o ho).2.2.2.1⟩, hnd, rfl⟩))
    (fun o ho => (houts o ho).2.2.2.2)

theorem safe_compilerVendor (hc : CfgOK S c) (st : AS) (n : Nat) (hf : FreshFrom c st n) :
    Safe S pid (IsTok c) Rm (compilerVendor c n) st (fun _ s => FreshFrom c s (n + 4)) := by
  unfold compilerVendor
  refine safe_bind (safe_cacheFile hc st n _ c.vsrc none rfl hc.v_vsrc (by intro s h; cases h) hf) ?_
  intro _ s1 hf1
  refine safe_seq (safe_ioExists s1 rfl) fun e => ?_
  refine safe_seq (st' := s1) (safe_ite (fun _ => safe_isFile s1 rfl) fun _ => rfl) fun found =>
    safe_ite (fun _ => safe_post (safe_readFile s1 rfl) fun _ => hf1.mono (by omega)) fun _ => ?_
  refine safe_bind (Q := fun _ s => FreshFrom c s (n + 3)) (safe_stageFiles2 hc s1 (m := n + 2) (Nat.lt_succ_self _)
    (c.v "binary") (c.v "build.log") true _ rfl rfl hf1 fun hn1 hn2 hne => ?_) ?_
  · refine safe_seq (safe_exec s1 (c.v "findCompilerVendor.cpp") [_, _] rfl (List.forall_mem_cons.2
      ⟨⟨rfl, hn1, rfl, hc.r_vbin, _, rfl⟩, List.forall_mem_singleton.2 ⟨rfl, hn2, rfl, hc.r_vlog, _, rfl⟩⟩)
      (List.pairwise_pair.2 hne)) fun _ => ?_
    refine safe_seq (safe_op (acc_stat_own (AS.upd_mem (List.mem_cons_self ..)))) fun _ => safe_ite (fun _ => ?_) fun _ => trivial
    exact ⟨(OnlyAt.upd _ _ _).mono fun _ h => (List.mem_cons.1 h).imp_right List.mem_singleton.1,
      fun _ => ⟨.inr (AS.upd_mem (List.mem_cons_self ..)), .inr (AS.upd_mem (.tail _ (.head _)))⟩⟩
  · intro _ s2 hf2
    refine safe_seq (safe_op (.run rfl)) fun _ => ?_
    exact safe_stageWrite hc s2 (n + 3) _ false c.vout rfl hc.v_vout hf2

theorem safe_ompCompilerFlag (hc : CfgOK S c) (st : AS) (n : Nat) (hf : FreshFrom c st n) :
    Safe S pid (IsTok c) Rm (ompCompilerFlag c n) st (fun _ s => FreshFrom c s (n + 3)) := by
  unfold ompCompilerFlag
  refine safe_bind (safe_cacheFile hc st n _ c.osrc none rfl hc.v_osrc (by intro s h; cases h) hf) ?_
  intro _ s1 hf1
  refine safe_bind (Q := fun _ s => FreshFrom c s (n + 3)) (safe_stageFiles2 hc s1 (m := n + 2) (Nat.lt_succ_self _)
    (c.o "binary") (c.o "output") true _ rfl rfl hf1 fun hn1 hn2 hne => ?_) ?_
  · refine safe_seq (safe_exec s1 (c.o "compilerSupportsOpenMP.cpp") [_] rfl
      (List.forall_mem_singleton.2 ⟨rfl, hn1, rfl, hc.r_obin, _, rfl⟩) (List.pairwise_singleton _ _)) fun ok => ?_
    have hn2' : (s1.upd (· ∈ [(c.o "binary").withTok (c.toks (n + 1))]) (pid, .compiled)) ((c.o "output").withTok (c.toks (n + 2))) = none := by
      rw [OnlyAt.upd _ _ _ _ fun h => hne.symm (List.mem_singleton.1 h)]; exact hn2
    refine safe_seq (safe_ioWrite _ (if ok = true then c.oout else c.ooutNA) rfl hn2' ⟨_, rfl⟩) fun _ => ?_
    refine ⟨((OnlyAt.upd _ _ _).mono fun _ h => .inl (List.mem_singleton.1 h)).trans ((OnlyAt.set _ _ _).mono fun _ => .inr),
      fun _ => ⟨Or.inr ?_, Or.inl ⟨_, AS.set_same .., ?_⟩⟩⟩
    · rw [AS.set_ne _ _ _ _ hne]; exact AS.upd_mem (List.mem_cons_self ..)
    · cases ok
      · exact hc.v_ooutNA
      · exact hc.v_oout
  · intro _ s2 hf2
    exact safe_post (safe_readFile s2 rfl) fun _ => hf2

theorem safe_loadCached (st : AS) : Safe S pid P Rm (loadCached c) st (fun _ s => s = st) := by
  unfold loadCached
  refine safe_seq (safe_isFile st rfl) fun e => ?_
  refine safe_seq (st' := st) (safe_ite (fun _ => ?_) fun _ => rfl) fun _ => ?_
  · exact safe_applyDependencyHash st
  · exact safe_seq (safe_op (acc_openRead rfl)) fun _ => safe_ite (fun _ => rfl) fun _ => trivial

theorem safe_serialBuild (hc : CfgOK S c) (st : AS) (n : Nat) (hf : FreshFrom c st n) :
    Safe S pid (IsTok c) Rm (serialBuild c n) st (fun r _ => r = false → c.parseOk = false) := by
  unfold serialBuild
  refine safe_seq (safe_isFile st rfl) fun _ =>
    safe_ite (fun _ => safe_seq (safe_loadCached st) fun _ h => nomatch h) fun _ => ?_
  refine safe_bind (safe_compilerVendor hc st n hf) ?_
  intro _ s1 hf1
  refine safe_bind (safe_cacheFile hc s1 (n + 4) _ c.raw _ rfl hc.v_raw ?_ hf1) ?_
  · intro s h
    split at h
    · cases h; rfl
    · cases h
  intro _ s2 hf2
  -- a parse failure returns `false` (`silent`) or raises
  refine safe_seq (safe_readFile s2 rfl) fun _ =>
    safe_ite (fun _ => ?_) fun hpo => safe_ite (fun _ _ => hpo) fun _ => trivial
  refine safe_bind (safe_stageWrite hc s2 (n + 5) _ true c.cpp rfl hc.v_cpp hf2) ?_
  intro _ s3 hf3
  refine safe_bind (safe_stageWrite hc s3 (n + 6) _ true c.json rfl hc.v_json hf3) ?_
  intro _ s4 hf4
  refine safe_bind (safe_stageFile hc s4 (n + 7) (c.k "binary") true _ rfl hf4 fun hn => ?_) ?_
  · refine safe_seq (safe_exec s4 (c.k c.cppBase) [_] rfl
      (List.forall_mem_singleton.2 ⟨rfl, hn, rfl, hc.r_kbin, _, rfl⟩) (List.pairwise_singleton _ _)) fun _ =>
      safe_ite (fun _ => ?_) fun _ => trivial
    exact ⟨(OnlyAt.upd _ _ _).mono fun _ => List.mem_singleton.1, fun _ => .inr (AS.upd_mem (List.mem_cons_self ..))⟩
  · intro _ s5 _
    refine safe_seq (safe_sync s5 fun h => nomatch h) fun _ => ?_
    exact safe_seq (safe_op (acc_openRead rfl)) fun _ => safe_ite (fun _ h => nomatch h) fun _ => trivial

theorem safe_buildProg (hc : CfgOK S c) :
    Safe S pid (IsTok c) (c.parseOk = false) (buildProg c) AS.empty (fun _ _ => True) := by
  unfold buildProg
  refine safe_seq (safe_applyDependencyHash AS.empty) fun _ => ?_
  refine safe_bind (Q := fun _ s => FreshFrom c s 1) (safe_ite (fun _ => ?_) fun _ => FreshFrom.empty c 1) ?_
  · refine safe_bind (safe_stageWrite hc AS.empty 0 _ true c.str rfl hc.v_str (FreshFrom.empty c 0)) ?_
    intro _ s1 hf1
    refine safe_seq (safe_readFile s1 rfl) fun _ => ?_
    exact safe_post (safe_applyDependencyHash s1) fun _ => hf1
  · intro _ s1 hf1
    refine safe_bind (Q := fun r _ => r = false → c.parseOk = false)
      (safe_ite (fun _ => ?_) fun _ => safe_serialBuild hc s1 8 (hf1.mono (by omega))) ?_
    · refine safe_bind (safe_compilerVendor hc s1 1 hf1) ?_
      intro _ s2 hf2
      refine safe_bind (safe_ompCompilerFlag hc s2 5 hf2) ?_
      intro _ s3 hf3
      exact safe_serialBuild hc s3 8 hf3
    · intro ok s hq
      refine safe_ite (fun _ => trivial) fun hok => ?_
      exact safe_bind (safe_op (.rmrf _) (by simp [touchedOK]) (fun _ => hq hok)) fun _ _ _ => trivial

end procs
end Occa.BuildFS
