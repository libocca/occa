/-
The invariant `Inv` at operation boundaries, and the rules of `InvA` (GcCreate) for the statements on handles:
constructors and destructors, `setModeX`, the temporary a creating call returns and the assignment from it, `free()`,
`dontUseRefs()`.
-/
import OccaProofs.Lemmas.GcDev
import OccaProofs.Lemmas.GcCreate

namespace Occa.Gc

-- as in GcEdit: keeps the comparison of a state with an updated state from evaluating `upd`
attribute [local irreducible] upd

theorem InvX.set_mode {s : St} {v : Var} {tgt : Option Nat} (hi : InvX E s) (hl : s.vlive v = true)
    (hvc : ∀ d, v = Var.cur d → s.alive d = true ∧ s.kind d = .dev)
    (ht : ∀ o, tgt = some o → s.alive o = true ∧ s.kind o = v.kind.obj) :
    InvX E (setMode s v tgt) ∧ Shrink s (setMode s v tgt) := by
  by_cases hsame : s.ptr v = tgt
  · have : setMode s v tgt = s := by unfold setMode; simp only [hsame, if_true]
    rw [this]
    exact ⟨hi, Shrink.refl s⟩
  · obtain ⟨hi2, hdo⟩ := hi.detach (v := v)
    cases tgt with
    | none =>
      have he : setMode s v none = (dropRef s v).setPtr v none := by
        unfold setMode; simp only [hsame, if_false]
      rw [he]
      exact ⟨hi2, hdo.shrink⟩
    | some o =>
      obtain ⟨hoa, hok⟩ := ht o rfl
      have h2a : ((dropRef s v).setPtr v none).alive o = true := hdo.keep o hoa hok hsame
      have he : setMode s v (some o)
          = (((dropRef s v).setPtr v none).setPtr v (some o)).setRing o
              (Ring.add (((dropRef s v).setPtr v none).ring o) v) := by
        rw [setPtr_setPtr]
        exact setMode_some hsame h2a
      rw [he]
      generalize (dropRef s v).setPtr v none = s2 at *
      have hvl : s2.vlive v = true := by
        rw [hdo.vlive v]
        · exact hl
        · -- a device whose `currentStream` member `v` is survives: `v` refers to a stream
          intro d hd
          obtain ⟨a, b⟩ := hvc d hd
          refine hdo.devs d a b fun hp => ?_
          have := (hi.ptr_ok v d hp id).2.1
          rw [b, hd] at this
          cases this
      exact ⟨hi2.toN.attach_core nofun id hdo.ptr hvl h2a (by rw [hdo.kind]; exact hok),
        hdo.vlive, hdo.kind, hdo.next, hdo.alive_sub⟩

/-- the invariant at operation boundaries: no handle is detached, the temporaries are gone, every
    live device has its `currentStream` member -/
structure Inv (s : St) : Prop where
  inv : InvX E s
  tmp : ∀ k, s.vlive (.tmp k) = false
  cur : ∀ d, s.alive d = true → s.kind d = .dev → s.vlive (.cur d) = true

theorem Inv.toA {s : St} (h : Inv s) : InvA s.vlive N0 s := .ofX h.inv (fun _ _ => rfl) h.cur

section
variable {L : Var → Bool} {N : Nat → Prop} {s : St}

theorem InvA.toInv (h : InvA L N0 s) (hT : ∀ k, L (.tmp k) = false) : Inv s :=
  ⟨h.toX, fun k => (h.tmp k).trans (hT k), h.cur⟩

theorem InvA.shrink {s' : St} (h : InvA L N0 s) (hi' : InvX E s') (hs : Shrink s s') :
    InvA L N0 s' :=
  .ofX hi' (fun w hw => (hs.vlive w fun d hd => absurd hd (hw d)).trans (h.live w hw))
    fun d hda hdk => (hs.vlive (.cur d) fun _ hd => by cases hd; exact hda).trans
      (h.cur d (hs.alive_sub d hda) (hs.kind ▸ hdk))

theorem setMode_null {v : Var} {o : Nat} (hp : s.ptr v = none) (hoa : s.alive o = true) :
    setMode s v (some o) = (s.setPtr v (some o)).setRing o (Ring.add (s.ring o) v) := by
  have h1 : dropRef s v = s := by
    unfold dropRef dropRefWith
    simp only [hp]
  have := setMode_some (s := s) (v := v) (o := o) (by rw [hp]; simp) (h1.symm ▸ hoa)
  rwa [h1] at this

theorem InvA.construct {v : Var} (h : InvA L N s) (hl : L v = false) (hv : ∀ d, v ≠ Var.cur d) :
    InvA (upd L v true) N (construct s v) := by
  have hp := h.toInv00.ptr_none ((h.live v hv).trans hl)
  rw [show Gc.construct s v = s.setVLive v true from setPtr_none_self _ _ hp]
  refine { h with toInv00 := h.toInv00.set_vlive hp true fun _ d hd => absurd hd (hv d), live := ?_, cur := ?_ }
  · intro w hw
    show upd s.vlive v true w = _
    rw [upd_apply, upd_apply, h.live w hw]
  · exact fun d hda hdk => (upd_other _ _ (hv d).symm).trans (h.cur d hda hdk)

/-- `setModeX(o)` of a handle that holds NULL.  If `o` was waiting for its handle, this is it (`hN`) -/
theorem InvA.attach {v : Var} {o : Nat} (h : InvA L N s) (hN : ∀ x, N x → x = o) (hp : s.ptr v = none)
    (hl : s.vlive v = true) (hoa : s.alive o = true) (hok : s.kind o = v.kind.obj) :
    InvA L N0 (setMode s v (some o)) := by
  rw [setMode_null hp hoa]
  exact .ofX (h.toInvN.attach_core hN id hp hl hoa hok) h.live h.cur

theorem InvA.temp_of {k : HKind} {o : Nat} (h : InvA L N s) (hN : ∀ x, N x → x = o) (hl : L (.tmp k) = false)
    (hoa : s.alive o = true) (hok : s.kind o = k.obj) : InvA (upd L (.tmp k) true) N0 (tempOf s k o) :=
  have h1 := h.construct hl nofun
  h1.attach hN (upd_same ..) ((h1.tmp k).trans (upd_same ..)) hoa hok

theorem tempOf_obj (s : St) (k : HKind) {o : Nat} (hoa : s.alive o = true) :
    (tempOf s k o).alive = s.alive ∧ (tempOf s k o).kind = s.kind := by
  unfold tempOf
  rw [setMode_null (s := construct s (.tmp k)) (v := .tmp k) (upd_same ..) hoa]
  simp only [St.setRing, St.setPtr, St.setVLive, construct, and_self]

theorem Inv.ptr_facts (h : Inv s) {v : Var} {o : Nat} (hp : s.ptr v = some o) :
    s.alive o = true ∧ s.kind o = v.kind.obj ∧ v ∈ s.ring o :=
  h.inv.ptr_ok v o hp id

theorem InvX.tgt_ok (hi : InvX E s) {v : Var} (o : Nat) (ho : s.ptr v = some o) :
    s.alive o = true ∧ s.kind o = v.kind.obj :=
  ⟨(hi.ptr_ok v o ho id).1, (hi.ptr_ok v o ho id).2.1⟩

theorem InvA.set_mode {v : Var} {tgt : Option Nat} (h : InvA L N0 s)
    (hl : s.vlive v = true) (hvc : ∀ d, v = Var.cur d → s.alive d = true ∧ s.kind d = .dev)
    (ht : ∀ o, tgt = some o → s.alive o = true ∧ s.kind o = v.kind.obj) : InvA L N0 (setMode s v tgt) :=
  let ⟨h1, h2⟩ := h.toX.set_mode hl hvc ht
  h.shrink h1 h2

theorem Inv.set_user (h : Inv s) {k : HKind} {i : Nat} {tgt : Option Nat}
    (hv : s.vlive (.user k i) = true) (ht : ∀ o, tgt = some o → s.alive o = true ∧ s.kind o = k.obj) :
    Inv (setMode s (.user k i) tgt) :=
  (h.toA.set_mode hv nofun ht).toInv h.tmp

theorem InvA.destruct {v : Var} (h : InvA L N0 s) (hv : ∀ d, v ≠ Var.cur d) :
    InvA (upd L v false) N0 (destruct s v) := by
  obtain ⟨hi2, hdo⟩ := h.toX.detach (v := v)
  have h2 := h.shrink hi2 hdo.shrink
  unfold Gc.destruct
  generalize (dropRef s v).setPtr v none = s2 at *
  refine .ofX (hi2.set_vlive hdo.ptr false (by intro e; cases e)) (fun w hw => ?_)
    fun d hda hdk => (upd_other _ _ (hv d).symm).trans (h2.cur d hda hdk)
  show upd s2.vlive v false w = _
  rw [upd_apply, upd_apply, h2.live w hw]

theorem InvA.assign_temp {v : Var} {k : HKind} (h : InvA L N0 s) (hk : v.kind = k)
    (hl : s.vlive v = true) (hvc : ∀ d, v = Var.cur d → s.alive d = true ∧ s.kind d = .dev) :
    InvA (upd L (.tmp k) false) N0 (assignTemp s v k) :=
  (h.set_mode (tgt := s.ptr (.tmp k)) hl hvc fun o ho => hk ▸ h.toX.tgt_ok o ho).destruct nofun

end

theorem upd_tmp_user (f : Var → Bool) (k : HKind) (b : Bool) (k' : HKind) (u : Nat) :
    upd f (.tmp k) b (.user k' u) = f (.user k' u) :=
  upd_other _ _ nofun

theorem upd_user_tmp (f : Var → Bool) (k : HKind) (u : Nat) (b : Bool) (k' : HKind) :
    upd f (.user k u) b (.tmp k') = f (.tmp k') :=
  upd_other _ _ nofun

theorem tmp_gone {f : Var → Bool} {k : HKind} (h : ∀ k', f (.tmp k') = false) (b : Bool) (k' : HKind) :
    upd (upd f (.tmp k) b) (.tmp k) false (.tmp k') = false := by
  rw [upd_upd, upd_apply, h k', ite_self]

theorem create_finish {s sL : St} {hk : HKind} {o i : Nat} (h : Inv s) (hc : InvA s.vlive (· = o) sL)
    (hoa : sL.alive o = true) (hok : sL.kind o = hk.obj) (hv : s.vlive (.user hk i) = true) :
    Inv (assignTemp (tempOf sL hk o) (.user hk i) hk) :=
  have h1 := hc.temp_of (k := hk) (fun _ e => e) (h.tmp hk) hoa hok
  (h1.assign_temp (v := .user hk i) rfl ((h1.user hk i).trans ((upd_tmp_user ..).trans hv)) nofun).toInv
    (tmp_gone h.tmp true)

theorem user_not_cur (k : HKind) (i : Nat) : ∀ d, Var.user k i = Var.cur d → (s : St) → s.alive d = true ∧ s.kind d = .dev := by
  intro d h; cases h

theorem Inv0.set_useRefs {ex : Var → Prop} {s : St} (hi : Inv0 ex s) (u : Nat → Bool) :
    Inv0 ex { s with useRefs := u } := by
  have hch : St.chGet { s with useRefs := u } = s.chGet := by funext k; cases k <;> rfl
  exact { hi with
    ch_ok := hch ▸ hi.ch_ok, ch_nodup := hch ▸ hi.ch_nodup
    inner_ok := hch ▸ hi.inner_ok, ch_par := hch ▸ hi.ch_par }

theorem InvX.set_norefs {s : St} (hi : InvX E s) (o : Nat) : InvX E (s.setUseRefs o false) := by
  refine ⟨hi.toInv0.set_useRefs _, fun x hxa hxk hxu => ?_, hi.buf_ne⟩
  have hxu' : upd s.useRefs o false x = true := hxu
  rw [upd_apply] at hxu'
  split at hxu'
  · cases hxu'
  · exact hi.ring_ne x hxa hxk hxu'

/-- `free()`: `delete modeX`; the destructor's walk over the ring has reset the calling handle already, so the final
    `modeX = NULL`, which `memoryPool::free()` lacks, changes nothing -/
theorem Inv.free_handle {s : St} (h : Inv s) (k : HKind) (i : Nat) :
    Inv (freeHandle s (.user k i))
      ∧ ∀ o, s.ptr (.user k i) = some o → DelOut s (freeHandle s (.user k i)) o := by
  cases hp : s.ptr (.user k i) with
  | none =>
    rw [show freeHandle s (.user k i) = s by unfold freeHandle; simp only [hp]]
    exact ⟨h, nofun⟩
  | some o =>
    obtain ⟨ha, hk, hr⟩ := h.ptr_facts hp
    obtain ⟨h1, h2⟩ := h.inv.del_obj k ha hk (fun _ _ x => x.elim) (fun _ _ _ x => x.elim)
    -- stated as an equation first: closing the unfolded goal case by case makes the unifier evaluate `deleteObj`
    have he : freeHandle s (.user k i) = deleteObj k s o
        ∨ freeHandle s (.user k i) = (deleteObj k s o).setPtr (.user k i) none := by
      unfold freeHandle
      simp only [hp]
      cases k <;> simp [Var.kind]
    rw [he.elim id fun e => e.trans (setPtr_none_self _ _ (h2.ptr_in _ hr))]
    exact ⟨(h.toA.shrink h1 h2.toShrink).toInv h.tmp, fun _ e => Option.some.inj e ▸ h2⟩

theorem Inv.deviceOf_spec {s : St} (h : Inv s) {o : Nat} (ha : s.alive o = true) :
    ∃ d, deviceOf s o = some d ∧ s.alive d = true ∧ s.kind d = .dev := by
  have chp : ∀ c, s.alive c = true → s.kind c ≠ .dev → s.kind c ≠ .mem →
      ∃ d, s.par c = some d ∧ s.alive d = true ∧ s.kind d = .dev := by
    intro c hc h1 h2
    obtain ⟨d, e1, e2, e3, _⟩ := h.inv.ch_par c hc h1 h2
    exact ⟨d, e1, e2, e3⟩
  cases hk : s.kind o with
  | dev => exact ⟨o, by simp only [deviceOf, hk], ha, hk⟩
  | mem =>
    obtain ⟨b, hb1, hb2⟩ := h.inv.mem_par o ha hk
    have hbk := bufpool_ne (h.inv.kids_kind hb2).2
    obtain ⟨d, e1, e2, e3⟩ := chp b (h.inv.kids_alive hb2).2 hbk.1 hbk.2
    exact ⟨d, by simp only [deviceOf, hk, hb1, e1], e2, e3⟩
  | buf | pool | ker | str =>
    obtain ⟨d, e1, e2, e3⟩ := chp o ha (by rw [hk]; decide) (by rw [hk]; decide)
    exact ⟨d, by simp only [deviceOf, hk, e1], e2, e3⟩

end Occa.Gc
