/-
Creation of backend objects.  Every creating call is `new X(...)` (`alloc`) followed by registration steps
(the owner's ring, the pool's `buffer` field, the byte count) and the temporary handle it returns.  For each
primitive step three facts are proved once: the safety part `Inv00` of the invariant is kept (it holds as
soon as the object exists, before it is registered anywhere), old objects are not disturbed (`Grow`), and
the new object is as allocated (`NewObj`).  `InvA L N s` is the invariant at a point inside an operation;
`InvA.grown` gives it, up to the references the new objects still need (`N`), from the facts about the new objects
only; the temporary handle is attached by `InvA.temp_of` (GcHandle).
-/
import OccaProofs.Lemmas.GcRef

namespace Occa.Gc

/-- no handle is detached: the invariant proper -/
abbrev E : Var → Prop := fun _ => False

-- as in GcEdit: keeps the comparison of a state with an updated state from evaluating `upd`
attribute [local irreducible] upd

/-- The invariant at a point inside an operation.  `L` says which variables and temporaries exist (a `currentStream`
    member exists with its device: `cur`); the objects `N` have just been created and have no handle (a buffer: no
    slice) yet.  At the boundaries of an operation `L` is `s.vlive` without temporaries and `N` is empty: that is `Inv`
    (GcHandle, `Inv.toA`, `InvA.toInv`).  The rules below (creation) and in GcHandle (statements on handles) say how
    `L` and `N` move with each statement. -/
structure InvA (L : Var → Bool) (N : Nat → Prop) (s : St) : Prop extends InvN E N s where
  live : ∀ v, (∀ d, v ≠ .cur d) → s.vlive v = L v
  cur : ∀ d, s.alive d = true → s.kind d = .dev → s.vlive (.cur d) = true

section
variable {L : Var → Bool} {N N' : Nat → Prop} {s : St}

theorem InvA.user (h : InvA L N s) (k : HKind) (i : Nat) : s.vlive (.user k i) = L (.user k i) := h.live _ nofun

theorem InvA.tmp (h : InvA L N s) (k : HKind) : s.vlive (.tmp k) = L (.tmp k) := h.live _ nofun

theorem InvA.ofX (hi : InvX E s) (hl : ∀ v, (∀ d, v ≠ .cur d) → s.vlive v = L v)
    (hc : ∀ d, s.alive d = true → s.kind d = .dev → s.vlive (.cur d) = true) : InvA L N0 s :=
  ⟨hi.toN, hl, hc⟩

theorem InvA.toX (h : InvA L N0 s) : InvX E s := h.toInvN.toX

theorem alloc_chGet (s : St) (K : Kind) (p : Option Nat) (sz : Nat) (k : Kind) (d : Nat) :
    (s.alloc K p sz).1.chGet k d = if d = s.next then [] else s.chGet k d := by
  cases k <;> exact upd_apply ..

theorem Inv00.ne_next {ex : Var → Prop} {s : St} (hi : Inv00 ex s) {x : Nat} (hx : s.alive x = true) :
    x ≠ s.next :=
  Nat.ne_of_lt (hi.alive_lt x hx)

theorem Inv00.ptr_none {ex : Var → Prop} {s : St} (hi : Inv00 ex s) {v : Var} (hl : s.vlive v = false) :
    s.ptr v = none := by
  cases h : s.ptr v with
  | none => rfl
  | some x => rw [hi.ptr_live v x h] at hl; cases hl

theorem Inv00.not_alive {s : St} (hi : Inv00 E s) : s.alive s.next ≠ true :=
  fun h => Nat.lt_irrefl _ (hi.alive_lt _ h)

theorem Inv00.fresh_owns {s : St} (hi : Inv00 E s) : s.kids s.next = [] ∧ ∀ k, s.chGet k s.next = [] :=
  ⟨List.eq_nil_iff_forall_not_mem.mpr fun _ hm => hi.not_alive (hi.kids_alive hm).2,
    fun _ => List.eq_nil_iff_forall_not_mem.mpr fun _ hc => hi.not_alive (hi.ch_dev hc).1⟩

theorem Inv00.fresh_not_ch {s : St} (hi : Inv00 E s) (k : Kind) (d : Nat) : s.next ∉ s.chGet k d :=
  fun hc => hi.not_alive (hi.ch_child hc).1

theorem Inv00.fresh_not_inner {s : St} (hi : Inv00 E s) : ∀ p, s.alive p = true → s.inner p ≠ some s.next :=
  fun _ hp hin => hi.not_alive (hi.inner_alive hp hin)

/-- `s'` differs from `s` only by new objects (ids from `s.next` on) and new ring entries -/
structure Grow (s s' : St) : Prop where
  alive_old : ∀ x, x < s.next → s'.alive x = s.alive x
  kind : ∀ x, x < s.next → s'.kind x = s.kind x
  par : ∀ x, x < s.next → s'.par x = s.par x
  ring : ∀ x, x < s.next → s'.ring x = s.ring x
  useRefs : ∀ x, x < s.next → s'.useRefs x = s.useRefs x
  inner : ∀ x i, x < s.next → s.inner x = some i → s'.inner x = some i
  kids : ∀ b x, x ∈ s.kids b → x ∈ s'.kids b
  ch : ∀ k d x, x ∈ s.chGet k d → x ∈ s'.chGet k d

theorem Grow.refl (s : St) : Grow s s :=
  ⟨fun _ _ => rfl, fun _ _ => rfl, fun _ _ => rfl, fun _ _ => rfl, fun _ _ => rfl, fun _ _ _ h => h,
    fun _ _ h => h, fun _ _ _ h => h⟩

theorem Grow.alloc {s : St} (hi : Inv00 E s) (K : Kind) (p : Option Nat) (sz : Nat) : Grow s (s.alloc K p sz).1 := by
  obtain ⟨f3, f4⟩ := hi.fresh_owns
  have old : ∀ {β : Type} (f : Nat → β) (b : β) {x : Nat}, x < s.next → upd f s.next b x = f x :=
    fun f b _ hx => upd_other f b (Nat.ne_of_lt hx)
  refine ⟨fun x hx => old _ _ hx, fun x hx => old _ _ hx, fun x hx => old _ _ hx, fun x hx => old _ _ hx,
    fun x hx => old _ _ hx, fun x i hx hin => (old _ _ hx).trans hin, ?_, ?_⟩
  · intro b x hx
    have hb : b ≠ s.next := by rintro rfl; rw [f3] at hx; cases hx
    show x ∈ upd s.kids s.next [] b
    rwa [upd_other _ _ hb]
  · intro k d x hx
    have hd : d ≠ s.next := by rintro rfl; rw [f4 k] at hx; cases hx
    rwa [alloc_chGet, if_neg hd]

theorem Grow.chAdd {s s1 : St} (hg : Grow s s1) (ks : Kind) (d c : Nat) :
    Grow s (s1.chSet ks d (Ring.add (s1.chGet ks d) c)) := by
  have hch : ∀ k d' x, x ∈ s.chGet k d' → x ∈ (s1.chSet ks d (Ring.add (s1.chGet ks d) c)).chGet k d' :=
    fun k d' x hx => (mem_chSet_add ..).mpr (Or.inl (hg.ch k d' x hx))
  cases ks <;> exact { hg with ch := hch }

theorem Grow.kidsAdd {s s1 : St} (hg : Grow s s1) (b m : Nat) : Grow s (s1.setKids b (Ring.add (s1.kids b) m)) :=
  { hg with kids := fun b' x hx => (mem_upd_add b' x).mpr (Or.inl (hg.kids b' x hx)) }

theorem Grow.addBytes {s s1 : St} (hg : Grow s s1) (d : Nat) (n : Int) : Grow s (s1.addBytes d n) :=
  { hg with }

theorem Grow.setVLive {s s1 : St} (hg : Grow s s1) (v : Var) (b : Bool) : Grow s (s1.setVLive v b) :=
  { hg with }

theorem Grow.setInner {s s1 : St} (hg : Grow s s1) {p : Nat} (hp : s1.inner p = none) (i : Nat) :
    Grow s { s1 with inner := upd s1.inner p (some i) } := by
  refine { hg with inner := fun x j hx hin => ?_ }
  have h1 := hg.inner x j hx hin
  have : x ≠ p := by rintro rfl; rw [hp] at h1; cases h1
  exact (upd_other _ _ this).trans h1

/-- facts about the one new object of a registration step -/
structure NewObj (s s' : St) (K : Kind) (p : Option Nat) : Prop where
  next : s'.next = s.next + 1
  vlive : s'.vlive = s.vlive
  ptr : s'.ptr = s.ptr
  alive : ∀ x, s'.alive x = if x = s.next then true else s.alive x
  kind : ∀ x, s'.kind x = if x = s.next then K else s.kind x
  par : ∀ x, s'.par x = if x = s.next then p else s.par x
  inner : ∀ x, s'.inner x = if x = s.next then none else s.inner x
  useRefs : ∀ x, s'.useRefs x = if x = s.next then true else s.useRefs x
  ring : ∀ x, s'.ring x = if x = s.next then [] else s.ring x

theorem NewObj.alloc (s : St) (K : Kind) (p : Option Nat) (sz : Nat) : NewObj s (s.alloc K p sz).1 K p :=
  ⟨rfl, rfl, rfl, fun _ => upd_apply .., fun _ => upd_apply .., fun _ => upd_apply .., fun _ => upd_apply ..,
    fun _ => upd_apply .., fun _ => upd_apply ..⟩

theorem NewObj.setKids {s s' : St} {K : Kind} {p : Option Nat} (h : NewObj s s' K p) (b : Nat) (l : List Nat) :
    NewObj s (s'.setKids b l) K p :=
  { h with }

theorem NewObj.chSet {s s' : St} {K : Kind} {p : Option Nat} (h : NewObj s s' K p) (k : Kind) (d : Nat)
    (l : List Nat) : NewObj s (s'.chSet k d l) K p := by
  cases k <;> exact { h with }

section
variable {s s' : St} {K : Kind} {p : Option Nat} (hn : NewObj s s' K p)
include hn

theorem NewObj.alive_new : s'.alive s.next = true := by rw [hn.alive, if_pos rfl]
theorem NewObj.kind_new : s'.kind s.next = K := by rw [hn.kind, if_pos rfl]
theorem NewObj.par_new : s'.par s.next = p := by rw [hn.par, if_pos rfl]
theorem NewObj.alive_old {x : Nat} (hx : x ≠ s.next) : s'.alive x = s.alive x := by rw [hn.alive, if_neg hx]
theorem NewObj.kind_old {x : Nat} (hx : x ≠ s.next) : s'.kind x = s.kind x := by rw [hn.kind, if_neg hx]

theorem NewObj.only (h0 : Inv00 E s') {c : Nat} (hc : s.next ≤ c) (ha : s'.alive c = true) : c = s.next := by
  have := h0.alive_lt c ha
  rw [hn.next] at this
  exact Nat.le_antisymm (Nat.le_of_lt_succ this) hc

theorem NewObj.inner_ne {i : Nat} (h : ∀ q, s.alive q = true → s.inner q ≠ some i) :
    ∀ q, s'.alive q = true → s'.inner q ≠ some i := by
  intro q hq hin
  rw [hn.inner] at hin
  obtain ⟨e, hin⟩ := Option.ite_none_left_eq_some.mp hin
  exact h q ((hn.alive_old e).symm.trans hq) hin

end

theorem Inv00.alloc_only {s : St} (hi : Inv00 E s) (K : Kind) (p : Option Nat) (sz : Nat) :
    Inv00 E (s.alloc K p sz).1 := by
  have hn := NewObj.alloc s K p sz
  have hkids : ∀ x, (s.alloc K p sz).1.kids x = if x = s.next then [] else s.kids x := fun _ => upd_apply ..
  -- the objects the old invariant speaks of are alive, so none of them is `s.next`
  have old : ∀ {x}, s.alive x = true → ¬ x = s.next := hi.ne_next
  constructor
  · exact hi.notrap
  · intro o ho
    rw [hn.alive] at ho
    rw [hn.next]
    split at ho
    · rename_i e; rw [e]; exact Nat.lt_succ_self _
    · exact Nat.lt_succ_of_lt (hi.alive_lt o ho)
  · intro o
    rw [hn.next, hn.alive, show (s.alloc K p sz).1.dtors o = _ from upd_apply ..]
    by_cases h : o = s.next
    · subst h; simp
    · have : o < s.next + 1 ↔ o < s.next :=
        ⟨fun h' => Nat.lt_of_le_of_ne (Nat.le_of_lt_succ h') h, Nat.lt_succ_of_lt⟩
      rw [if_neg h, if_neg h, hi.dtors_eq o]
      simp only [this]
  · intro v o hv hex
    have := hi.ptr_ok v o hv hex
    simp only [hn.alive, hn.kind, hn.ring, if_neg (old this.1)]
    exact this
  · exact hi.ptr_live
  · intro v o hv
    rw [hn.ring] at hv
    exact hi.ring_ptr v o (List.mem_ite_nil_left.mp hv).2
  · intro o
    rw [hn.ring]
    exact nodup_ite_nil (hi.ring_nodup o)
  · exact fun v hv => hv.elim
  · intro d hd
    rw [hn.next]
    exact Nat.lt_succ_of_lt (hi.cur_lt d hd)
  · intro b m hm
    rw [hkids] at hm
    have hm := (List.mem_ite_nil_left.mp hm).2
    simp only [hn.alive, hn.kind, hn.par, if_neg (old (hi.kids_alive hm).1), if_neg (old (hi.kids_alive hm).2)]
    exact hi.kids_ok b m hm
  · intro b
    rw [hkids]
    exact nodup_ite_nil (hi.kids_nodup b)
  · intro k d c hc
    rw [alloc_chGet] at hc
    have hc := (List.mem_ite_nil_left.mp hc).2
    simp only [hn.alive, hn.kind, hn.par, if_neg (old (hi.ch_child hc).1), if_neg (old (hi.ch_dev hc).1)]
    exact hi.ch_ok k d c hc
  · intro k d
    rw [alloc_chGet]
    exact nodup_ite_nil (hi.ch_nodup k d)
  · intro q i hqa hqi
    rw [hn.inner] at hqi
    obtain ⟨e, hqi⟩ := Option.ite_none_left_eq_some.mp hqi
    rw [hn.alive_old e] at hqa
    obtain ⟨q1, q2, q3, q4, q5, q6⟩ := hi.inner_ok q i hqa hqi
    simp only [hn.alive, hn.kind, hn.par, hkids, alloc_chGet, if_neg e, if_neg (old q2)]
    exact ⟨q1, q2, q3, q4, q5, fun k d h => q6 k d (List.mem_ite_nil_left.mp h).2⟩
  · intro q r i hqa hra hqi hri
    rw [hn.inner] at hqi hri
    obtain ⟨e1, hqi⟩ := Option.ite_none_left_eq_some.mp hqi
    obtain ⟨e2, hri⟩ := Option.ite_none_left_eq_some.mp hri
    rw [hn.alive_old e1] at hqa
    rw [hn.alive_old e2] at hra
    exact hi.inner_inj q r i hqa hra hqi hri

/-- `modeDevice->addXRef(this)` of a new child of a device -/
theorem Inv00.link_ch {s : St} (hi : Inv00 E s) {k : Kind} {c d : Nat} (hca : s.alive c = true)
    (hcp : s.par c = some d) (hda : s.alive d = true) (hdk : s.kind d = .dev)
    (hslot : slot (s.kind c) = slot k) (hc1 : s.kind c ≠ .dev) (hc2 : s.kind c ≠ .mem)
    (hnin : ∀ p, s.alive p = true → s.inner p ≠ some c) :
    Inv00 E (s.chSet k d (Ring.add (s.chGet k d) c)) := by
  refine hi.of_ch (chSet_eq ..) (fun k' d' c' hc' => ?_) (fun k' d' => ?_) fun p i hpa hin k' d' hx => ?_
  · rcases (mem_chSet_add ..).mp hc' with h | ⟨⟨h1, rfl⟩, rfl⟩
    · exact hi.ch_ok k' d' c' h
    · exact ⟨hca, hcp, hslot.trans h1.symm, hc1, hc2, hda, hdk⟩
  · exact nodup_chSet (Ring.nodup_add (hi.ch_nodup k d) c) (hi.ch_nodup k' d')
  · rcases (mem_chSet_add ..).mp hx with h | ⟨_, h⟩
    · exact hi.inner_not_ch hpa hin k' d' h
    · exact hnin p hpa (h ▸ hin)

/-- `modeBuffer->addModeMemoryRef(this)` of a new slice -/
theorem Inv00.link_kids {s : St} (hi : Inv00 E s) {b m : Nat} (hma : s.alive m = true)
    (hmk : s.kind m = .mem) (hmp : s.par m = some b) (hba : s.alive b = true)
    (hbk : s.kind b = .buf ∨ s.kind b = .pool) (hnin : ∀ p, s.alive p = true → s.inner p ≠ some b) :
    Inv00 E (s.setKids b (Ring.add (s.kids b) m)) := by
  refine { hi with kids_ok := ?_, kids_nodup := fun b' => nodup_upd_add b' (hi.kids_nodup b'), inner_ok := ?_ }
  · intro b' x hx
    rcases (mem_upd_add b' x).mp hx with h | ⟨rfl, rfl⟩
    · exact hi.kids_ok b' x h
    · exact ⟨hma, hmk, hmp, hba, hbk⟩
  · intro p i hpa hin
    obtain ⟨q1, q2, q3, q4, q5, q6⟩ := hi.inner_ok p i hpa hin
    exact ⟨q1, q2, q3, (upd_other _ _ fun (h : i = b) => hnin p hpa (h ▸ hin)).trans q4, q5, q6⟩

/-- `buffer = makeOwnedBuffer()` of a pool -/
theorem Inv00.link_inner {s : St} (hi : Inv00 E s) {p i : Nat} (hpk : s.kind p = .pool)
    (hia : s.alive i = true) (hik : s.kind i = .buf)
    (hikids : s.kids i = []) (hipar : s.par i = s.par p) (hich : ∀ k d, i ∉ s.chGet k d)
    (hnin : ∀ q, s.alive q = true → s.inner q ≠ some i) :
    Inv00 E { s with inner := upd s.inner p (some i) } := by
  -- the owners of `j` after the step: `p` if `j = i` (an old owner of `i` is excluded by `hnin`), else the old one
  have own : ∀ q j, s.alive q = true → upd s.inner p (some i) q = some j →
      (q = p ∧ j = i) ∨ (q ≠ p ∧ j ≠ i ∧ s.inner q = some j) := by
    intro q j hqa hqj
    rw [upd_apply] at hqj
    split at hqj
    · rename_i e; cases hqj; exact Or.inl ⟨e, rfl⟩
    · rename_i e; exact Or.inr ⟨e, fun hji => hnin q hqa (hji ▸ hqj), hqj⟩
  refine { hi with inner_ok := ?_, inner_inj := ?_ }
  · intro q j hqa hqj
    rcases own q j hqa hqj with ⟨rfl, rfl⟩ | ⟨_, _, h⟩
    · exact ⟨hpk, hia, hik, hikids, hipar, hich⟩
    · exact hi.inner_ok q j hqa h
  · intro q r j hqa hra hqj hrj
    rcases own q j hqa hqj with ⟨rfl, hj⟩ | ⟨_, hj, h1⟩
    · rcases own r j hra hrj with ⟨rfl, _⟩ | ⟨_, hj', _⟩
      · rfl
      · exact absurd hj hj'
    · rcases own r j hra hrj with ⟨_, hj'⟩ | ⟨_, _, h2⟩
      · exact absurd hj' hj
      · exact hi.inner_inj q r j hqa hra h1 h2

theorem Inv00.addBytes {s : St} (hi : Inv00 E s) (d : Nat) (n : Int) : Inv00 E (s.addBytes d n) :=
  { hi with }

/-- the owner clauses of the invariant for one object: a child of a device is in the device's ring (an inner
    buffer: is held by a live pool), a slice is in its buffer's ring of slices -/
structure Owned (s : St) (x : Nat) : Prop where
  ch_par : s.kind x ≠ .dev → s.kind x ≠ .mem →
    ∃ d, s.par x = some d ∧ s.alive d = true ∧ s.kind d = .dev
      ∧ (x ∈ s.chGet (s.kind x) d ∨ (s.kind x = .buf ∧ ∃ p, s.alive p = true ∧ s.inner p = some x))
  mem_par : s.kind x = .mem → ∃ b, s.par x = some b ∧ x ∈ s.kids b

theorem Grow.owned {s s' : St} (hg : Grow s s') (hi : Inv00 E s) {x : Nat} (hx : s.alive x = true)
    (ho : Owned s x) : Owned s' x := by
  have lt := hi.alive_lt
  have hxl := lt x hx
  constructor
  · intro hk1 hk2
    rw [hg.kind x hxl] at hk1 hk2 ⊢
    obtain ⟨d, hd1, hd2, hd3, hd4⟩ := ho.ch_par hk1 hk2
    refine ⟨d, (hg.par x hxl).trans hd1, (hg.alive_old d (lt d hd2)).trans hd2, (hg.kind d (lt d hd2)).trans hd3, ?_⟩
    rcases hd4 with h | ⟨h1, p, hp1, hp2⟩
    · exact Or.inl (hg.ch _ d x h)
    · exact Or.inr ⟨h1, p, (hg.alive_old p (lt p hp1)).trans hp1, hg.inner p x (lt p hp1) hp2⟩
  · intro hk
    rw [hg.kind x hxl] at hk
    obtain ⟨b, hb1, hb2⟩ := ho.mem_par hk
    exact ⟨b, (hg.par x hxl).trans hb1, hg.kids b x hb2⟩

/-- `new X(modeDevice, ...)` + `modeDevice->addXRef(this)` -/
theorem child_link {s : St} (hi : Inv00 E s) {K ks : Kind} {dv : Nat}
    (hK1 : K ≠ .dev) (hK2 : K ≠ .mem) (hslot : slot K = slot ks)
    (hda : s.alive dv = true) (hdk : s.kind dv = .dev) (sz : Nat) :
    let sA := (s.alloc K (some dv) sz).1
    let sL := sA.chSet ks dv (Ring.add (sA.chGet ks dv) s.next)
    Inv00 E sL ∧ Grow s sL ∧ NewObj s sL K (some dv) ∧ Owned sL s.next := by
  intro sA sL
  have hA : NewObj s sA K (some dv) := NewObj.alloc ..
  have hn : NewObj s sL K (some dv) := hA.chSet ..
  have hdn : dv ≠ s.next := hi.ne_next hda
  refine ⟨?_, (Grow.alloc hi ..).chAdd .., hn, ?_, ?_⟩
  · exact (hi.alloc_only K (some dv) sz).link_ch hA.alive_new hA.par_new ((hA.alive_old hdn).trans hda)
      ((hA.kind_old hdn).trans hdk) ((congrArg slot hA.kind_new).trans hslot) (fun h => hK1 (hA.kind_new.symm.trans h))
      (fun h => hK2 (hA.kind_new.symm.trans h))
      (hA.inner_ne (hi.fresh_not_inner))
  · refine fun _ _ => ⟨dv, hn.par_new, (hn.alive_old hdn).trans hda, (hn.kind_old hdn).trans hdk, Or.inl ?_⟩
    rw [hn.kind_new]
    exact (mem_chSet_add ..).mpr (Or.inr ⟨⟨hslot, rfl⟩, rfl⟩)
  · exact fun h => absurd (hn.kind_new.symm.trans h) hK2

/-- `new memory(modeBuffer, ...)` + `modeBuffer->addModeMemoryRef(this)` -/
theorem mem_link {s : St} (hi : Inv00 E s) {b : Nat} (hba : s.alive b = true)
    (hbk : s.kind b = .buf ∨ s.kind b = .pool) (hnin : ∀ p, s.alive p = true → s.inner p ≠ some b) (sz : Nat) :
    let sA := (s.alloc .mem (some b) sz).1
    let sL := sA.setKids b (Ring.add (sA.kids b) s.next)
    Inv00 E sL ∧ Grow s sL ∧ NewObj s sL .mem (some b) ∧ s.next ∈ sL.kids b := by
  intro sA sL
  have hn : NewObj s sA .mem (some b) := NewObj.alloc ..
  have hbn : b ≠ s.next := hi.ne_next hba
  refine ⟨?_, (Grow.alloc hi ..).kidsAdd .., hn.setKids .., ?_⟩
  · exact (hi.alloc_only .mem (some b) sz).link_kids hn.alive_new hn.kind_new hn.par_new
      ((hn.alive_old hbn).trans hba) ((hn.kind_old hbn).symm ▸ hbk) (hn.inner_ne hnin)
  · exact (mem_upd_add b s.next).mpr (Or.inr ⟨rfl, rfl⟩)

theorem NewObj.owned_mem {s s' : St} {b : Nat} (hn : NewObj s s' .mem (some b)) (hm : s.next ∈ s'.kids b) :
    Owned s' s.next :=
  ⟨fun _ h => absurd hn.kind_new h, fun _ => ⟨b, hn.par_new, hm⟩⟩

theorem Grow.held {s s' : St} (hg : Grow s s') (hi : Inv00 E s) {x : Nat} (hx : s.alive x = true)
    (h : Held E s x) : Held E s' x := by
  have lt := hi.alive_lt
  have e := lt x hx
  constructor <;> rw [hg.kind x e]
  · rw [hg.useRefs x e, hg.ring x e]
    exact fun a b => (h.1 a b).imp_right fun ⟨_, f, _⟩ => f.elim
  · intro hkb
    rcases h.2 hkb with hk | ⟨p, hp1, hp2⟩
    · obtain ⟨m, hm⟩ := List.exists_mem_of_ne_nil _ hk
      exact Or.inl (List.ne_nil_of_mem (hg.kids x m hm))
    · exact Or.inr ⟨p, (hg.alive_old p (lt p hp1)).trans hp1, hg.inner p x (lt p hp1) hp2⟩

/-- the old objects keep their owners (`Grow.owned`) and references (`Grow.held`) -/
theorem InvA.grown {s' : St} (h : InvA L N s) (hg : Grow s s') (h00 : Inv00 E s')
    (hnew : ∀ x, s.next ≤ x → s'.alive x = true → Owned s' x ∧ (N' x ∨ Held E s' x))
    (hold : ∀ x, N x → s'.alive x = true → N' x ∨ Held E s' x)
    (hvl : ∀ v, (∀ d, v ≠ .cur d) → s'.vlive v = s.vlive v)
    (hcur : ∀ d, s'.alive d = true → s'.kind d = .dev → s'.vlive (.cur d) = true) : InvA L N' s' := by
  have old_or : ∀ x, x < s.next ∨ s.next ≤ x := fun x => Nat.lt_or_ge x s.next
  have back : ∀ {x}, x < s.next → s'.alive x = true → s.alive x = true :=
    fun e ha => (hg.alive_old _ e).symm.trans ha
  have own : ∀ x, s'.alive x = true → Owned s' x := fun x hx =>
    (old_or x).elim (fun e => hg.owned h.toInv00 (back e hx) ⟨h.ch_par x (back e hx), h.mem_par x (back e hx)⟩)
      (fun e => (hnew x e hx).1)
  refine ⟨⟨⟨h00, fun x hx => (own x hx).ch_par, fun x hx => (own x hx).mem_par⟩, fun x hxN hxa => ?_⟩,
    fun v hv => (hvl v hv).trans (h.live v hv), hcur⟩
  rcases old_or x with e | e
  · by_cases n : N x
    · exact (hold x n hxa).resolve_left hxN
    · exact hg.held h.toInv00 (back e hxa) (h.held x n (back e hxa))
  · exact (hnew x e hxa).2.resolve_left hxN

theorem InvA.grown_nodev {s' : St} (h : InvA L N s) (hg : Grow s s') (h00 : Inv00 E s')
    (hnew : ∀ x, s.next ≤ x → s'.alive x = true → Owned s' x ∧ (N' x ∨ Held E s' x) ∧ s'.kind x ≠ .dev)
    (hold : ∀ x, N x → s'.alive x = true → N' x ∨ Held E s' x)
    (hvl : s'.vlive = s.vlive) : InvA L N' s' :=
  h.grown hg h00 (fun x hx hxa => ⟨(hnew x hx hxa).1, (hnew x hx hxa).2.1⟩) hold
    (fun _ _ => by rw [hvl]) fun d hda hdk => by
      have hlt : d < s.next := Nat.lt_of_not_le fun hge => (hnew d hge hda).2.2 hdk
      rw [hvl]
      exact h.cur d ((hg.alive_old d hlt).symm.trans hda) ((hg.kind d hlt).symm.trans hdk)

theorem InvA.create_one {s' : St} {p : Option Nat} {K : Kind} (h : InvA L N s) (hg : Grow s s')
    (h00 : Inv00 E s') (hn : NewObj s s' K p) (ho : Owned s' s.next) (hK1 : K ≠ .dev)
    (hold : ∀ x, N x → s'.alive x = true → Held E s' x) :
    InvA L (· = s.next) s' :=
  h.grown_nodev hg h00 (fun x hx hxa => by
    obtain rfl := hn.only h00 hx hxa
    exact ⟨ho, Or.inl rfl, hn.kind_new ▸ hK1⟩) (fun x n a => Or.inr (hold x n a)) hn.vlive

theorem InvA.new_child (h : InvA L N0 s) {ks K : Kind} {dv : Nat}
    (hK1 : K ≠ .dev) (hK2 : K ≠ .mem) (hslot : slot K = slot ks)
    (hda : s.alive dv = true) (hdk : s.kind dv = .dev) (sz : Nat) :
    let sA := (s.alloc K (some dv) sz).1
    let sL := sA.chSet ks dv (Ring.add (sA.chGet ks dv) s.next)
    InvA L (· = s.next) sL ∧ NewObj s sL K (some dv) := by
  intro sA sL
  obtain ⟨hL, hg, hn, ho⟩ := child_link h.toInv00 hK1 hK2 hslot hda hdk sz
  exact ⟨h.create_one hg hL hn ho hK1 nofun, hn⟩

/-- a new slice of `b`; `b` may be a buffer that waited for its first slice -/
theorem InvA.new_mem (h : InvA L N s) {b : Nat} (hN : ∀ x, N x → x = b ∧ s.kind b = .buf) (hba : s.alive b = true)
    (hbk : s.kind b = .buf ∨ s.kind b = .pool) (hnin : ∀ p, s.alive p = true → s.inner p ≠ some b) (sz : Nat) :
    let sA := (s.alloc .mem (some b) sz).1
    let sL := sA.setKids b (Ring.add (sA.kids b) s.next)
    InvA L (· = s.next) sL ∧ NewObj s sL .mem (some b) := by
  intro sA sL
  obtain ⟨hL, hg, hn, hm⟩ := mem_link h.toInv00 hba hbk hnin sz
  refine ⟨h.create_one hg hL hn (hn.owned_mem hm) (by decide) fun x n _ => ?_, hn⟩
  obtain ⟨rfl, hkb⟩ := hN x n
  have hkb' : sL.kind x = .buf := (hn.kind_old (h.toInv00.ne_next hba)).trans hkb
  exact ⟨fun e => absurd hkb' e, fun _ => Or.inl (List.ne_nil_of_mem hm)⟩

theorem InvA.addBytes (h : InvA L N s) (d : Nat) (n : Int) : InvA L N (s.addBytes d n) :=
  { h with }

/-- `device::malloc`: a new buffer in the device's ring, then its first slice, the object returned -/
theorem InvA.new_malloc (h : InvA L N0 s) {dv : Nat} (hda : s.alive dv = true) (hdk : s.kind dv = .dev) (n : Nat) :
    let s1 := (s.alloc .buf (some dv) n).1
    let s2 := s1.chSet .buf dv (Ring.add (s1.chGet .buf dv) s.next)
    let s3 := (s2.alloc .mem (some s.next) n).1
    let s4 := s3.setKids s.next (Ring.add (s3.kids s.next) s2.next)
    let s5 := s4.addBytes dv n
    InvA L (· = s2.next) s5 ∧ s5.alive s2.next = true ∧ s5.kind s2.next = .mem := by
  intro s1 s2 s3 s4 s5
  obtain ⟨h2, n2⟩ := h.new_child (K := .buf) (ks := .buf) (by decide) (by decide) rfl hda hdk n
  obtain ⟨h4, n4⟩ := h2.new_mem (fun _ e => ⟨e, n2.kind_new⟩) n2.alive_new (Or.inl n2.kind_new)
    (n2.inner_ne (h.toInv00.fresh_not_inner)) n
  exact ⟨h4.addBytes dv n, n4.alive_new, n4.kind_new⟩

/-- `occa::newModeDevice`: the device object with its member `currentStream` -/
theorem InvA.new_dev (h : InvA L N0 s) :
    InvA L (· = s.next) (Gc.construct (s.alloc .dev none 0).1 (.cur s.next)) := by
  have hn : NewObj s (s.alloc .dev none 0).1 .dev none := NewObj.alloc ..
  have hcl : s.vlive (.cur s.next) = false :=
    Bool.eq_false_iff.mpr fun e => Nat.lt_irrefl _ (h.cur_lt s.next e)
  have hcp : (s.alloc .dev none 0).1.ptr (.cur s.next) = none := h.toInv00.ptr_none hcl
  rw [show Gc.construct _ (.cur s.next) = (s.alloc .dev none 0).1.setVLive (.cur s.next) true from
    setPtr_none_self _ _ hcp]
  have hA := h.toInv00.alloc_only .dev none 0
  have hkN : ((s.alloc .dev none 0).1.setVLive (.cur s.next) true).kind s.next = .dev := hn.kind_new
  refine h.grown ((Grow.alloc h.toInv00 ..).setVLive ..)
    (hA.set_vlive hcp true fun _ d hd => by cases hd; exact hn.next ▸ Nat.lt_succ_self s.next)
    (fun x hx hxa => by
      obtain rfl := hn.only hA hx hxa
      exact ⟨⟨fun e => absurd hkN e, fun e => kind_clash hkN e⟩, Or.inl rfl⟩) nofun
    (fun v hv => upd_other _ _ fun e => hv _ e) fun d hda hdk => ?_
  show upd s.vlive (.cur s.next) true (.cur d) = true
  rw [upd_apply]
  split
  · rfl
  · rename_i e
    have e' : d ≠ s.next := fun x => e (x ▸ rfl)
    exact h.cur d ((hn.alive_old e').symm.trans hda) ((hn.kind_old e').symm.trans hdk)

/-- the pool allocates its inner buffer (owned by the pool, in no ring of the device) -/
theorem InvA.new_inner (h : InvA L N0 s) {pl : Nat} (hpa : s.alive pl = true) (hpk : s.kind pl = .pool)
    (hpn : s.inner pl = none) :
    let sA := (s.alloc .buf (s.par pl) 0).1
    let sI : St := { sA with inner := upd sA.inner pl (some s.next) }
    InvA L N0 sI ∧ Grow s sI := by
  intro sA sI
  have hn : NewObj s sA .buf (s.par pl) := NewObj.alloc ..
  have hpln : pl ≠ s.next := h.toInv00.ne_next hpa
  have hA := h.toInv00.alloc_only .buf (s.par pl) 0
  have hI : Inv00 E sI := by
    apply hA.link_inner (p := pl) (i := s.next) ((hn.kind_old hpln).trans hpk) hn.alive_new hn.kind_new
      (upd_same ..) (by rw [hn.par_new, hn.par, if_neg hpln]) ?_ (hn.inner_ne (h.toInv00.fresh_not_inner))
    intro k d hx
    rw [alloc_chGet] at hx
    exact h.toInv00.fresh_not_ch k d (List.mem_ite_nil_left.mp hx).2
  have hg : Grow s sI :=
    (Grow.alloc h.toInv00 ..).setInner (by rw [hn.inner, if_neg hpln]; exact hpn) _
  have hplI : sI.alive pl = true ∧ sI.inner pl = some s.next := ⟨(hn.alive_old hpln).trans hpa, upd_same ..⟩
  have hkN : sI.kind s.next = .buf := hn.kind_new
  -- the inner buffer hangs off the pool's device and is held by the pool
  refine ⟨h.grown_nodev hg hI (fun x hx hxa => ?_) nofun hn.vlive, hg⟩
  obtain rfl := hn.only hA hx hxa
  obtain ⟨d, hd1, hd2, hd3, _⟩ := h.ch_par pl hpa (by rw [hpk]; decide) (by rw [hpk]; decide)
  have hdn : d ≠ s.next := h.toInv00.ne_next hd2
  exact ⟨⟨fun _ _ => ⟨d, hn.par_new.trans hd1, (hn.alive_old hdn).trans hd2, (hn.kind_old hdn).trans hd3,
    Or.inr ⟨hkN, pl, hplI⟩⟩, fun e => kind_clash hkN e⟩,
    Or.inr ⟨fun e => absurd hkN e, fun _ => Or.inr ⟨pl, hplI⟩⟩, by rw [hkN]; decide⟩

end

end Occa.Gc
