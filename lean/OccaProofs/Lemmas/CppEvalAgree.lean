/-
`eval` (OCCA's evaluation of a `#if` expression on primitives, with short-circuit && ||) computes the
value C gives (`evalC`, intmax_t / uintmax_t) on the class of expressions `S64`:
  * `~` is not applied to a bool-typed operand, `& | ^` not to two bool-typed operands (F66),
  * both arms of `?:` have the same static type (F66),
  * an `int`-typed intermediate (the promotion of bool results: `-(a<b)`, `(a<b)+(c<d)`) does not occur,
  * no shifts (their typing is C14's F20; checked by the differential run only).
-/
import OccaModel.CppEval
import OccaProofs.Lemmas.CInt

namespace Occa.Cpp

/-- the value is in the range of its type (`int`, the promotion of bool results, does not occur on the class
    `S64`: its clause only has to be small enough for `conv_i64` and `conv_ne_zero`) -/
def WF (p : PVal) : Prop :=
  match p.ty with
  | .bool => p.v = 0 ∨ p.v = 1
  | .i32 => -2 ≤ p.v ∧ p.v ≤ 2
  | .i64 => -(9223372036854775808 : Int) ≤ p.v ∧ p.v < 9223372036854775808
  | .u64 => 0 ≤ p.v ∧ p.v < (18446744073709551616 : Int)

/-- the C value an OCCA primitive stands for -/
def absV (p : PVal) : CVal := ⟨decide (p.ty = .u64), p.v⟩

/-- the arithmetic, bitwise and relational operators on two 64-bit integer operands -/
def intOp : BinOp → Bool
  | .shl | .shr | .land | .lor => false
  | _ => true

def relOp : BinOp → Bool
  | .lt | .le | .gt | .ge | .eq | .ne => true
  | _ => false

/-- static kind of an expression of the class `S64` below: true = 64-bit integer (int64_t / uint64_t), false = bool;
    outside the class `true` is also said of an `int`, e.g. `(a<b)+(c<d)` -/
def Expr.isInt : Expr → Bool
  | .lit _ _ => true
  | .boolLit _ => true
  | .un .not _ => false
  | .un _ _ => true
  | .bin op _ _ => !(relOp op || op == .land || op == .lor)
  | .tern _ a _ => a.isInt

/-- the class: unary + - ~ only on 64-bit integer operands; arithmetic, bitwise and relational operators
    with at least one 64-bit integer operand (the other one may be a bool-typed result such as `a < b` or
    `!a`); bool-typed results are otherwise consumed by ! && || ?:; no shifts; the arms of ?: of the same
    kind and signedness -/
def S64 : Expr → Bool
  | .lit _ _ => true
  | .boolLit _ => true
  | .un .not e => S64 e
  | .un _ e => S64 e && e.isInt
  | .bin op a b =>
      S64 a && S64 b && (if op == .land || op == .lor then true else intOp op && (a.isInt || b.isInt))
  | .tern c a b =>
      S64 c && S64 a && S64 b && (a.isInt == b.isInt) && (!a.isInt || (a.cUnsigned == b.cUnsigned))

/-- the OCCA type that the static C type of `e` predicts for its value -/
def Expr.pty (e : Expr) : PTy :=
  if e.isInt then (if e.cUnsigned then .u64 else .i64) else .bool

theorem sFits_iff (x : Int) : sFits x = true ↔ (-(9223372036854775808 : Int) ≤ x ∧ x < 9223372036854775808) := by
  simp [sFits, two_pow_63]

theorem wrapS64_id (x : Int) (h : sFits x = true) : wrapS 64 x = x := by
  have := (sFits_iff x).mp h
  exact wrapS_of_lt 63 x (by omega)

theorem wrapS32_small (x : Int) (h : -4 ≤ x ∧ x ≤ 4) : wrapS 32 x = x := wrapS_of_lt 31 x (by omega)

theorem conv_i64 (p : PVal) (hw : WF p) (hs : p.ty ≠ .u64) : conv .i64 p.v = p.v := by
  obtain ⟨t, v⟩ := p
  show wrapS 64 v = v
  refine wrapS64_id v ((sFits_iff v).mpr ?_)
  cases t
  case u64 => exact absurd rfl hs
  all_goals
    simp only [WF] at hw
    omega

theorem wf_mk (t : PTy) (ht : t ≠ .i32) (z : Int) : WF (mk t z) := by
  cases t
  · simp only [mk, conv, WF]
    split
    · exact Or.inl rfl
    · exact Or.inr rfl
  · exact absurd rfl ht
  · exact wrapS_range (n := 64) (by decide) z
  · exact wrapU_lt 64 z

/-- the bitwise operators give a 64-bit two's-complement pattern read as a signed number -/
theorem toInt_fits (b : BitVec 64) : sFits b.toInt = true := by
  have h1 := BitVec.le_toInt b
  have h2 := BitVec.toInt_lt (x := b)
  exact (sFits_iff _).mpr (by omega)

/-- OCCA's result `r` is the C value `c`, held in the OCCA type `t` -/
def Good (r : EvalRes) (c : CVal) (t : PTy) : Prop :=
  ∃ p, r = .val p ∧ absV p = c ∧ WF p ∧ p.ty = t

theorem cArith_eq_val {u : Bool} {z : Int} {c : CVal} :
    cArith u z = .val c ↔ (u = false → sFits z = true) ∧ c = ⟨u, if u then wrapU 64 z else z⟩ := by
  have hv : ∀ d : CVal, CRes.val d = .val c ↔ c = d := fun d => ⟨fun h => (CRes.val.inj h).symm, fun h => h ▸ rfl⟩
  unfold cArith
  cases u
  · rw [if_neg Bool.false_ne_true]
    cases sFits z
    · rw [if_neg Bool.false_ne_true]
      exact ⟨nofun, fun h => nomatch h.1 rfl⟩
    · rw [if_pos rfl, hv]
      exact (and_iff_right fun _ => rfl).symm
  · rw [if_pos rfl, hv]
    exact (and_iff_right nofun).symm

theorem good_mk {t : PTy} (ht : t = .i64 ∨ t = .u64) {z : Int} {c : CVal}
    (h : cArith (decide (t = .u64)) z = .val c) : Good (.val (mk t z)) c t := by
  obtain ⟨hf, rfl⟩ := cArith_eq_val.mp h
  refine ⟨mk t z, rfl, ?_, wf_mk t (by rcases ht with rfl | rfl <;> decide) z, rfl⟩
  rcases ht with rfl | rfl
  · exact congrArg (CVal.mk false) (wrapS64_id z (hf rfl))
  · rfl

theorem good_bool {b : Bool} {c : CVal} (h : cInt b = .val c) : Good (.val (ofBool b)) c .bool := by
  cases h
  refine ⟨ofBool b, rfl, rfl, ?_, rfl⟩
  cases b
  · exact Or.inl rfl
  · exact Or.inr rfl

/-- where C defines the quotient OCCA's division does not trap on `INT64_MIN / -1` -/
theorem no_overflow {t : PTy} (ht : t = .i64 ∨ t = .u64) {x y : Int}
    (h : decide (t = .u64) = false → sFits (x.tdiv y) = true) :
    ((t != .u64) && decide (x = -(2 ^ (width t - 1))) && decide (y = -1)) = false := by
  rcases ht with rfl | rfl
  · have hr := (sFits_iff _).mp (h rfl)
    by_cases hx : x = -(2 ^ (width .i64 - 1)) <;> by_cases hy : y = -1 <;> simp [hx, hy]
    subst hx hy
    revert hr
    decide
  · rfl

theorem conv_ne_zero {t : PTy} {p : PVal} (hw : WF p) (hr : p.ty.rank ≤ t.rank) :
    (conv t p.v != 0) = p.truth := by
  have h : conv t p.v = 0 ↔ p.v = 0 := by
    obtain ⟨s, v⟩ := p
    cases t
    · simp only [conv]
      split <;> simp [*]
    · have : -4 ≤ v ∧ v ≤ 4 := by
        cases s <;> simp only [WF, PTy.rank] at hw hr <;> omega
      simp only [conv, wrapS32_small v this]
    · have : sFits v = true := (sFits_iff v).mpr (by cases s <;> simp only [WF, PTy.rank] at hw hr <;> omega)
      simp only [conv, wrapS64_id v this]
    · have : -(9223372036854775808 : Int) ≤ v ∧ v < 18446744073709551616 := by
        cases s <;> simp only [WF] at hw <;> omega
      simp only [conv, wrapU, two_pow_64]
      omega
  exact Bool.eq_iff_iff.mpr (by rw [PVal.truth, bne_iff_ne, bne_iff_ne]; exact not_congr h)

theorem rank_le_max (a b : PTy) : a.rank ≤ (a.max b).rank ∧ b.rank ≤ (a.max b).rank := by
  cases a <;> cases b <;> decide

theorem logic_good (op : BinOp) (hop : op = .land ∨ op = .lor) (a b : PVal) (ha : WF a) (hb : WF b) (c : CVal)
    (hc : cBin op (absV a) (absV b) = .val c) : Good (applyBin op a b) c .bool := by
  have e1 := conv_ne_zero ha (rank_le_max a.ty b.ty).1
  have e2 := conv_ne_zero hb (rank_le_max a.ty b.ty).2
  rcases hop with rfl | rfl <;> simp only [applyBin, e1, e2] <;> exact good_bool hc

/-- `hu`, `hx`, `hy` say that C's conversion of the operands (in `cBin`) is OCCA's `conv` to the 64-bit common
    type `t`: both sides then work on the same two numbers `conv t a.v`, `conv t b.v`, and each operator is
    one of four shapes (arithmetic, division, comparison, bit pattern). -/
theorem bin_good (op : BinOp) (hop : intOp op = true) (a b : PVal) (t : PTy) (ht : t = .i64 ∨ t = .u64)
    (hm : a.ty.max b.ty = t) (hu : (decide (a.ty = .u64) || decide (b.ty = .u64)) = decide (t = .u64))
    (hx : (if decide (t = .u64) = true then wrapU 64 a.v else a.v) = conv t a.v)
    (hy : (if decide (t = .u64) = true then wrapU 64 b.v else b.v) = conv t b.v)
    (c : CVal) (hc : cBin op (absV a) (absV b) = .val c) :
    Good (applyBin op a b) c (if relOp op then .bool else t) := by
  have hp : t.promoted = t := by rcases ht with rfl | rfl <;> rfl
  have hb : ¬t = .bool := by rcases ht with rfl | rfl <;> decide
  unfold applyBin
  unfold cBin at hc
  simp only [absV, hm, hu, hx, hy, hp] at hc ⊢
  generalize conv t a.v = x at hc ⊢
  generalize conv t b.v = y at hc ⊢
  cases op <;> try cases hop
  all_goals dsimp only at hc ⊢
  case mul | add | sub => exact good_mk ht hc
  case lt | le | gt | ge | eq | ne => exact good_bool hc
  case band | bor | bxor =>
    rw [if_neg hb]
    exact good_mk ht ((cArith_eq_val.mpr ⟨fun _ => toInt_fits _, rfl⟩).trans hc)
  case div =>
    by_cases hy0 : y = 0
    · rw [if_pos hy0] at hc
      cases hc
    · rw [if_neg hy0] at hc ⊢
      rw [no_overflow ht (cArith_eq_val.mp hc).1]
      exact good_mk ht hc
  case mod =>
    by_cases hy0 : y = 0
    · rw [if_pos hy0] at hc
      cases hc
    · rw [if_neg hy0] at hc ⊢
      cases hq : (!decide (t = .u64) && !sFits (x.tdiv y))
      · rw [hq] at hc
        rw [no_overflow ht fun hu => by simpa [hu] using hq]
        exact good_mk ht hc
      · rw [hq] at hc
        cases hc

theorem max_64 (ta tb : PTy) (h1 : ta ≠ .i32) (h2 : tb ≠ .i32) (hab : ta ≠ .bool ∨ tb ≠ .bool) :
    (ta.max tb = .i64 ∧ ta ≠ .u64 ∧ tb ≠ .u64) ∨
    (ta.max tb = .u64 ∧ (decide (ta = .u64) || decide (tb = .u64)) = true) := by
  revert h1 h2 hab
  cases ta <;> cases tb <;> decide

/-- `bin_good` for operands as they come out of the induction: a bool-typed operand next to a 64-bit one is
    converted to int64_t, which does not change a value in range -/
theorem applyBin_good (op : BinOp) (hop : intOp op = true) (a b : PVal) (ha : WF a) (hb : WF b)
    (hta : a.ty ≠ .i32) (htb : b.ty ≠ .i32) (hab : a.ty ≠ .bool ∨ b.ty ≠ .bool) (c : CVal)
    (hc : cBin op (absV a) (absV b) = .val c) :
    Good (applyBin op a b) c
      (if relOp op then .bool else if (decide (a.ty = .u64) || decide (b.ty = .u64)) then .u64 else .i64) := by
  rcases max_64 a.ty b.ty hta htb hab with ⟨h, h1, h2⟩ | ⟨h, hu⟩
  · have hu : (decide (a.ty = .u64) || decide (b.ty = .u64)) = false := by simp [h1, h2]
    rw [hu]
    exact bin_good op hop a b .i64 (Or.inl rfl) h hu (conv_i64 a ha h1).symm (conv_i64 b hb h2).symm c hc
  · rw [hu]
    exact bin_good op hop a b .u64 (Or.inr rfl) h hu rfl rfl c hc

theorem applyUn_good (op : UnOp) (p : PVal) (hw : WF p) (hp : op = .not ∨ p.ty = .i64 ∨ p.ty = .u64) (c : CVal)
    (hc : cUn op (absV p) = .val c) : Good (.val (applyUn op p)) c (if op = .not then .bool else p.ty) := by
  cases op
  case not => exact good_bool hc
  all_goals
    have ht : p.ty = .i64 ∨ p.ty = .u64 := by simpa using hp
    have hpr : p.ty.promoted = p.ty := by rcases ht with h | h <;> rw [h] <;> rfl
    have hb : ¬p.ty = .bool := by rcases ht with h | h <;> rw [h] <;> decide
    simp only [applyUn, hpr, if_neg hb, reduceCtorEq, if_false]
  case pos =>
    refine good_mk ht (.trans ?_ hc)
    obtain ⟨t, v⟩ := p
    rcases ht with rfl | rfl
    · exact cArith_eq_val.mpr ⟨fun _ => (sFits_iff v).mpr hw, rfl⟩
    · exact cArith_eq_val.mpr ⟨nofun, congrArg (CVal.mk true) (wrapU_of_lt 64 v hw).symm⟩
  case neg => exact good_mk ht hc
  case tilde =>
    refine good_mk ht ((cArith_eq_val.mpr ⟨fun hu => (sFits_iff _).mpr ?_, rfl⟩).trans hc)
    obtain ⟨t, v⟩ := p
    rcases ht with rfl | rfl
    · exact ⟨by have := hw.2; omega, by have := hw.1; omega⟩
    · cases hu

theorem int_or_signed : ∀ (e : Expr), S64 e = true → (e.isInt || !e.cUnsigned) = true
  | .lit _ _, _ => rfl
  | .boolLit _, _ => rfl
  | .un op e, _ => by cases op <;> rfl
  | .bin op a b, _ => by cases op <;> rfl
  | .tern c a b, hs => by
      simp only [S64, Bool.and_eq_true, beq_iff_eq] at hs
      obtain ⟨⟨⟨⟨-, hsa⟩, hsb⟩, hkind⟩, -⟩ := hs
      have ha := int_or_signed a hsa
      have hb := int_or_signed b hsb
      rw [← hkind] at hb
      show (a.isInt || !(a.cUnsigned || b.cUnsigned)) = true
      revert ha hb
      cases a.isInt <;> cases a.cUnsigned <;> cases b.cUnsigned <;> decide

theorem pty_u64 {e : Expr} (hs : S64 e = true) : decide (e.pty = .u64) = e.cUnsigned := by
  have := int_or_signed e hs
  revert this
  unfold Expr.pty
  cases e.isInt <;> cases e.cUnsigned <;> decide

theorem pty_ne_i32 (e : Expr) : e.pty ≠ .i32 := by
  unfold Expr.pty
  cases e.isInt <;> cases e.cUnsigned <;> decide

theorem pty_int {e : Expr} (h : e.isInt = true) : e.pty = .i64 ∨ e.pty = .u64 := by
  unfold Expr.pty
  rw [h]
  cases e.cUnsigned
  · exact Or.inl rfl
  · exact Or.inr rfl

/-- `?:` converts the selected arm to the common type of both arms, which on `S64` is its own type -/
theorem good_tern {r : EvalRes} {c : CVal} {t : PTy} {u : Bool} (hu : decide (t = .u64) = u) (h : Good r c t) :
    Good r ⟨u, if u then wrapU 64 c.v else c.v⟩ t := by
  obtain ⟨⟨s, v⟩, rfl, rfl, hw, rfl⟩ := h
  refine ⟨_, rfl, ?_, hw, rfl⟩
  subst hu
  cases s
  case u64 => exact congrArg (CVal.mk true) (wrapU_of_lt 64 v hw).symm
  all_goals rfl

theorem CRes.of_match {r : CRes} {f : CVal → CRes} {c : CVal}
    (h : (match r with | .undef => CRes.undef | .val a => f a) = .val c) : ∃ a, r = .val a ∧ f a = .val c := by
  cases r with
  | undef => cases h
  | val a => exact ⟨a, rfl, h⟩

theorem absV_ne_zero (p : PVal) : (absV p).v ≠ 0 ↔ p.truth = true := by
  simp [PVal.truth, absV]

theorem absV_eq_zero (p : PVal) : (absV p).v = 0 ↔ p.truth = false := by
  simp [PVal.truth, absV]

theorem Good.ite {t : Prop} [Decidable t] {c1 c2 : CRes} {r1 r2 : EvalRes} {c : CVal} {ty : PTy}
    (h : (if t then c1 else c2) = .val c) (h1 : t → c1 = .val c → Good r1 c ty)
    (h2 : ¬t → c2 = .val c → Good r2 c ty) : Good (if t then r1 else r2) c ty := by
  by_cases ht : t
  · rw [if_pos ht] at h ⊢
    exact h1 ht h
  · rw [if_neg ht] at h ⊢
    exact h2 ht h

theorem pty_un {op : UnOp} {e : Expr} (h : op = .not ∨ e.isInt = true) :
    (Expr.un op e).pty = if op = .not then .bool else e.pty := by
  rcases h with rfl | hi
  · rfl
  · cases op <;> simp only [Expr.pty, Expr.isInt, Expr.cUnsigned, hi, if_true] <;> rfl

theorem pty_logic {op : BinOp} (h : op = .land ∨ op = .lor) (a b : Expr) : (Expr.bin op a b).pty = .bool := by
  rcases h with rfl | rfl <;> rfl

theorem pty_bin {op : BinOp} (hop : intOp op = true) (a b : Expr) :
    (Expr.bin op a b).pty = if relOp op then .bool else if (a.cUnsigned || b.cUnsigned) then .u64 else .i64 := by
  cases op <;> first | rfl | cases hop

theorem pty_tern {cnd a b : Expr} (hs : S64 (.tern cnd a b) = true) :
    a.pty = (Expr.tern cnd a b).pty ∧ b.pty = (Expr.tern cnd a b).pty := by
  simp only [S64, Bool.and_eq_true, beq_iff_eq, Bool.or_eq_true, Bool.not_eq_true'] at hs
  obtain ⟨⟨-, hkind⟩, hsign⟩ := hs
  have : (Expr.tern cnd a b).pty =
      if a.isInt then (if (a.cUnsigned || b.cUnsigned) then .u64 else .i64) else .bool := rfl
  rw [this]
  unfold Expr.pty
  rw [← hkind]
  revert hsign
  cases a.isInt <;> cases a.cUnsigned <;> cases b.cUnsigned <;> decide

/-- Induction over the expression.  In each case the definedness of `evalC e` gives that of the operands it
    evaluates (`CRes.of_match`), the induction hypothesis makes OCCA's operands `Good`, the operator lemma above gives
    `Good` of the result at the type computed from the operands' types, and that type is `e.pty` (`pty_*`). -/
theorem eval_agrees : ∀ (e : Expr), S64 e = true → ∀ c, evalC e = .val c → Good (eval true e) c e.pty
  | .lit u m, _, c, hc => by
      unfold evalC at hc
      unfold eval Expr.pty Expr.isInt Expr.cUnsigned
      cases hu : (u || decide (m ≥ 2 ^ 63)) <;> simp only [hu, if_true, Bool.false_eq_true, if_false] at hc ⊢
      · have : ¬ m ≥ 2 ^ 63 := fun h => by simp [h] at hu
        exact good_mk (.inl rfl) ((cArith_eq_val.mpr ⟨fun _ => (sFits_iff _).mpr ⟨by omega, by omega⟩, rfl⟩).trans hc)
      · exact good_mk (.inr rfl) hc
  | .boolLit b, _, c, hc => by
      cases hc
      cases b <;> exact good_mk (Or.inl rfl) rfl
  | .un op e, hs, c, hc => by
      have hse : S64 e = true ∧ (op = .not ∨ e.isInt = true) := by
        cases op <;> simp_all [S64]
      unfold evalC at hc
      obtain ⟨a, hce, hc⟩ := CRes.of_match hc
      obtain ⟨p, hp, rfl, hw, ht⟩ := eval_agrees e hse.1 a hce
      simp only [eval, hp]
      rw [pty_un hse.2, ← ht]
      exact applyUn_good op p hw (hse.2.imp_right fun hi => ht ▸ pty_int hi) c hc
  | .bin op a b, hs, c, hc => by
      simp only [S64, Bool.and_eq_true] at hs
      obtain ⟨⟨hsa, hsb⟩, hk⟩ := hs
      unfold evalC at hc
      obtain ⟨x, hca, hc⟩ := CRes.of_match hc
      obtain ⟨pa, hpa, rfl, hwa, hta⟩ := eval_agrees a hsa x hca
      simp only [absV_eq_zero, absV_ne_zero, Bool.decide_eq_true, Bool.decide_eq_false] at hc
      simp only [eval, hpa, Bool.true_and]
      -- both sides make the same two short-circuit tests before they look at `b`
      refine Good.ite hc (fun h hc => ?_) fun _ hc => Good.ite hc (fun h hc => ?_) fun _ hc => ?_
      · rw [pty_logic (.inl (of_decide_eq_true (Bool.and_eq_true_iff.mp h).1))]
        exact good_bool hc
      · rw [pty_logic (.inr (of_decide_eq_true (Bool.and_eq_true_iff.mp h).1))]
        exact good_bool hc
      obtain ⟨y, hcb, hc⟩ := CRes.of_match hc
      obtain ⟨pb, hpb, rfl, hwb, htb⟩ := eval_agrees b hsb y hcb
      simp only [hpb]
      by_cases hl : op = .land ∨ op = .lor
      · rw [pty_logic hl]
        exact logic_good op hl pa pb hwa hwb c hc
      · have hl' : (op == .land || op == .lor) = false := by simpa using hl
        simp only [hl', Bool.false_eq_true, if_false, Bool.and_eq_true, Bool.or_eq_true] at hk
        rw [pty_bin hk.1, ← pty_u64 hsa, ← pty_u64 hsb, ← hta, ← htb]
        refine applyBin_good op hk.1 pa pb hwa hwb (hta ▸ pty_ne_i32 a) (htb ▸ pty_ne_i32 b) ?_ c hc
        rw [hta, htb]
        refine hk.2.imp (fun h => ?_) (fun h => ?_) <;>
          rcases pty_int h with e | e <;> rw [e] <;> decide
  | .tern cnd a b, hs, c, hc => by
      have hu := pty_u64 hs
      obtain ⟨hpa, hpb⟩ := pty_tern hs
      simp only [S64, Bool.and_eq_true] at hs
      obtain ⟨⟨⟨⟨hsc, hsa⟩, hsb⟩, -⟩, -⟩ := hs
      unfold evalC at hc
      obtain ⟨x, hcc, hc⟩ := CRes.of_match hc
      obtain ⟨pc, hpc, rfl, -, -⟩ := eval_agrees cnd hsc x hcc
      -- C has one `match` around the selected arm
      obtain ⟨r, hr, hc⟩ := CRes.of_match hc
      cases hc
      simp only [eval, hpc]
      simp only [absV_ne_zero] at hr
      exact good_tern hu (Good.ite hr (fun _ h => hpa ▸ eval_agrees a hsa r h) fun _ h => hpb ▸ eval_agrees b hsb r h)

end Occa.Cpp
