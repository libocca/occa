/-
Floating literals: `primitive::load` on the text of a well-formed literal of [lex.fcon], wherever it stands in
the source, stops at its end, gives `float` exactly when the f suffix is there, and converts the text as strtod does.
The text is read twice, as in the C++: by the loops of `load`, which find its end and its type (`load_float_text`), and
by `atof`, the model of strtod with loops of its own (`takeDigits`, `atofExp`), which converts it (`atof_text`).
-/
import OccaProofs.Lemmas.PrimLit
namespace Occa.Prim.Lemmas
open Occa Occa.CExpr Occa.CxxSem Occa.Gen Occa.Prim

theorem scanDigits_float (ip fr : List Char) (dot : Bool) (hip : ∀ c ∈ ip, isDigitOf 10 c = true)
    (hfr : ∀ c ∈ fr, isDigitOf 10 c = true) (rest : List Char) (k : Nat) :
    scanDigits (ip ++ (if dot then ['.'] else []) ++ fr ++ rest) k false = scanDigits rest (k + ip.length + fr.length) dot := by
  cases dot
  · simp only [Bool.false_eq_true, if_false, List.append_nil, List.append_assoc]
    rw [scanDigits_run ip hip, scanDigits_run fr hfr]
  · simp only [if_true, List.append_assoc, List.cons_append, List.nil_append]
    rw [scanDigits_run ip hip]
    have h09 : ¬ ('0' ≤ '.' ∧ '.' ≤ '9') := by decide
    simp only [scanDigits, h09, if_false, if_true]
    rw [scanDigits_run fr hfr]

theorem takeDigits_run (ds : List Char) (hdig : ∀ c ∈ ds, isDigitOf 10 c = true) {rest L : List Char} (hr : Prim.hd rest ∈ L)
    (hL : ∀ c ∈ L, ¬ ('0' ≤ c ∧ c ≤ '9') := by decide +kernel) : takeDigits (ds ++ rest) = (ds, rest) := by
  induction ds with
  | nil =>
    cases rest with
    | nil => rfl
    | cons c t => simp [takeDigits, hL c hr]
  | cons c t ih =>
    rw [List.cons_append]
    simp only [takeDigits, (dec_step c (dec_digit (hdig c (by simp)))).1, and_self, if_true]
    rw [ih (fun x hx => hdig x (by simp [hx]))]

/-- the sign is applied in the literal's own type (a negation that overflows leaves the value as it is) -/
theorem applySign_ty (neg : Bool) (q : Ty × Int) (hq : Arith q.1) : (applySign neg q).ty = some q.1 := by
  obtain ⟨t, v⟩ := q
  unfold applySign
  split
  · simp only at hq
    cases hr : inRange t (-(cvt t ⟨t, v⟩).v) <;> rcases hq with rfl | rfl | rfl | rfl <;>
      simp [unop, Ty.promote, arithInt, Ty.signed, hr, ofHost, Prim.ofVal]
  · rfl

def FSuf (suf : List Char) : Prop := suf = [] ∨ suf = ['f'] ∨ suf = ['F']

theorem FSuf.mem {suf : List Char} (h : FSuf suf) : ∀ c ∈ suf, c ∈ ['f', 'F'] := by
  rcases h with rfl | rfl | rfl <;> simp

theorem scanSuffix_fsuf (loadRec : List Char → Prim × List Char) {suf rest : List Char} (h : FSuf suf) (hr : Term rest)
    (st : Suffix) :
    scanSuffix loadRec false (suf ++ rest) st = { st with float_ := st.float_ || !suf.isEmpty, rest := rest } := by
  have hup : upper 'f' = 'F' ∧ upper 'F' = 'F' := by decide
  rcases h with rfl | rfl | rfl <;> simp [scanSuffix, hup, scanSuffix_stop loadRec false hr.hd]

/-- the recursive `primitive::load(++c)` on the exponent `[sign] digits [f|F]` -/
theorem load_exponent (fuel : Nat) (sg : List Char) (d0 : Char) (ds suf rest : List Char)
    (hsg : sg = [] ∨ sg = ['+'] ∨ sg = ['-']) (hdig : ∀ c ∈ d0 :: ds, isDigitOf 10 c = true) (hs : FSuf suf) (hr : Term rest) :
    ∃ p, load (fuel + 1) (sg ++ (d0 :: ds ++ (suf ++ rest))) true = (p, rest) ∧
      (match p.ty with | some t => t.isFloat | none => false) = !suf.isEmpty := by
  have hlen : ∀ k, k + (d0 :: ds).length ≠ 0 := by simp
  have hnext := hd_append hs.mem hr.hd
  rw [List.cons_append, load_plain fuel sg d0 (ds ++ (suf ++ rest)) hsg (.tail _ (dec_digit (hdig d0 (by simp))))
    (fun _ => .of_hd (hd_append (fun c hc => dec_digit (hdig c (by simp [hc]))) hnext)), ← List.cons_append]
  unfold finishPlain
  simp only [scanDigits_run (d0 :: ds) hdig, scanDigits_stop hnext, scanSuffix_fsuf _ hs hr, hlen]
  by_cases hsuf : suf = []
  · subst hsuf
    simp only [List.isEmpty_nil, Bool.not_true, Bool.or_false, Bool.false_eq_true, or_self, if_false]
    refine ⟨_, rfl, ?_⟩
    rw [applySign_ty _ _ (integerLiteral_shape _ _ _ _).1]
    exact (integerLiteral_shape _ _ _ _).1.reach.notFloat
  · have hne : suf.isEmpty = false := by cases suf <;> simp_all
    simp [hne, Ty.isFloat]

def expoText : Option (Char × List Char × List Char) → List Char
  | none => []
  | some (e, s, d) => e :: (s ++ d)

def ExpoOk (expo : Option (Char × List Char × List Char)) : Prop :=
  match expo with
  | none => True
  | some (e, s, d) => (e = 'e' ∨ e = 'E') ∧ (s = [] ∨ s = ['+'] ∨ s = ['-']) ∧ d ≠ [] ∧ ∀ c ∈ d, isDigitOf 10 c = true

def expoVal (expo : Option (Char × List Char × List Char)) : Int :=
  match expo with
  | none => 0
  | some (_, s, d) => if s = ['-'] then -(Int.ofNat (digitsVal 10 d)) else Int.ofNat (digitsVal 10 d)

theorem floatLit_text (l : FloatLit) (rest : List Char) :
    l.text ++ rest = l.ipart ++ ((if l.dot then ['.'] else []) ++ (l.frac ++ (expoText l.expo ++ (l.suf ++ rest)))) := by
  unfold FloatLit.text expoText
  cases l.expo <;> simp

theorem floatLit_exp10 (l : FloatLit) : l.exp10 = expoVal l.expo - Int.ofNat l.frac.length := by
  unfold FloatLit.exp10 expoVal; cases l.expo <;> rfl

theorem floatLit_wf {l : FloatLit} (h : l.wf = true) :
    (∀ c ∈ l.ipart, isDigitOf 10 c = true) ∧ (∀ c ∈ l.frac, isDigitOf 10 c = true) ∧ (l.dot = true ∨ l.frac = []) ∧
    ¬ (l.ipart = [] ∧ l.frac = []) ∧ (l.dot = true ∨ l.expo.isSome = true) ∧ ExpoOk l.expo ∧ FSuf l.suf := by
  simp only [FloatLit.wf, Bool.and_eq_true, Bool.or_eq_true, List.all_eq_true, Bool.not_eq_true', Bool.and_eq_false_iff,
    decide_eq_true_eq] at h
  obtain ⟨⟨⟨⟨⟨⟨hip, hfr⟩, hdf⟩, hne⟩, hde⟩, hx⟩, hsuf⟩ := h
  refine ⟨hip, hfr, hdf.imp id List.isEmpty_iff.mp, fun ⟨a, b⟩ => ?_, hde, ?_, hsuf⟩
  · simp [a, b] at hne
  · cases hexpo : l.expo with
    | none => trivial
    | some x =>
      obtain ⟨e, s, d⟩ := x
      simp only [hexpo, Bool.and_eq_true, decide_eq_true_eq, Bool.not_eq_true', List.all_eq_true] at hx
      exact ⟨hx.1.1.1, hx.1.1.2, fun hd => by simp [hd] at hx, hx.2⟩

theorem expoText_hd {expo : Option (Char × List Char × List Char)} (hx : ExpoOk expo) {s L : List Char}
    (h : Prim.hd s ∈ L) : Prim.hd (expoText expo ++ s) ∈ ['e', 'E'] ++ L := by
  cases expo with
  | none => exact List.mem_append_right _ h
  | some x => rcases hx.1 with e | e <;> simp [expoText, Prim.hd, e]

theorem float_head {l : FloatLit} (hwf : l.wf = true) (rest : List Char) (hr : Term rest) :
    ∃ c t, l.text ++ rest = c :: t ∧ c ∈ '.' :: decChars ∧ (c = '0' → NotBX t) := by
  obtain ⟨hip, hfr, hdf, hne, _, hx, hs⟩ := floatLit_wf hwf
  rw [floatLit_text]
  obtain ⟨ip, dot, fr, expo, suf⟩ := l
  simp only at hip hfr hdf hne hx hs ⊢
  cases ip with
  | nil =>
    have hdot : dot = true := hdf.elim id fun h => absurd ⟨rfl, h⟩ hne
    subst hdot
    exact ⟨'.', _, rfl, List.mem_cons_self, fun h => absurd h (by decide)⟩
  | cons c0 it =>
    -- after a leading `0`: more digits, the point, the fraction, the exponent, the suffix, or what follows the literal
    exact ⟨c0, _, rfl, .tail _ (dec_digit (hip c0 (by simp))), fun _ => .of_hd
      (hd_append (fun c hc => dec_digit (hip c (by simp [hc]))) (hd_append (A := ['.']) (by cases dot <;> simp)
        (hd_append (fun c hc => dec_digit (hfr c hc)) (expoText_hd hx (hd_append hs.mem hr.hd)))))⟩

theorem atofExp_text (expo : Option (Char × List Char × List Char)) (suf : List Char) (hs : FSuf suf)
    (hx : ExpoOk expo) : atofExp (expoText expo ++ suf) = expoVal expo := by
  unfold atofExp
  cases expo with
  | none =>
    have : upper (Prim.hd suf) ≠ 'E' := (by decide +kernel : ∀ c ∈ Char.ofNat 0 :: ['f', 'F'], upper c ≠ 'E') _ (hd_mem hs.mem)
    simp [expoText, expoVal, this]
  | some x =>
    obtain ⟨e, s, d⟩ := x
    obtain ⟨he, hsg, hne, hdig⟩ := hx
    have hup : upper e = 'E' := by rcases he with rfl | rfl <;> decide
    have htd := takeDigits_run d hdig (hd_mem hs.mem)
    cases d with
    | nil => exact absurd rfl hne
    | cons d0 dt =>
      obtain ⟨_, _, hp, hm, _⟩ := lead_facts d0 (.tail _ (dec_digit (hdig d0 (by simp))))
      simp only [List.cons_append] at htd
      rcases hsg with rfl | rfl | rfl <;>
        simp [expoText, expoVal, Prim.hd, hup, htd, hp, hm]

theorem atof_text {l : FloatLit} (hwf : l.wf = true) :
    atof l.text =
      if l.mantissa < 2 ^ 53 ∧ -22 ≤ l.exp10 ∧ l.exp10 ≤ 22 then decToFloat l.mantissa l.exp10
      else if l.exp10 ≥ 0 then Float.ofNat (l.mantissa * 10 ^ l.exp10.toNat)
      else Float.ofScientific l.mantissa true (-l.exp10).toNat := by
  obtain ⟨c, t, e, hc, _⟩ := float_head hwf [] (Or.inl rfl)
  obtain ⟨_, _, hp, hm, hw⟩ := lead_facts c hc
  rw [List.append_nil] at e
  have hfirst : skipWs l.text = l.text ∧ Prim.hd l.text ≠ '-' ∧ Prim.hd l.text ≠ '+' := by
    rw [e]; exact ⟨by simp [skipWs, hw], hm, hp⟩
  obtain ⟨hip, hfr, hdf, hne, _, hx, hs⟩ := floatLit_wf hwf
  rw [floatLit_exp10, ← List.append_nil l.text, floatLit_text] at *
  obtain ⟨ip, dot, fr, expo, suf⟩ := l
  simp only [FloatLit.mantissa, List.append_nil] at *
  obtain ⟨hws, hm, hp⟩ := hfirst
  have hE := atofExp_text expo suf hs hx
  have hnext := expoText_hd hx (hd_mem hs.mem)
  have hnp : Prim.hd (expoText expo ++ suf) ≠ '.' := (by decide +kernel : ∀ c ∈ _, c ≠ '.') _ hnext
  unfold atof
  cases dot
  · -- no point: frac is empty, an exponent follows the integer part
    have hfr0 : fr = [] := by simpa using hdf
    subst hfr0
    have htd := takeDigits_run ip hip hnext
    simp only [Bool.false_eq_true, if_false, List.nil_append] at hws hm hp ⊢
    simp only [hws, hm, hp, or_self, if_false, htd, hnp, hE]
    have hip0 : ip ≠ [] := fun h => hne ⟨h, rfl⟩
    simp [hip0]
  · have htd2 := takeDigits_run fr hfr hnext
    have htd1 := takeDigits_run ip hip (rest := '.' :: (fr ++ (expoText expo ++ suf))) (L := ['.']) List.mem_cons_self
    have hdot : Prim.hd ('.' :: (fr ++ (expoText expo ++ suf))) = '.' := rfl
    have hdrop : List.drop 1 ('.' :: (fr ++ (expoText expo ++ suf))) = fr ++ (expoText expo ++ suf) := rfl
    simp only [if_true, List.cons_append, List.nil_append] at hws hm hp ⊢
    simp only [hws, hm, hp, or_self, if_false, htd1, hdot, if_true, hdrop, htd2, hE]
    simp [hne]

theorem scanSuffix_float (fuel : Nat) (expo : Option (Char × List Char × List Char)) (suf rest : List Char) (hs : FSuf suf)
    (hx : ExpoOk expo) (hr : Term rest) (dot : Bool) (r0 : List Char) :
    scanSuffix (fun t => load (fuel + 1) t true) false (expoText expo ++ (suf ++ rest)) ⟨0, false, dot, false, r0⟩ =
      ⟨0, false, dot || expo.isSome, !suf.isEmpty, rest⟩ := by
  cases expo with
  | none =>
    simp only [expoText, List.nil_append]
    rw [scanSuffix_fsuf _ hs hr]
    simp
  | some x =>
    obtain ⟨e, sg, d⟩ := x
    obtain ⟨he, hsg, hne, hdig⟩ := hx
    obtain ⟨d0, dt, rfl⟩ := List.exists_cons_of_ne_nil hne
    obtain ⟨p, hp1, hp2⟩ := load_exponent fuel sg d0 dt suf rest hsg hdig hs hr
    have hup : upper e = 'E' := by rcases he with rfl | rfl <;> decide
    simp only [expoText, List.cons_append, List.append_assoc] at hp1 ⊢
    simp [scanSuffix, hup, hp1]
    exact hp2

theorem load_float_text (fuel : Nat) {l : FloatLit} (hwf : l.wf = true) (rest : List Char) (hr : Term rest) :
    load (fuel + 2) (l.text ++ rest) true =
      (if l.suf.isEmpty then ⟨some .double, b64 (atof l.text)⟩ else ⟨some .float, b32 (atof l.text).toFloat32⟩, rest) := by
  obtain ⟨c, t, e, hc, hbx⟩ := float_head hwf rest hr
  rw [e]
  refine (load_plain (fuel + 1) [] c t (Or.inl rfl) hc hbx).trans ?_
  rw [List.nil_append, ← e]
  obtain ⟨hip, hfr, _, hne, hde, hx, hs⟩ := floatLit_wf hwf
  have htake := take_append_sub l.text rest
  generalize htxt : l.text ++ rest = txt at htake
  rw [floatLit_text] at htxt
  obtain ⟨ip, dot, fr, expo, suf⟩ := l
  simp only at *
  have hscan := (scanDigits_float ip fr dot hip hfr (expoText expo ++ (suf ++ rest)) (if Prim.hd txt = '0' then 1 else 0)).trans
    (scanDigits_stop (expoText_hd hx (hd_append hs.mem hr.hd)))
  simp only [List.append_assoc, htxt] at hscan
  have hlen : (if Prim.hd txt = '0' then 1 else 0) + ip.length + fr.length ≠ 0 := by
    intro h0
    have : ip.length = 0 ∧ fr.length = 0 := by omega
    exact hne ⟨List.length_eq_zero_iff.mp this.1, List.length_eq_zero_iff.mp this.2⟩
  have hdec : (dot || expo.isSome) = true := by rcases hde with h | h <;> simp [h]
  unfold finishPlain
  simp only [hscan, hlen, if_false, scanSuffix_float fuel expo suf rest hs hx hr, hdec, true_or, if_true, htake]
  cases suf.isEmpty <;> simp

/-- [lex.fcon] = primitive::load for every well-formed floating literal in the exactly converted subset, wherever it
    stands in the source text -/
theorem floatlit_load (l : FloatLit) (v : Val) (h : floatLitVal l = .val v) (rest : List Char) (hr : Term rest) (fuel : Nat) :
    load (fuel + 2) (l.text ++ rest) true = (Prim.ofVal v, rest) ∧ FloatTy v.ty := by
  unfold floatLitVal at h
  split at h
  case isFalse => cases h
  rename_i hwf
  split at h
  case isFalse => cases h
  rename_i hexact
  obtain ⟨hman, hlo, hhi, _⟩ := hexact
  rw [load_float_text _ hwf rest hr, atof_text hwf, if_pos (And.intro hman ⟨hlo, hhi⟩)]
  by_cases hse : l.suf = []
  · simp only [hse, if_true] at h
    unfold finite64 at h
    split at h
    · exact ⟨by rw [← Res.val.inj h, hse]; rfl, Or.inr (by rw [← Res.val.inj h])⟩
    · cases h
  · simp only [hse, if_false] at h
    have hne : l.suf.isEmpty = false := by cases hl : l.suf <;> simp_all
    unfold finite32 at h
    split at h
    · exact ⟨by rw [← Res.val.inj h, hne]; rfl, Or.inl (by rw [← Res.val.inj h])⟩
    · cases h

theorem floatlit_agree (l : FloatLit) (v : Val) (h : floatLitVal l = .val v) :
    loadTok l.text = Prim.ofVal v ∧ FloatTy v.ty := by
  have hwf : l.wf = true := by unfold floatLitVal at h; split at h <;> first | assumption | cases h
  obtain ⟨c, t, e, _⟩ := float_head hwf [] (Or.inl rfl)
  rw [List.append_nil] at e
  have hload : loadTok l.text = (load (t.length + 2) (l.text ++ []) true).1 := by unfold loadTok; rw [List.append_nil, e]; rfl
  rw [hload]
  exact (floatlit_load l v h [] (Or.inl rfl) _).imp_left (congrArg Prod.fst)

end Occa.Prim.Lemmas
