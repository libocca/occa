/-
Lemmas for C24: decimal printing and reading of integers
(`primitive::toString` followed by `primitive::load` for every integer type int8 … uint64; `true` / `false` are read
by `json::load` itself).
-/
import OccaModel.Json
import OccaProofs.Lemmas.JsonStr
import OccaProofs.Lemmas.CInt

namespace Occa.Json

theorem digit_facts : ∀ k, k < 10 →
    isDigit (48 + k.toUInt8) = true ∧ (48 + k.toUInt8).toNat - 48 = k ∧ (48 + k.toUInt8 = 48 → k = 0) := by
  decide

def AllDigits (s : Bytes) : Prop := ∀ c ∈ s, isDigit c = true

theorem allDigits_append {a b : Bytes} (ha : AllDigits a) (hb : AllDigits b) : AllDigits (a ++ b) :=
  List.forall_mem_append.mpr ⟨ha, hb⟩

theorem two64_eq : two64 = 18446744073709551616 := rfl

theorem div10_lt {n f : Nat} (h : n < 10 ^ (f + 1)) : n / 10 < 10 ^ f :=
  Nat.div_lt_of_lt_mul (by rw [Nat.mul_comm, ← Nat.pow_succ]; exact h)

theorem readDec_digitsRev (f : Nat) : ∀ (n : Nat) (X : Bytes), n < 10 ^ f → n < two64 →
    readDec ((digitsRev f n).reverse ++ X) 0 = readDec X n := by
  induction f with
  | zero =>
    intro n X h _
    have : n = 0 := by simpa using h
    subst this
    simp [digitsRev]
  | succ f ih =>
    intro n X h h64
    have hd := digit_facts (n % 10) (Nat.mod_lt _ (by decide))
    by_cases hlt : n < 10
    · have hn : n % 10 = n := Nat.mod_eq_of_lt hlt
      simp only [digitsRev, hlt, if_true, List.reverse_cons, List.reverse_nil, List.nil_append,
        List.cons_append]
      rw [readDec]
      simp only [hd.1, if_true, hd.2.1, Nat.zero_mul, Nat.zero_add]
      rw [hn, Nat.mod_eq_of_lt h64]
    · have h10 : n / 10 < 10 ^ f := div10_lt h
      have h64' : n / 10 < two64 := Nat.lt_of_le_of_lt (Nat.div_le_self _ _) h64
      simp only [digitsRev, hlt, if_false, List.reverse_cons, List.append_assoc, List.cons_append,
        List.nil_append]
      rw [ih (n / 10) _ h10 h64', readDec]
      simp only [hd.1, if_true, hd.2.1]
      rw [Nat.div_add_mod', Nat.mod_eq_of_lt h64]

theorem allDigits_digitsRev (f n : Nat) : AllDigits (digitsRev f n) := by
  fun_induction digitsRev f n with
  | case1 => nofun
  | case2 fuel n ih =>
    refine List.forall_mem_cons.mpr ⟨(digit_facts (n % 10) (Nat.mod_lt _ (by decide))).1, ?_⟩
    split
    · nofun
    · exact ih

theorem digitsRev_head (f : Nat) : ∀ n, n < 10 ^ f → 1 ≤ f →
    ∃ c t, (digitsRev f n).reverse = c :: t ∧ isDigit c = true ∧ (1 ≤ n → c ≠ 48) := by
  induction f with
  | zero => intro n _ h; omega
  | succ f ih =>
    intro n h _
    have hd := digit_facts (n % 10) (Nat.mod_lt _ (by decide))
    by_cases hlt : n < 10
    · refine ⟨48 + (n % 10).toUInt8, [], ?_, hd.1, ?_⟩
      · simp [digitsRev, hlt]
      · intro h1 h48
        have := hd.2.2 h48
        omega
    · have h10 : n / 10 < 10 ^ f := div10_lt h
      have hf : 1 ≤ f := by
        rcases f with _ | f
        · simp at h10; omega
        · omega
      obtain ⟨c, t, hr, hc, hnz⟩ := ih (n / 10) h10 hf
      refine ⟨c, t ++ [48 + (n % 10).toUInt8], ?_, hc, ?_⟩
      · simp [digitsRev, hlt, hr]
      · intro _; exact hnz (by omega)

theorem natDec_allDigits (n : Nat) : AllDigits (natDec n) := by
  intro c h
  unfold natDec at h
  exact allDigits_digitsRev 20 n c (List.mem_reverse.mp h)

theorem natDec_head (n : Nat) (h : n < two64) :
    ∃ c t, natDec n = c :: t ∧ isDigit c = true ∧ (1 ≤ n → c ≠ 48) := by
  unfold natDec
  exact digitsRev_head 20 n (by unfold two64 at h; omega) (by decide)

theorem readDec_natDec (n : Nat) (X : Bytes) (h : n < two64) :
    readDec (natDec n ++ X) 0 = readDec X n := by
  unfold natDec
  exact readDec_digitsRev 20 n X (by unfold two64 at h; omega) h

theorem natDec_zero : natDec 0 = [48] := by decide

def isDelimC (c : UInt8) : Bool := c = cComma || c = cRBrack || c = cRBrace || isWs c

/-- the text after a value: the end of the buffer or a delimiter character -/
def Delim (r : Bytes) : Prop := r = [] ∨ ∃ c t, r = c :: t ∧ isDelimC c = true

theorem delim_cons {c : UInt8} (t : Bytes) (h : isDelimC c = true) : Delim (c :: t) :=
  Or.inr ⟨c, t, rfl, h⟩

theorem isDelimC_of_ws {c : UInt8} (h : isWs c = true) : isDelimC c = true := by simp [isDelimC, h]

theorem delim_ws_append {W : Bytes} (hW : AllWs W) {c : UInt8} (t : Bytes) (h : isDelimC c = true) :
    Delim (W ++ c :: t) := by
  cases W with
  | nil => exact delim_cons t h
  | cons w W' => exact delim_cons _ (isDelimC_of_ws (hW w (by simp)))

theorem forall_byte {P : UInt8 → Prop} (h : ∀ n, n < 256 → P (UInt8.ofNat n)) (c : UInt8) : P c := by
  have := h c.toNat (UInt8.toNat_lt c)
  simpa using this

/-- a delimiter is one of nine characters, none of which can continue a number -/
theorem delimC_facts {c : UInt8} (h : isDelimC c = true) :
    isDigit c = false ∧ c ≠ cDot ∧ upper c ≠ 76 ∧ upper c ≠ 85 ∧ upper c ≠ 69 ∧ upper c ≠ 70
      ∧ upper c ≠ 66 ∧ upper c ≠ 88 := by
  have key : ∀ c ∈ [cComma, cRBrack, cRBrace, 32, 9, 13, 10, 11, 12], isDigit c = false ∧ c ≠ cDot ∧ upper c ≠ 76
      ∧ upper c ≠ 85 ∧ upper c ≠ 69 ∧ upper c ≠ 70 ∧ upper c ≠ 66 ∧ upper c ≠ 88 := by decide
  exact key c (by simpa [isDelimC, isWs, or_assoc] using h)

theorem digit_char_facts {c : UInt8} (h : isDigit c = true) :
    c ≠ 0 ∧ isWs c = false ∧ c ≠ cRBrack ∧ c ≠ cPlus ∧ c ≠ cMinus ∧ c ≠ 116 ∧ c ≠ 102 :=
  forall_byte (P := fun c => isDigit c = true → c ≠ 0 ∧ isWs c = false ∧ c ≠ cRBrack ∧ c ≠ cPlus ∧ c ≠ cMinus
    ∧ c ≠ 116 ∧ c ≠ 102) (by decide +kernel) c h

theorem scan_digits (D X : Bytes) (hD : AllDigits D) (d : Nat) (dot : Bool) :
    scanDigitsDots (D ++ X) d dot = scanDigitsDots X (d + D.length) dot := by
  induction D generalizing d with
  | nil => simp
  | cons c t ih =>
    obtain ⟨hc, ht⟩ := List.forall_mem_cons.mp hD
    simp only [List.cons_append, scanDigitsDots, hc, if_true, List.length_cons]
    rw [ih ht]
    congr 1
    omega

/-- the letters `L` of a suffix, before a delimiter: the digit scan and the `0b`/`0x` test stop at them, the suffix
    loop counts them -/
theorem scan_stop_Ls (l : Nat) {rest : Bytes} (hr : Delim rest) (d : Nat) (dot : Bool) :
    scanDigitsDots (List.replicate l 76 ++ rest) d dot = (d, dot, List.replicate l 76 ++ rest) := by
  cases l with
  | zero =>
    rcases hr with rfl | ⟨c, t, rfl, hc⟩
    · simp [scanDigitsDots]
    · obtain ⟨hdig, hdot, -⟩ := delimC_facts hc
      simp [scanDigitsDots, hdig, hdot]
  | succ l => rfl

theorem sufLoop_Ls (l : Nat) {rest : Bytes} (hr : Delim rest) (a : Nat) (u f : Bool) :
    sufLoop false (List.replicate l 76 ++ rest) a u f = (a + l, u, f, .plain, rest) := by
  induction l generalizing a with
  | zero =>
    rcases hr with rfl | ⟨c, t, rfl, hc⟩
    · simp [sufLoop]
    · obtain ⟨-, -, hL, hU, hE, hF, -, -⟩ := delimC_facts hc
      simp [sufLoop, hL, hU, hE, hF]
  | succ l ih =>
    show sufLoop false (List.replicate l 76 ++ rest) (a + 1) u f = _
    rw [ih, Nat.add_assoc, Nat.add_comm 1]

theorem Ls_not_bx (l : Nat) {rest : Bytes} (hr : Delim rest) :
    upper (peek (List.replicate l 76 ++ rest)) ≠ 66 ∧ upper (peek (List.replicate l 76 ++ rest)) ≠ 88 := by
  cases l with
  | zero =>
    rcases hr with rfl | ⟨c, t, rfl, hc⟩
    · decide
    · obtain ⟨-, -, -, -, -, -, hB, hX⟩ := delimC_facts hc
      exact ⟨hB, hX⟩
  | succ l => exact show upper 76 ≠ 66 ∧ upper 76 ≠ 88 by decide

theorem take_prefix (a b : Bytes) : (a ++ b).take ((a ++ b).length - b.length) = a := by
  simp

theorem intLiteral_zero (longs : Nat) : intLiteral 0 false false longs = intLiteral 0 true false longs := by
  unfold intLiteral
  by_cases h : longs = 0 <;> simp [h]

theorem loadDecimal_int (expLoad : Bytes → Prim × Bytes) (sign : Bytes) (m longs : Nat) (rest : Bytes) (neg : Bool)
    (hm : m < two64) (hr : Delim rest) :
    loadDecimal expLoad (sign ++ (natDec m ++ List.replicate longs 76) ++ rest)
        (natDec m ++ List.replicate longs 76 ++ rest) neg =
      (⟨(signedLiteral m true false longs neg).1, (signedLiteral m true false longs neg).2,
        sign ++ (natDec m ++ List.replicate longs 76)⟩, rest) := by
  obtain ⟨c, t, hD, hc, hnz⟩ := natDec_head m hm
  have hlen : (natDec m).length ≠ 0 := by rw [hD]; simp
  have hpk : ∀ X, peek (natDec m ++ X) = c := fun X => by rw [hD]; rfl
  have hrd : (readDec (natDec m) 0).1 = m := by
    have := readDec_natDec m [] hm
    simp only [List.append_nil] at this
    rw [this]; rfl
  have hval : (if (c != 48) = true then m else parseBinaryStr (natDec m)) = m
      ∧ ∀ l, intLiteral m (c != 48) false l = intLiteral m true false l := by
    by_cases h0 : m = 0
    · subst h0
      rw [natDec_zero] at hD
      injection hD with hc0 _
      subst hc0
      refine ⟨by decide, fun l => ?_⟩
      simpa using intLiteral_zero l
    · have : c ≠ 48 := hnz (by omega)
      have hb : (c != 48) = true := by simp [this]
      rw [hb]
      exact ⟨by simp, fun _ => rfl⟩
  unfold loadDecimal
  rw [List.append_assoc (natDec m), scan_digits (natDec m) _ (natDec_allDigits m), scan_stop_Ls longs hr]
  simp only [Nat.zero_add, hlen, if_false, sufLoop_Ls longs hr]
  simp only [take_prefix, Bool.or_self, Bool.false_eq_true, if_false]
  unfold signedLiteral
  simp only [hpk, hrd, hval.1, hval.2]

theorem take4_ne (x : UInt8) (l : Bytes) (h : x ≠ 116) : ¬ (x :: l).take 4 = sTrue := by
  intro e; simp [sTrue] at e; exact h e.1

theorem take5_ne (x : UInt8) (l : Bytes) (h : x ≠ 102) : ¬ (x :: l).take 5 = sFalse := by
  intro e; simp [sFalse] at e; exact h e.1

theorem loadPrim_decimal (fuel : Nat) (neg : Bool) {X : Bytes} {c : UInt8} {t : Bytes} (hX : X = c :: t)
    (hc : isDigit c = true)
    (hfmt : (peek X = 48 && (upper (peek (X.drop 1)) = 66 || upper (peek (X.drop 1)) = 88)) = false) :
    loadPrim (fuel + 1) ((if neg then [cMinus] else []) ++ X) =
      loadDecimal (loadPrim fuel) ((if neg then [cMinus] else []) ++ X) X neg := by
  obtain ⟨-, hws, -, hplus, hminus, ht, hf⟩ := digit_char_facts hc
  cases neg with
  | false =>
    have hsp : splitSign X = (false, X) := by
      rw [hX]; simp [splitSign, peek, hplus, hminus]
    have h4 : ¬ X.take 4 = sTrue := hX ▸ take4_ne c t ht
    have h5 : ¬ X.take 5 = sFalse := hX ▸ take5_ne c t hf
    simp only [Bool.false_eq_true, if_false, List.nil_append]
    unfold loadPrim
    simp only [h4, h5, if_false, hsp, hfmt, Bool.false_eq_true]
  | true =>
    have hsp : splitSign (cMinus :: X) = (true, X) := by
      simp [splitSign, peek, cMinus, cPlus, hX, skipWs_cons_nonws c t hws]
    simp only [if_true, List.cons_append, List.nil_append]
    unfold loadPrim
    simp only [take4_ne cMinus X (by decide), take5_ne cMinus X (by decide), if_false, hsp, hfmt, Bool.false_eq_true]

theorem loadPrim_int (fuel : Nat) (neg : Bool) (m longs : Nat) (rest : Bytes) (hm : m < two64) (hr : Delim rest) :
    loadPrim (fuel + 1) ((if neg then [cMinus] else []) ++ (natDec m ++ List.replicate longs 76) ++ rest) =
      (⟨(signedLiteral m true false longs neg).1, (signedLiteral m true false longs neg).2,
        (if neg then [cMinus] else []) ++ (natDec m ++ List.replicate longs 76)⟩, rest) := by
  have hbx := Ls_not_bx longs hr
  have key := loadDecimal_int (loadPrim fuel) (if neg then [cMinus] else []) m longs rest neg hm hr
  generalize List.replicate longs (76 : UInt8) = suf at hbx key ⊢
  obtain ⟨c, t, hD, hc, hnz⟩ := natDec_head m hm
  -- the formatted-number test fails: the first digit is not 0, or it is the only digit
  have hfmt : (peek (natDec m ++ suf ++ rest) = 48 && (upper (peek ((natDec m ++ suf ++ rest).drop 1)) = 66
      || upper (peek ((natDec m ++ suf ++ rest).drop 1)) = 88)) = false := by
    by_cases h0 : m = 0
    · subst h0
      simp only [natDec_zero, List.cons_append, List.nil_append, List.drop_succ_cons, List.drop_zero]
      simp [hbx.1, hbx.2]
    · have : ¬ c = 48 := hnz (by omega)
      simp [hD, peek, this]
  have := loadPrim_decimal fuel neg (X := natDec m ++ suf ++ rest) (t := t ++ suf ++ rest) (by rw [hD]; simp) hc hfmt
  rw [← List.append_assoc] at this
  exact this.trans key

theorem ws32_idem (x : Int) : wrapS 32 (wrapS 32 x) = wrapS 32 x := wrapS_wrapS 32 x
theorem wu32_ws32 (x : Int) : wrapU 32 (wrapS 32 x) = wrapU 32 x := wrapU_wrapS 32 x
theorem ws64_idem (x : Int) : wrapS 64 (wrapS 64 x) = wrapS 64 x := wrapS_wrapS 64 x
theorem wu64_ws64 (x : Int) : wrapU 64 (wrapS 64 x) = wrapU 64 x := wrapU_wrapS 64 x

theorem wu64_idem (x : Int) : wrapU 64 (wrapU 64 x) = wrapU 64 x := wrapU_wrapU 64 x

/-- an integer-typed primitive built through the API: no source text, value in the range of its type -/
def Prim.IsInt (p : Prim) : Prop :=
  p.src = [] ∧ p.InRange ∧
    (p.ty = .i8 ∨ p.ty = .u8 ∨ p.ty = .i16 ∨ p.ty = .u16 ∨ p.ty = .i32 ∨ p.ty = .u32 ∨ p.ty = .i64 ∨ p.ty = .u64)

def PType.isLong : PType → Bool
  | .i64 | .u64 => true
  | _ => false

theorem isInt_range {p : Prim} (h : p.IsInt) :
    -9223372036854775808 ≤ p.val ∧ p.val < 18446744073709551616 ∧ (p.val < -2147483648 → p.ty = .i64) := by
  obtain ⟨_, hr, ht⟩ := h
  unfold Prim.InRange at hr
  rcases ht with ht | ht | ht | ht | ht | ht | ht | ht <;> rw [ht] at hr ⊢ <;>
    simp only [PType.wrap, wrapS_eq_self, wrapU_eq_self, reduceCtorEq, imp_false, implies_true, and_true] at hr ⊢ <;>
    omega

theorem isInt_natAbs_lt {p : Prim} (h : p.IsInt) : p.val.natAbs < two64 := by
  have := isInt_range h
  unfold two64; omega

theorem intDec_eq (v : Int) : intDec v = (if v < 0 then [cMinus] else []) ++ natDec v.natAbs := by
  unfold intDec
  split
  · rfl
  · rw [show v.toNat = v.natAbs by omega]; rfl

theorem toStr_isInt {p : Prim} (h : p.IsInt) :
    p.toStr = (if p.val < 0 then [cMinus] else [])
      ++ (natDec p.val.natAbs ++ List.replicate (if p.ty.isLong then 1 else 0) 76) := by
  obtain ⟨ty, val, src⟩ := p
  obtain ⟨hs, _, ht⟩ := h
  subst hs
  have : (⟨ty, val, []⟩ : Prim).toStr = if ty.isLong then intDec val ++ [76] else intDec val := by
    rcases ht with rfl | rfl | rfl | rfl | rfl | rfl | rfl | rfl <;> rfl
  rw [this, intDec_eq]
  cases ty.isLong <;> simp

theorem toStr_head {p : Prim} (h : p.IsInt) :
    ∃ c t, p.toStr = c :: t ∧ (isDigit c || c = cMinus) = true ∧ isWs c = false ∧ c ≠ cRBrack := by
  obtain ⟨c, t, hD, hc, _⟩ := natDec_head p.val.natAbs (isInt_natAbs_lt h)
  rw [toStr_isInt h, hD]
  split
  · exact ⟨cMinus, _, rfl, by decide, by decide, by decide⟩
  · obtain ⟨-, hws, hrb, -⟩ := digit_char_facts hc
    exact ⟨c, _, rfl, by simp [hc], hws, hrb⟩

/-- the type and value primitive::load gives the printed text of `p` -/
def Prim.reload (p : Prim) : PType × Int :=
  signedLiteral p.val.natAbs true false (if p.ty.isLong then 1 else 0) (decide (p.val < 0))

theorem loadPrim_toStr_eq (fuel : Nat) (p : Prim) (h : p.IsInt) (rest : Bytes) (hr : Delim rest) :
    loadPrim (fuel + 1) (p.toStr ++ rest) = (⟨p.reload.1, p.reload.2, p.toStr⟩, rest) := by
  have key := loadPrim_int fuel (decide (p.val < 0)) p.val.natAbs (if p.ty.isLong then 1 else 0) rest
    (isInt_natAbs_lt h) hr
  simp only [decide_eq_true_eq] at key
  rw [toStr_isInt h, Prim.reload]
  exact key

/-- decimal literal without `u`: int if it fits (and there is no `l`), else long, else unsigned long -/
theorem intLiteral_dec (m longs : Nat) :
    intLiteral m true false longs =
      if longs = 0 ∧ m ≤ 2147483647 then .i32 else if m ≤ 9223372036854775807 then .i64 else .u64 := by
  unfold intLiteral
  by_cases h1 : longs = 0 <;> by_cases h2 : m ≤ 2147483647 <;> by_cases h3 : m ≤ 9223372036854775807 <;>
    simp [h1, h2, h3]

/-- the number read back has the same mathematical value; only INT64_MIN comes back as uint64 2^63 -/
theorem reload_value (p : Prim) (h : p.IsInt) :
    p.reload.2 = p.val
      ∨ (p.ty = .i64 ∧ p.val = -9223372036854775808 ∧ p.reload = (.u64, 9223372036854775808)) := by
  have hr := isInt_range h
  unfold Prim.reload signedLiteral
  by_cases hv : p.val < 0
  · have hval : -(p.val.natAbs : Int) = p.val := by omega
    simp only [hv, decide_true, if_true, hval]
    rw [intLiteral_dec]
    by_cases hmin : p.val = -9223372036854775808
    · have hna : p.val.natAbs = 9223372036854775808 := by omega
      rw [hna, hmin]
      exact Or.inr ⟨hr.2.2 (by omega), rfl, by simp [PType.wrap, wrapU, two_pow_64]⟩
    · left
      by_cases h1 : (if p.ty.isLong then 1 else 0) = 0 ∧ p.val.natAbs ≤ 2147483647
      · rw [if_pos h1]
        exact wrapS_of_lt 31 _ (by omega)
      · rw [if_neg h1, if_pos (by omega)]
        exact wrapS_of_lt 63 _ (by omega)
  · left
    have hval : (p.val.natAbs : Int) = p.val := by omega
    simp only [hv, decide_false, Bool.false_eq_true, if_false, hval]

theorem primEq_of_val_eq (p : Prim)
    (ht : p.ty = .i8 ∨ p.ty = .u8 ∨ p.ty = .i16 ∨ p.ty = .u16 ∨ p.ty = .i32 ∨ p.ty = .u32 ∨ p.ty = .i64 ∨ p.ty = .u64)
    (ty' : PType) (hty : ty' = .i32 ∨ ty' = .i64 ∨ ty' = .u64) (T : Bytes) : primEq p ⟨ty', p.val, T⟩ = true := by
  rcases ht with ht | ht | ht | ht | ht | ht | ht | ht <;> rcases hty with hty | hty | hty <;>
    simp [primEq, maxTy, PType.rank, Prim.toInt, ht, hty]

theorem intLiteral_cases (m longs : Nat) :
    intLiteral m true false longs = .i32 ∨ intLiteral m true false longs = .i64 ∨ intLiteral m true false longs = .u64 := by
  rw [intLiteral_dec]
  split
  · exact Or.inl rfl
  · split
    · exact Or.inr (Or.inl rfl)
    · exact Or.inr (Or.inr rfl)

/-- json::operator== accepts the re-read number, also INT64_MIN read back as the uint64 with the same bits -/
theorem primEq_reload (p : Prim) (h : p.IsInt) (T : Bytes) : primEq p ⟨p.reload.1, p.reload.2, T⟩ = true := by
  rcases reload_value p h with hv | ⟨hty, hval, hre⟩
  · rw [hv]
    exact primEq_of_val_eq p h.2.2 _ (intLiteral_cases _ _) T
  · obtain ⟨ty, val, src⟩ := p
    subst hty hval
    rw [hre]
    rfl

end Occa.Json
