/-
C17 / C18 / C19 on trees.
  * `Grouped e`: printing `e` in-order without adding parentheses (what the occa printer does) yields a
    text whose reading under the operator precedence table is `e` again.  The table is the one
    regenerated from /repo's operator.cpp (OccaGen/LoopTables.lean); `occa_prec_is_cxx` checks that it
    is the C++ grammar's (the emitted text is read by a C++/OpenCL/Metal compiler, not by occa).
  * `Fits q e` (grouped, and of level at most `q`) with one lemma per way the translators build a tree (`fits_wrap`,
    `fits_bin`, `fits_var`, `fits_one`).  A tree is shown grouped by composing these: here the block
    stride (`fits_blockStride`), in Lemmas/ExprCount the count as it is read, in the property files the iterator value,
    the in-block bound and the @dim index.
  * Values: update, direction and step of the header a spec denotes (`header_upd`, `header_positiveUpdate`, `header_step`);
    the stride tree denotes `stride` (`eval_blockStride`).
-/
import OccaModel.LoopExpr
import OccaGen.LoopTables

namespace Occa.LoopExpr
open Occa Occa.Loop

def lookup (t : List (String × Nat)) (op : String) : Nat :=
  match t.find? (fun r => r.1 == op) with
  | some (_, p) => p
  | none => 0

/-- the C++ grammar's levels (cppreference numbering, smaller binds tighter) for the operand language -/
def cxxBinary : List (String × Nat) :=
  [("+", 6), ("-", 6), ("*", 5), ("/", 5), ("%", 5), ("<<", 7), (">>", 7), ("<", 9), ("<=", 9), (">", 9), (">=", 9),
   ("==", 10), ("!=", 10), ("&", 11), ("^", 12), ("|", 13), ("&&", 14), ("||", 15)]

/-- tie T: the table the translators were built with is the C++ one -/
theorem occa_prec_is_cxx :
    Gen.binaryPrec = cxxBinary ∧ Gen.ternaryPrec = 16 ∧ Gen.castPrec = 3 ∧
    Gen.unaryPrec = [("!", 3), ("+", 3), ("-", 3), ("~", 3), ("&", 3)] := by
  decide

/-- precedence number of the top-level node as the reader of the printed text sees it -/
def prec : Expr → Nat
  | .var _ => 0
  | .lit v => if v < 0 then 3 else 0      -- a negative literal prints as `-3`
  | .paren _ => 0
  | .sub _ _ => 2
  | .cast _ => Gen.castPrec
  | .un op _ => lookup Gen.unaryPrec op
  | .bin op _ _ => lookup Gen.binaryPrec op
  | .tern .. => Gen.ternaryPrec

/-- `- -a` would print `--a`, `& &a` `&&a` -/
def signClash (op : String) : Expr → Bool
  | .un op2 _ => op == op2 && (op == "-" || op == "+" || op == "&")
  | .lit v => op == "-" && v < 0
  | _ => false

def grouped : Expr → Bool
  | .var _ => true
  | .lit _ => true
  | .paren e => grouped e
  | .cast e => prec e ≤ Gen.castPrec && grouped e
  | .un op e => lookup Gen.unaryPrec op != 0 && prec e ≤ lookup Gen.unaryPrec op && !signClash op e && grouped e
  | .bin op l r =>
    lookup Gen.binaryPrec op != 0 && prec l ≤ lookup Gen.binaryPrec op && prec r < lookup Gen.binaryPrec op
      && grouped l && grouped r
  | .tern c t f =>
    prec c < Gen.ternaryPrec && grouped c && grouped t && prec f ≤ Gen.ternaryPrec && grouped f
  | .sub a i => prec a ≤ 2 && grouped a && grouped i

/-- the printed text keeps the tree's grouping -/
def Grouped (e : Expr) : Prop := grouped e = true

instance (e : Expr) : Decidable (Grouped e) := by unfold Grouped; exact inferInstance

@[simp] theorem eval_wrap (env : String → Int) (e : Expr) : eval env (wrap e) = eval env e := by
  cases e <;> rfl

/-- `evalBin` on the operators the translators put into their trees (unfolding it goes through the whole operator list) -/
@[simp] theorem evalBin_add (x y : Int) : evalBin "+" x y = x + y := rfl
@[simp] theorem evalBin_sub (x y : Int) : evalBin "-" x y = x - y := rfl
@[simp] theorem evalBin_mul (x y : Int) : evalBin "*" x y = x * y := rfl
@[simp] theorem evalBin_div (x y : Int) : evalBin "/" x y = Int.tdiv x y := rfl

theorem grouped_wrap (e : Expr) : grouped (wrap e) = grouped e := by
  cases e <;> rfl

theorem prec_wrap (e : Expr) : prec (wrap e) ≤ 3 := by
  cases e <;> simp [wrap, prec]
  split <;> omega

theorem wrap_paren (e : Expr) : wrap (.paren e) = .paren e := rfl
theorem wrap_var (n : String) : wrap (.var n) = .var n := rfl
theorem wrap_bin (op : String) (l r : Expr) : wrap (.bin op l r) = .paren (.bin op l r) := rfl

theorem prec_bin (op : String) (l r : Expr) : prec (.bin op l r) = lookup Gen.binaryPrec op := rfl
theorem prec_paren (e : Expr) : prec (.paren e) = 0 := rfl
theorem prec_var (n : String) : prec (.var n) = 0 := rfl
theorem prec_lit_nonneg (v : Int) (h : 0 ≤ v) : prec (.lit v) = 0 := by
  simp [prec]; omega

theorem prec_lit0 : prec (.lit 0) = 0 := prec_lit_nonneg 0 (Int.le_refl 0)

/-- `e` is grouped and may stand where the grammar expects an expression of level `q` -/
def Fits (q : Nat) (e : Expr) : Prop := grouped e = true ∧ prec e ≤ q

theorem Fits.grouped {q : Nat} {e : Expr} (h : Fits q e) : Grouped e := h.1

theorem Fits.mono {p q : Nat} {e : Expr} (h : Fits p e) (hpq : p ≤ q := by decide) : Fits q e :=
  ⟨h.1, Nat.le_trans h.2 hpq⟩

theorem fits_wrap {e : Expr} (h : Grouped e) : Fits 3 (wrap e) :=
  ⟨(grouped_wrap e).trans h, prec_wrap e⟩

theorem fits_var (n : String) : Fits 0 (.var n) := ⟨rfl, Nat.le_refl _⟩

theorem fits_one : Fits 0 (.lit 1) := ⟨rfl, by decide⟩

/-- the grammar's rule for a left-associative binary operator of level `q` -/
theorem fits_bin (op : String) {q : Nat} {l r : Expr} (hq : lookup Gen.binaryPrec op = q) (hl : Fits q l)
    (hr : Fits (q - 1) r) (h0 : q ≠ 0 := by decide) : Fits q (.bin op l r) := by
  have hr2 : prec r < q := by have := hr.2; omega
  subst hq
  exact ⟨by simp [grouped, h0, hl.1, hl.2, hr.1, hr2], Nat.le_refl _⟩

theorem prec_mul : lookup Gen.binaryPrec "*" = 5 := by decide
theorem prec_div : lookup Gen.binaryPrec "/" = 5 := by decide
theorem prec_pm (plus : Bool) : lookup Gen.binaryPrec (if plus then "+" else "-") = 6 := by
  cases plus <;> decide

theorem header_upd (l : LoopSpec) (env : String → Int) : (l.header env).upd =
    match l.step, l.positive with
    | none, true => .inc
    | none, false => .dec
    | some s, true => .addEq (eval env s)
    | some s, false => .subEq (eval env s) := rfl

theorem header_positiveUpdate (l : LoopSpec) (env : String → Int) : (l.header env).positiveUpdate = l.positive := by
  rw [Header.positiveUpdate, header_upd]
  cases l.step <;> cases l.positive <;> rfl

theorem header_step (l : LoopSpec) (env : String → Int) :
    (l.header env).step = match l.step with | none => 1 | some s => eval env s := by
  rw [Header.step, header_upd]
  cases l.step <;> cases l.positive <;> rfl

theorem eval_blockStride (l : LoopSpec) (T : Expr) (env : String → Int) :
    eval env (blockStrideExpr l T) = stride (l.header env) (eval env T) := by
  rw [stride, header_upd, blockStrideExpr]
  cases l.step <;> cases l.positive <;> simp [eval]

theorem fits_blockStride (l : LoopSpec) (T : Expr) (hT : Grouped T) (hst : ∀ s, l.step = some s → Grouped s) :
    Fits 3 (wrap (blockStrideExpr l T)) := by
  unfold blockStrideExpr
  cases hstep : l.step with
  | none => exact fits_wrap hT
  | some s =>
    exact fits_wrap (fits_wrap (fits_bin "*" prec_mul (fits_wrap hT).mono (fits_wrap (hst s hstep)).mono).grouped).grouped

theorem getD_map_eval (env : String → Int) (l : List Expr) (i : Nat) :
    (l.map (eval env)).getD i 0 = eval env (l.getD i (.lit 0)) := by
  simp only [List.getD_eq_getElem?_getD, List.getElem?_map]
  cases l[i]? <;> rfl

theorem grouped_getD (l : List Expr) (h : ∀ e ∈ l, Grouped e) (i : Nat) : Grouped (l.getD i (.lit 0)) := by
  rw [List.getD_eq_getElem?_getD]
  cases hi : l[i]? with
  | none => rfl
  | some e => exact h e (List.mem_of_getElem? hi)

end Occa.LoopExpr
