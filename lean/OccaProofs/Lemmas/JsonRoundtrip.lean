/-
Lemmas for C24: `load` after `dump` by structural induction over the value (leaves, then the element loop of
arrays and the member loop of objects).  The loader is first given its equations on text of the shape `dump`
produces; the induction (`rs_val`, `rs_arrLoop`, `rs_objLoop`) carries, besides `jsonEq`, the invariant that the value
read back prints the same text (`SameText`); `rt_arrLoop`, `rt_objLoop` are the `jsonEq` parts alone.
-/
import OccaProofs.Lemmas.JsonNul

namespace Occa.Json

theorem load_ws (n : Nat) (W s : Bytes) (hW : AllWs W) : load n (W ++ s) = load n s := by
  cases n with
  | zero => simp [load]
  | succ n => simp only [load, skipWs_allWs_append W s hW]

theorem load_null (n : Nat) (rest : Bytes) : load (n + 1) (sNull ++ rest) = .ok (.null, rest) := by
  simp [load, sNull, skipWs, isWs, peek, isDigit, cMinus, cLBrace, cLBrack, cApos, cQuote]

theorem load_true (n : Nat) (rest : Bytes) : load (n + 1) (sTrue ++ rest) = .ok (.num ⟨.bool, 1, []⟩, rest) := by
  simp [load, sTrue, skipWs, isWs, peek, isDigit, cMinus, cLBrace, cLBrack, cApos, cQuote]

theorem load_false (n : Nat) (rest : Bytes) : load (n + 1) (sFalse ++ rest) = .ok (.num ⟨.bool, 0, []⟩, rest) := by
  simp [load, sFalse, skipWs, isWs, peek, isDigit, cMinus, cLBrace, cLBrack, cApos, cQuote]

theorem load_str (n : Nat) (s rest : Bytes) : load (n + 1) (dumpStr s ++ rest) = .ok (.str s, rest) := by
  have h := loadStr_escBytes s rest []
  simp only [List.nil_append, cQuote] at h
  simp [load, dumpStr, skipWs, isWs, peek, isDigit, cMinus, cLBrace, cLBrack, cApos, cQuote, h]

theorem load_arr_open (n : Nat) (s : Bytes) : load (n + 1) (cLBrack :: s) = loadArrLoop n s [] := by
  simp [load, skipWs, isWs, peek, isDigit, cLBrack, cMinus, cLBrace]

theorem load_obj_open (n : Nat) (s : Bytes) : load (n + 1) (cLBrace :: s) = loadObjLoop n true s [] := by
  simp [load, skipWs, isWs, peek, isDigit, cLBrace, cMinus]

theorem loadArrLoop_close (n : Nat) (r : Bytes) (acc : List Json) :
    loadArrLoop (n + 1) (cRBrack :: r) acc = .ok (.arr acc, r) := by
  simp [loadArrLoop, skipWs, isWs, peek, cRBrack]

theorem loadObjLoop_close (n : Nat) (r : Bytes) (acc : Obj) :
    loadObjLoop (n + 1) true (cRBrace :: r) acc = .ok (.obj acc, r) := by
  simp [loadObjLoop, skipWs, isWs, peek, cRBrace]

theorem peek_cons (c : UInt8) (t : Bytes) : peek (c :: t) = c := rfl

theorem isEmpty_append_cons (W : Bytes) (c : UInt8) (t : Bytes) : (W ++ c :: t).isEmpty = false := by
  cases W <;> rfl

theorem loadArrLoop_elem {n : Nat} {W s r : Bytes} {v : Json} (acc : List Json) (hW : AllWs W)
    (hs : ∃ c t, s = c :: t ∧ isWs c = false ∧ c ≠ cRBrack) (hl : load n s = .ok (v, r)) :
    loadArrLoop (n + 1) (W ++ s) acc =
      if peek (skipWs r) = cComma then loadArrLoop n ((skipWs r).drop 1) (acc ++ [v])
      else if peek (skipWs r) = cRBrack then .ok (.arr (acc ++ [v]), (skipWs r).drop 1)
      else if peek (skipWs r) = 0 then .error .arrBracket else .error .arrSep := by
  obtain ⟨c, t, rfl, hc, hb⟩ := hs
  have hsk : skipWs (W ++ c :: t) = c :: t := by rw [skipWs_allWs_append W _ hW, skipWs_cons_nonws c t hc]
  rw [loadArrLoop]
  simp only [isEmpty_append_cons, Bool.false_eq_true, if_false, hsk, peek_cons, hb, hl]

theorem loadObjLoop_member {n : Nat} {W k s r : Bytes} {v : Json} (acc : Obj) (hW : AllWs W) (hk : k ≠ [])
    (hl : load n s = .ok (v, r)) :
    loadObjLoop (n + 1) true (W ++ cQuote :: (escBytes k ++ cQuote :: cColon :: s)) acc =
      if peek (skipWs r) = cComma then loadObjLoop n true ((skipWs r).drop 1) (insert k v acc)
      else if peek (skipWs r) = cRBrace then .ok (.obj (insert k v acc), (skipWs r).drop 1)
      else if peek (skipWs r) = 0 then .error .objBrace else .error .objSep := by
  have hsk : skipWs (W ++ cQuote :: (escBytes k ++ cQuote :: cColon :: s))
      = cQuote :: (escBytes k ++ cQuote :: cColon :: s) := by
    rw [skipWs_allWs_append W _ hW, skipWs_cons_nonws _ _ (by decide)]
  have hkey := loadStr_escBytes k (cColon :: s) []
  rw [loadObjLoop]
  simp only [hsk, isEmpty_append_cons, Bool.false_eq_true, if_false, peek_cons,
    show (cQuote = cRBrace) = False by decide, show (cQuote = (0 : UInt8)) = False by decide, decide_false,
    Bool.or_self, if_true, List.drop_succ_cons, List.drop_zero, hkey, List.nil_append, List.isEmpty_eq_false_iff.mpr hk,
    skipWs_cons_nonws cColon s (by decide), ne_eq, not_true_eq_false, hl]

def SameText (v v' : Json) : Prop := ∀ i c, dump i c v' = dump i c v
def SameTextL (xs xs' : List Json) : Prop := (∀ i n, dumpArr i n xs' = dumpArr i n xs) ∧ xs'.isEmpty = xs.isEmpty
def SameTextO (a a' : Obj) : Prop := (∀ i n, dumpObj i n a' = dumpObj i n a) ∧ a'.isEmpty = a.isEmpty

theorem sameText_arr {xs xs' : List Json} (h : SameTextL xs xs') : SameText (.arr xs) (.arr xs') := by
  intro i c
  simp only [dump, h.1, h.2]

theorem sameText_obj {a a' : Obj} (h : SameTextO a a') : SameText (.obj a) (.obj a') := by
  intro i c
  simp only [dump, h.1, h.2]

theorem sameTextL_cons {x x' : Json} {xs xs' : List Json} (h : SameText x x') (hs : SameTextL xs xs') :
    SameTextL (x :: xs) (x' :: xs') :=
  ⟨fun i n => by simp only [dumpArr, h i n, hs.1, hs.2], rfl⟩

theorem jsonEq_isNone {v v' : Json} (h : jsonEq v v' = true) : v'.isNone = v.isNone := by
  cases v <;> cases v' <;> simp [jsonEq, Json.isNone] at h ⊢

theorem sameTextO_cons (k : Bytes) {v v' : Json} {r r' : Obj} (he : jsonEq v v' = true) (h : SameText v v')
    (hs : SameTextO r r') : SameTextO ((k, v) :: r) ((k, v') :: r') :=
  ⟨fun i n => by simp only [dumpObj, h i n, jsonEq_isNone he, hs.1, hs.2], rfl⟩

/-- the number read back is `==` the original and keeps the printed text as its source, so it prints the same -/
theorem load_num (n : Nat) (p : Prim) (h : p.IsInt) (rest : Bytes) (hr : Delim rest) :
    ∃ p', load (n + 1) (p.toStr ++ rest) = .ok (.num p', rest) ∧ primEq p p' = true ∧ p'.toStr = p.toStr := by
  obtain ⟨c, t, hs, hd, hw, _⟩ := toStr_head h
  have hl := loadPrim_toStr_eq (p.toStr ++ rest).length p h rest hr
  have hsk : skipWs (p.toStr ++ rest) = p.toStr ++ rest := by rw [hs]; exact skipWs_cons_nonws _ _ hw
  have hpk : peek (p.toStr ++ rest) = c := by rw [hs]; rfl
  refine ⟨⟨p.reload.1, p.reload.2, p.toStr⟩, ?_, primEq_reload p h _, ?_⟩
  · simp only [load, hsk, hpk, hl]
    rw [if_pos hd]
  · rw [Prim.toStr, hs]
    rfl

mutual
theorem rs_val (v : Json) (hv : RT v) (ind cur rest : Bytes) (n : Nat) (hind : AllWs ind) (hcur : AllWs cur)
    (hr : Delim rest) (hn : need v ≤ n) :
    ∃ v', load n (dump ind cur v ++ rest) = .ok (v', rest) ∧ jsonEq v v' = true ∧ SameText v v' := by
  obtain ⟨n, rfl⟩ : ∃ m, n = m + 1 := ⟨n - 1, by cases v <;> simp only [need] at hn <;> omega⟩
  cases v with
  | none => exact absurd hv not_rt_none
  | null => exact ⟨.null, load_null n rest, rfl, fun _ _ => rfl⟩
  | str s => exact ⟨.str s, load_str n s rest, by simp [jsonEq], fun _ _ => rfl⟩
  | num p =>
    rcases hv with h | rfl | rfl
    · obtain ⟨p', hl, he, hsrc⟩ := load_num n p h rest hr
      exact ⟨.num p', hl, he, fun _ _ => hsrc⟩
    · exact ⟨_, load_false n rest, by decide, fun _ _ => rfl⟩
    · exact ⟨_, load_true n rest, by decide, fun _ _ => rfl⟩
  | arr xs =>
    cases xs with
    | nil =>
      obtain ⟨n, rfl⟩ : ∃ m, n = m + 1 := ⟨n - 1, by simp only [need, needL] at hn; omega⟩
      exact ⟨.arr [], (load_arr_open ..).trans (loadArrLoop_close ..), rfl, fun _ _ => rfl⟩
    | cons x xs =>
      obtain ⟨xs', hl, he, hst⟩ := rs_arrLoop (x :: xs) (by simp) hv ind (cur ++ ind) cur (sepAfter ind true) rest [] n
        hind (allWs_append hcur hind) hcur (allWs_sepAfter_last ind) (by simp only [need] at hn; omega)
      exact ⟨.arr xs', by rw [dump_arr_cons, load_arr_open, hl]; rfl, he, sameText_arr hst⟩
  | obj kvs =>
    cases kvs with
    | nil =>
      obtain ⟨n, rfl⟩ : ∃ m, n = m + 1 := ⟨n - 1, by simp only [need, needO] at hn; omega⟩
      exact ⟨.obj [], (load_obj_open ..).trans (loadObjLoop_close ..), rfl, fun _ _ => rfl⟩
    | cons kv kvs =>
      have htw : AllWs (if ind.isEmpty then [] else cur) := by
        split
        · exact allWs_nil
        · exact hcur
      obtain ⟨kvs', hl, he, hst⟩ := rs_objLoop (kv :: kvs) (by simp) hv.2 hv.1 ind (cur ++ ind) _ (sepAfter ind true) rest [] n
        hind (allWs_append hcur hind) htw (allWs_sepAfter_last ind) (by intro p hp; cases hp) (by simp only [need] at hn; omega)
      exact ⟨.obj kvs', by rw [dump_obj_cons, load_obj_open, hl]; rfl, he, sameText_obj hst⟩
/-- `W`: the whitespace `dump` puts after `[` or a comma -/
theorem rs_arrLoop : ∀ (xs : List Json), xs ≠ [] → RTL xs → ∀ (ind ni cur W rest : Bytes) (acc : List Json) (n : Nat),
    AllWs ind → AllWs ni → AllWs cur → AllWs W → needL xs ≤ n →
    ∃ xs', loadArrLoop n (W ++ (dumpArr ind ni xs ++ (cur ++ cRBrack :: rest))) acc = .ok (.arr (acc ++ xs'), rest)
      ∧ eqList xs xs' = true ∧ SameTextL xs xs'
  | [], h, _, _, _, _, _, _, _, _, _, _, _, _, _ => absurd rfl h
  | x :: xs, _, hRT, ind, ni, cur, W, rest, acc, n, hind, hni, hcur, hW, hn => by
    obtain ⟨hx, hxs⟩ := hRT
    obtain ⟨n, rfl⟩ : ∃ m, n = m + 1 := ⟨n - 1, by simp only [needL] at hn; omega⟩
    simp only [needL] at hn
    rw [dumpArr_cons_append]
    cases xs with
    | nil =>
      have hws := allWs_append (allWs_sepAfter_last ind) hcur
      rw [show sepAfter ind ([] : List Json).isEmpty ++ (dumpArr ind ni [] ++ (cur ++ cRBrack :: rest))
          = (sepAfter ind true ++ cur) ++ cRBrack :: rest by simp [dumpArr]]
      obtain ⟨x', hx', hex, hsx⟩ := rs_val x hx ind ni _ n hind hni (delim_ws_append hws rest (c := cRBrack) (by decide)) (by omega)
      refine ⟨[x'], ?_, by simp [eqList, hex], sameTextL_cons hsx ⟨fun _ _ => rfl, rfl⟩⟩
      rw [loadArrLoop_elem acc (allWs_append hW hni) (dump_head x hx ind ni _) hx', skipWs_allWs_append _ _ hws,
        skipWs_cons_nonws _ _ (by decide)]
      rfl
    | cons y ys =>
      obtain ⟨w, hw, hsep⟩ := sepAfter_more ind
      rw [show sepAfter ind (y :: ys).isEmpty = [cComma, w] from hsep]
      simp only [List.cons_append, List.nil_append]
      obtain ⟨x', hx', hex, hsx⟩ := rs_val x hx ind ni _ n hind hni (delim_cons (c := cComma) _ (by decide)) (by omega)
      obtain ⟨xs', hl, he, hs⟩ := rs_arrLoop (y :: ys) (by simp) hxs ind ni cur [w] rest (acc ++ [x']) n
        hind hni hcur hw (by omega)
      refine ⟨x' :: xs', ?_, by simp [eqList, hex, he], sameTextL_cons hsx hs⟩
      rw [loadArrLoop_elem acc (allWs_append hW hni) (dump_head x hx ind ni _) hx', skipWs_cons_nonws _ _ (by decide)]
      simpa [peek] using hl
/-- `W` as in `rs_arrLoop`; `tw` stands in front of the closing brace (`dump` omits it at the empty indentation) -/
theorem rs_objLoop : ∀ (kvs : Obj), kvs ≠ [] → RTO kvs → Sorted kvs →
    ∀ (ind ni tw W rest : Bytes) (acc : Obj) (n : Nat),
    AllWs ind → AllWs ni → AllWs tw → AllWs W → (∀ p ∈ acc, ∀ q ∈ kvs, p.1 < q.1) → needO kvs ≤ n →
    ∃ kvs', loadObjLoop n true (W ++ (dumpObj ind ni kvs ++ (tw ++ cRBrace :: rest))) acc = .ok (.obj (acc ++ kvs'), rest)
      ∧ eqObj kvs kvs' = true ∧ SameTextO kvs kvs'
  | [], h, _, _, _, _, _, _, _, _, _, _, _, _, _, _, _ => absurd rfl h
  | (k, v) :: r, _, hRT, hS, ind, ni, tw, W, rest, acc, n, hind, hni, htw, hW, hacc, hn => by
    obtain ⟨hk, hv, hr⟩ := hRT
    obtain ⟨hgt, hSr⟩ := hS
    obtain ⟨n, rfl⟩ : ∃ m, n = m + 1 := ⟨n - 1, by simp only [needO] at hn; omega⟩
    simp only [needO] at hn
    -- `acc` holds the members read so far; their keys are below the remaining ones, so `insert` appends
    have hins : ∀ v', insert k v' acc = acc ++ [(k, v')] :=
      fun v' => insert_append v' (fun p hp => hacc p hp (k, v) (by simp))
    have hsp : ∀ X, load n (cSp :: X) = load n X := fun X => load_ws n [cSp] X (allWs_cons (by decide) allWs_nil)
    rw [dumpObj_cons_append W ind ni k hv]
    cases r with
    | nil =>
      have hws := allWs_append (allWs_sepAfter_last ind) htw
      rw [show sepAfter ind ([] : Obj).isEmpty ++ (dumpObj ind ni [] ++ (tw ++ cRBrace :: rest))
          = (sepAfter ind true ++ tw) ++ cRBrace :: rest by simp [dumpObj]]
      obtain ⟨v', hv', hev, hsv⟩ := rs_val v hv ind ni _ n hind hni (delim_ws_append hws rest (c := cRBrace) (by decide)) (by omega)
      refine ⟨[(k, v')], ?_, by simp [eqObj, hev], sameTextO_cons k hev hsv ⟨fun _ _ => rfl, rfl⟩⟩
      rw [loadObjLoop_member acc (allWs_append hW hni) hk ((hsp _).trans hv'), skipWs_allWs_append _ _ hws,
        skipWs_cons_nonws _ _ (by decide), hins]
      rfl
    | cons q r' =>
      obtain ⟨w, hw, hsep⟩ := sepAfter_more ind
      rw [show sepAfter ind (q :: r').isEmpty = [cComma, w] from hsep]
      simp only [List.cons_append, List.nil_append]
      obtain ⟨v', hv', hev, hsv⟩ := rs_val v hv ind ni _ n hind hni (delim_cons (c := cComma) _ (by decide)) (by omega)
      have hacc' : ∀ p ∈ acc ++ [(k, v')], ∀ q' ∈ q :: r', p.1 < q'.1 := by
        intro p hp q' hq'
        rcases List.mem_append.mp hp with hp | hp
        · exact hacc p hp q' (List.mem_cons_of_mem _ hq')
        · simp at hp; subst hp; exact hgt q' hq'
      obtain ⟨kvs', hl, he, hs⟩ := rs_objLoop (q :: r') (by simp) hr hSr ind ni tw [w] rest (acc ++ [(k, v')]) n
        hind hni htw hw hacc' (by omega)
      refine ⟨(k, v') :: kvs', ?_, by simp [eqObj, hev, he], sameTextO_cons k hev hsv hs⟩
      rw [loadObjLoop_member acc (allWs_append hW hni) hk ((hsp _).trans hv'), skipWs_cons_nonws _ _ (by decide), hins]
      simpa [peek] using hl
end

theorem rt_arrLoop : ∀ (xs : List Json), xs ≠ [] → RTL xs → ∀ (ind ni cur W rest : Bytes) (acc : List Json) (n : Nat),
    AllWs ind → AllWs ni → AllWs cur → AllWs W → needL xs ≤ n →
    ∃ xs', loadArrLoop n (W ++ (dumpArr ind ni xs ++ (cur ++ cRBrack :: rest))) acc = .ok (.arr (acc ++ xs'), rest)
      ∧ eqList xs xs' = true :=
  fun xs h hRT ind ni cur W rest acc n hind hni hcur hW hn =>
    let ⟨xs', hl, he, _⟩ := rs_arrLoop xs h hRT ind ni cur W rest acc n hind hni hcur hW hn
    ⟨xs', hl, he⟩

theorem rt_objLoop : ∀ (kvs : Obj), kvs ≠ [] → RTO kvs → Sorted kvs →
    ∀ (ind ni tw W rest : Bytes) (acc : Obj) (n : Nat),
    AllWs ind → AllWs ni → AllWs tw → AllWs W → (∀ p ∈ acc, ∀ q ∈ kvs, p.1 < q.1) → needO kvs ≤ n →
    ∃ kvs', loadObjLoop n true (W ++ (dumpObj ind ni kvs ++ (tw ++ cRBrace :: rest))) acc = .ok (.obj (acc ++ kvs'), rest)
      ∧ eqObj kvs kvs' = true :=
  fun kvs h hRT hS ind ni tw W rest acc n hind hni htw hW hacc hn =>
    let ⟨kvs', hl, he, _⟩ := rs_objLoop kvs h hRT hS ind ni tw W rest acc n hind hni htw hW hacc hn
    ⟨kvs', hl, he⟩

theorem parse_dump_same (v : Json) (hv : RT v) (hn : NoNul v) (ind : Bytes) (hi : AllWs ind) :
    ∃ v', parse (dump ind [] v) = .ok v' ∧ jsonEq v v' = true ∧ SameText v v' := by
  have hnn := noNul_dump v hv hn ind [] hi allWs_nil
  obtain ⟨v', hl, he, hs⟩ := rs_val v hv ind [] [] (parseFuel (dump ind [] v).length) hi allWs_nil (Or.inl rfl)
    (fuel_suffices v hv ind [])
  refine ⟨v', ?_, he, hs⟩
  simp only [List.append_nil] at hl
  unfold parse
  simp only [cstr_noNul _ hnn, hl]

end Occa.Json
