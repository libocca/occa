/-
C19 on numbers: mixed-radix values (`mixed_range`; `digits` and `mixed` undo each other: `digits_mixed`, `mixed_digits`), radices and
digits read in a permuted dimension order, `decode D ord` the inverse of `linear D · ord` (`decode_linear`, `linear_decode`), and the
loop of `dimOrder::isValid` (`orderValidGo_iff`).
-/
import OccaModel.Dim

namespace Occa.Dim

instance (D ix : List Int) : Decidable (InRange D ix) := by unfold InRange; exact inferInstance

theorem mixed_append_last (f : Nat → Int × Int) (l : List Nat) (last : Nat) :
    mixed ((l ++ [last]).map f) = l.foldr (fun o idx => (f o).1 + (f o).2 * idx) (f last).1 := by
  induction l with
  | nil => simp [mixed]
  | cons a t ih => exact congrArg (fun m => (f a).1 + (f a).2 * m) ih

def DigitsOk (l : List (Int × Int)) : Prop := ∀ p ∈ l, 0 ≤ p.1 ∧ p.1 < p.2

theorem mixed_range : ∀ l : List (Int × Int), DigitsOk l → 0 ≤ mixed l ∧ mixed l < prod (l.map Prod.snd)
  | [], _ => by simp [mixed, prod]
  | (x, d) :: r, h => by
    obtain ⟨⟨h0, h1⟩, hr⟩ := List.forall_mem_cons.mp h
    obtain ⟨m0, m1⟩ := mixed_range r hr
    have hd : 0 ≤ d := by omega
    have := Int.mul_nonneg hd m0
    have := Int.mul_le_mul_of_nonneg_left (Int.add_one_le_of_lt m1) hd
    rw [Int.mul_add] at this
    simp only [mixed, List.map_cons, prod]
    omega

def digits : List Int → Int → List Int
  | [], _ => []
  | d :: r, v => v % d :: digits r (v / d)

theorem digits_length : ∀ (ds : List Int) (v : Int), (digits ds v).length = ds.length
  | [], _ => rfl
  | _ :: r, v => by simp [digits, digits_length r]

theorem digits_mixed : ∀ l : List (Int × Int), DigitsOk l → digits (l.map Prod.snd) (mixed l) = l.map Prod.fst
  | [], _ => rfl
  | (x, d) :: r, h => by
    obtain ⟨⟨h0, h1⟩, hr⟩ := List.forall_mem_cons.mp h
    -- the lowest digit is the value mod `d`, the rest its quotient
    simp only [List.map_cons, mixed, digits, Int.add_mul_emod_self_left, Int.emod_eq_of_lt h0 h1,
      Int.add_mul_ediv_left _ _ (Int.ne_of_gt (Int.lt_of_le_of_lt h0 h1)), Int.ediv_eq_zero_of_lt h0 h1, Int.zero_add,
      digits_mixed r hr]

theorem mixed_digits : ∀ (ds : List Int) (v : Int), (∀ d ∈ ds, 0 < d) → 0 ≤ v → v < prod ds →
    DigitsOk ((digits ds v).zip ds) ∧ mixed ((digits ds v).zip ds) = v
  | [], v, _, h0, h1 => by
    simp only [prod] at h1
    exact ⟨by simp [digits, DigitsOk], by simp [digits, mixed]; omega⟩
  | d :: r, v, hpos, h0, h1 => by
    obtain ⟨hd, hr⟩ := List.forall_mem_cons.mp hpos
    obtain ⟨ok, val⟩ := mixed_digits r (v / d) hr (Int.ediv_nonneg h0 (Int.le_of_lt hd))
      (Int.ediv_lt_of_lt_mul hd (by rw [Int.mul_comm]; exact h1))
    simp only [digits, List.zip_cons_cons, mixed, val]
    exact ⟨List.forall_mem_cons.mpr ⟨⟨Int.emod_nonneg _ (Int.ne_of_gt hd), Int.emod_lt_of_pos _ hd⟩, ok⟩,
      Int.emod_add_mul_ediv v d⟩

theorem prod_perm {l₁ l₂ : List Int} (h : l₁.Perm l₂) : prod l₁ = prod l₂ := by
  induction h with
  | nil => rfl
  | cons x _ ih => simp [prod, ih]
  | swap x y l => exact Int.mul_left_comm _ _ _
  | trans _ _ ih1 ih2 => rw [ih1, ih2]

theorem map_getD_range (D : List Int) : (List.range D.length).map (fun o => D.getD o 0) = D := by
  apply List.ext_getElem
  · simp
  · intro i h1 h2
    simp [List.getD_eq_getElem?_getD, h2]

theorem prod_order (D : List Int) (ord : List Nat) (hp : ord.Perm (List.range D.length)) :
    prod (ord.map fun o => D.getD o 0) = prod D := by
  rw [prod_perm (hp.map _), map_getD_range]

theorem perm_range_of_nodup (l : List Nat) (hn : l.Nodup) (hlt : ∀ x ∈ l, x < l.length) :
    l.Perm (List.range l.length) := by
  refine (List.perm_ext_iff_of_nodup hn List.nodup_range).mpr fun a =>
    ⟨fun h => List.mem_range.mpr (hlt a h), fun h => Classical.byContradiction fun ha => ?_⟩
  -- were `a` missing, `l` would fit into the `l.length - 1` other numbers below `l.length`
  have := hn.length_le_of_subset (l₂ := (List.range l.length).erase a) fun x hx =>
    (List.mem_erase_of_ne fun (e : x = a) => ha (e ▸ hx)).mpr (List.mem_range.mpr (hlt x hx))
  rw [List.length_erase_of_mem h, List.length_range] at this
  have := List.mem_range.mp h
  omega

theorem map_getD_idxOf (ord : List Nat) (hn : ord.Nodup) (l : List Int) (hl : l.length = ord.length) :
    ord.map (fun o => l.getD (ord.idxOf o) 0) = l := by
  apply List.ext_getElem
  · simp [hl]
  · intro j h1 h2
    simp [hn.idxOf_getElem, List.getD_eq_getElem?_getD, h2]

theorem mem_order (D : List Int) (ord : List Nat) (hp : ord.Perm (List.range D.length)) (o : Nat) :
    o ∈ ord ↔ o < D.length := by
  rw [hp.mem_iff, List.mem_range]

theorem digitsOk_order (D ix : List Int) (ord : List Nat) (hp : ord.Perm (List.range D.length)) (hr : InRange D ix) :
    DigitsOk (ord.map fun o => (ix.getD o 0, D.getD o 0)) :=
  List.forall_mem_map.mpr fun o ho => hr.2 o ((mem_order D ord hp o).mp ho)

/-- the inverse of `linear D · ord`: decode `v` against the radices in the order `ord`, then put digit `j` at
    position `ord[j]` -/
def decode (D : List Int) (ord : List Nat) (v : Int) : List Int :=
  (List.range D.length).map fun i => (digits (ord.map fun o => D.getD o 0) v).getD (ord.idxOf i) 0

theorem decode_linear (D ix : List Int) (ord : List Nat) (hp : ord.Perm (List.range D.length)) (hr : InRange D ix) :
    decode D ord (linear D ix ord) = ix := by
  have hd := digits_mixed _ (digitsOk_order D ix ord hp hr)
  simp only [List.map_map, Function.comp_def] at hd
  unfold decode linear
  rw [hd, ← hr.1]
  conv => rhs; rw [← map_getD_range ix]
  refine List.map_congr_left fun i hi => ?_
  have hi' : i ∈ ord := (mem_order D ord hp i).mpr (hr.1 ▸ List.mem_range.mp hi)
  simp [List.getD_eq_getElem?_getD, List.idxOf_lt_length_of_mem hi']

theorem linear_decode (D : List Int) (ord : List Nat) (hp : ord.Perm (List.range D.length))
    (hpos : ∀ d ∈ D, 0 < d) (v : Int) (h0 : 0 ≤ v) (h1 : v < prod D) :
    InRange D (decode D ord v) ∧ linear D (decode D ord v) ord = v := by
  let ds := ord.map fun o => D.getD o 0
  have hds : ∀ d ∈ ds, 0 < d := List.forall_mem_map.mpr fun o ho => by
    have ho' := (mem_order D ord hp o).mp ho
    rw [List.getD_eq_getElem?_getD, List.getElem?_eq_getElem ho']
    exact hpos _ (List.getElem_mem ho')
  obtain ⟨ok, val⟩ := mixed_digits ds v hds h0 (by rw [prod_order D ord hp]; exact h1)
  have hzip : (ord.map fun o => ((decode D ord v).getD o 0, D.getD o 0)) = (digits ds v).zip ds := by
    rw [← List.zip_map', ← map_getD_idxOf ord (hp.nodup_iff.mpr List.nodup_range) (digits ds v) (by simp [digits_length, ds])]
    congr 1
    refine List.map_congr_left fun o ho => ?_
    simp [decode, ds, List.getD_eq_getElem?_getD, (mem_order D ord hp o).mp ho]
  rw [← hzip] at ok val
  exact ⟨⟨by simp [decode], fun i hi => List.forall_mem_map.mp ok i ((mem_order D ord hp i).mpr hi)⟩, val⟩

theorem orderValidGo_iff (n : Nat) : ∀ (args : List Int) (seen : List Nat),
    orderValidGo n args seen = true ↔
      (∀ a ∈ args, 0 ≤ a ∧ a < n) ∧ (args.map Int.toNat).Nodup ∧ (∀ a ∈ args, a.toNat ∉ seen)
  | [], seen => by simp [orderValidGo]
  | a :: r, seen => by
    rw [orderValidGo]
    split
    · rename_i h
      simp only [Bool.or_eq_true, decide_eq_true_eq] at h
      refine ⟨nofun, fun ⟨h1, _⟩ => ?_⟩
      have := h1 a List.mem_cons_self
      omega
    · split
      · rename_i _ h
        exact ⟨nofun, fun ⟨_, _, h3⟩ => absurd (List.contains_iff_mem.mp h) (h3 a List.mem_cons_self)⟩
      · rename_i h h'
        simp only [Bool.or_eq_true, decide_eq_true_eq, List.contains_iff_mem] at h h'
        rw [orderValidGo_iff n r (a.toNat :: seen)]
        simp only [List.forall_mem_cons, List.map_cons, List.nodup_cons, List.mem_map]
        simp only [List.mem_cons, not_or]
        constructor
        · rintro ⟨h1, h2, h3⟩
          exact ⟨⟨by omega, h1⟩, ⟨fun ⟨x, hx, e⟩ => (h3 x hx).1 e, h2⟩, h', fun x hx => (h3 x hx).2⟩
        · rintro ⟨⟨_, h1⟩, ⟨h4, h2⟩, _, h3⟩
          exact ⟨h1, h2, fun x hx => ⟨fun e => h4 ⟨x, hx, e⟩, h3 x hx⟩⟩

end Occa.Dim
