/-
The invariant of the handle model and the lemma that destroying a closed set of objects keeps it.

`Killed s K s'`: state `s'` is `s` after exactly the backend objects in `K` were destroyed (their handles
NULLed; of the member rings that survive, no live entry outside `K` is lost).  That the objects of `K` have left
every member ring is said apart (`Purged`); that their own member rings are then empty (`Emptied`) follows for a
closed set (`Closed0.emptied`).  The relation is stated through membership so that it does not depend on the order
in which the rings are walked, and it composes.

`InvX ex s`: `ex` is the set of handles that are in the middle of `X::removeXRef` / `setModeX`: such a
handle has already left the ring of its object but still holds the pointer.  With the empty set (`E`, GcCreate)
this is the invariant of the objects and rings; the invariant at operation boundaries, `Inv` (GcHandle), adds
that no temporary handle exists and every live device has its `currentStream` member.  It is built in three
layers, each the clauses that hold at a class of program points: `Inv00`, the safety clauses that hold also
between `new X` and the registration of the new object; `Inv0` adds that every object is in the ring of its owner,
which a new object is once it is registered; `InvX` adds that nothing is alive without a reference (no leak),
which holds again once the new object has its handle, or an object without one has been destroyed.
-/
import OccaProofs.Lemmas.GcList

namespace Occa.Gc

structure Killed (s : St) (K : List Nat) (s' : St) : Prop where
  next : s'.next = s.next
  kind : s'.kind = s.kind
  trap : s'.trap = s.trap
  useRefs : s'.useRefs = s.useRefs
  inner : s'.inner = s.inner
  vlive : s'.vlive = s.vlive
  alive : ∀ o, s'.alive o = (s.alive o && decide (o ∉ K))
  dtors : ∀ o, s'.dtors o = s.dtors o + K.count o
  ring : ∀ o, s'.ring o = if o ∈ K then [] else s.ring o
  ptrK : ∀ v o, o ∈ K → v ∈ s.ring o → s'.ptr v = none
  ptrU : ∀ v, (∀ o ∈ K, v ∉ s.ring o) → s'.ptr v = s.ptr v
  par : ∀ o, o ∉ K → s.alive o = true → s'.par o = s.par o
  kidsS : ∀ b x, x ∈ s'.kids b → x ∈ s.kids b
  kidsU : ∀ b x, x ∈ s.kids b → s.alive x = true → x ∉ K → b ∉ K → x ∈ s'.kids b
  kidsN : ∀ b, (s.kids b).Nodup → (s'.kids b).Nodup
  chS : ∀ k d x, x ∈ s'.chGet k d → x ∈ s.chGet k d
  chU : ∀ k d x, x ∈ s.chGet k d → s.alive x = true → x ∉ K → d ∉ K → x ∈ s'.chGet k d
  chN : ∀ k d, (s.chGet k d).Nodup → (s'.chGet k d).Nodup

theorem Killed.refl (s : St) : Killed s [] s :=
  ⟨rfl, rfl, rfl, rfl, rfl, rfl, fun _ => (Bool.and_true _).symm, fun _ => rfl, fun _ => rfl,
    fun _ _ h => (nomatch h), fun _ _ => rfl, fun _ _ _ => rfl, fun _ _ h => h, fun _ _ h _ _ _ => h, fun _ h => h,
    fun _ _ _ h => h, fun _ _ _ h _ _ _ => h, fun _ _ h => h⟩

theorem Killed.alive_iff {s s' : St} {K : List Nat} (h : Killed s K s') (o : Nat) :
    s'.alive o = true ↔ s.alive o = true ∧ o ∉ K := by
  rw [h.alive]; simp

theorem Killed.mem_ring {s s' : St} {K : List Nat} (h : Killed s K s') {v : Var} {o : Nat} :
    v ∈ s'.ring o ↔ o ∉ K ∧ v ∈ s.ring o := by
  rw [h.ring]; split <;> simp [*]

theorem Killed.ptr_cases {s s' : St} {K : List Nat} (h : Killed s K s') (v : Var) :
    (s'.ptr v = s.ptr v ∧ ∀ x ∈ K, v ∉ s.ring x) ∨ s'.ptr v = none := by
  by_cases hx : ∃ x ∈ K, v ∈ s.ring x
  · obtain ⟨x, hxK, hv⟩ := hx
    exact Or.inr (h.ptrK v x hxK hv)
  · have hx : ∀ x ∈ K, v ∉ s.ring x := fun x hxK hv => hx ⟨x, hxK, hv⟩
    exact Or.inl ⟨h.ptrU v hx, hx⟩

theorem Killed.ptr_some {s s' : St} {K : List Nat} (h : Killed s K s') {v : Var} {o : Nat}
    (hp : s'.ptr v = some o) : s.ptr v = some o ∧ ∀ x ∈ K, v ∉ s.ring x := by
  rcases h.ptr_cases v with ⟨e, hx⟩ | e
  · exact ⟨e ▸ hp, hx⟩
  · rw [e] at hp; cases hp

theorem Killed.trans {s s1 s2 : St} {K1 K2 : List Nat}
    (h1 : Killed s K1 s1) (h2 : Killed s1 K2 s2) : Killed s (K1 ++ K2) s2 := by
  have al : ∀ {x}, s.alive x = true → x ∉ K1 → s1.alive x = true := fun a b => (h1.alive_iff _).mpr ⟨a, b⟩
  refine ⟨h2.next.trans h1.next, h2.kind.trans h1.kind, h2.trap.trans h1.trap, h2.useRefs.trans h1.useRefs,
    h2.inner.trans h1.inner, h2.vlive.trans h1.vlive, fun o => ?_, fun o => ?_, fun o => ?_, fun v o ho hv => ?_,
    fun v hv => ?_, fun o ho ha => ?_, fun b x => h1.kidsS b x ∘ h2.kidsS b x, fun b x hx ha hxk hbk => ?_,
    fun b => h2.kidsN b ∘ h1.kidsN b, fun k d x => h1.chS k d x ∘ h2.chS k d x,
    fun k d x hx ha hxk hdk => ?_, fun k d => h2.chN k d ∘ h1.chN k d⟩
  · simp [h2.alive, h1.alive, Bool.and_assoc, not_or]
  · rw [h2.dtors, h1.dtors, List.count_append, Nat.add_assoc]
  · rw [h2.ring, h1.ring]
    by_cases a : o ∈ K1 <;> by_cases b : o ∈ K2 <;> simp [a, b]
  · by_cases hk1 : o ∈ K1
    · -- NULL after the first phase, and the second phase keeps it NULL
      rcases h2.ptr_cases v with ⟨e, _⟩ | e
      · rw [e, h1.ptrK v o hk1 hv]
      · exact e
    · exact h2.ptrK v o ((List.mem_append.mp ho).resolve_left hk1) (h1.mem_ring.mpr ⟨hk1, hv⟩)
  · rw [h2.ptrU v fun o ho hv' => hv o (List.mem_append_right _ ho) (h1.mem_ring.mp hv').2,
      h1.ptrU v fun o ho => hv o (List.mem_append_left _ ho)]
  · rw [List.mem_append, not_or] at ho
    rw [h2.par o ho.2 (al ha ho.1), h1.par o ho.1 ha]
  · rw [List.mem_append, not_or] at hxk hbk
    exact h2.kidsU b x (h1.kidsU b x hx ha hxk.1 hbk.1) (al ha hxk.1) hxk.2 hbk.2
  · rw [List.mem_append, not_or] at hxk hdk
    exact h2.chU k d x (h1.chU k d x hx ha hxk.1 hdk.1) (al ha hxk.1) hxk.2 hdk.2

theorem Killed.perm {s s' : St} {K K' : List Nat} (hp : K.Perm K') (h : Killed s K s') : Killed s K' s' := by
  have hm : ∀ o, o ∈ K' ↔ o ∈ K := fun o => hp.mem_iff.symm
  have hc : ∀ o, K'.count o = K.count o := fun o => (hp.count_eq o).symm
  refine ⟨h.next, h.kind, h.trap, h.useRefs, h.inner, h.vlive, ?_, ?_, ?_, ?_, ?_, ?_, h.kidsS, ?_, h.kidsN, h.chS,
    ?_, h.chN⟩
  · simpa only [hm] using h.alive
  · simpa only [hc] using h.dtors
  · simpa only [hm] using h.ring
  · simpa only [hm] using h.ptrK
  · simpa only [hm] using h.ptrU
  · simpa only [hm] using h.par
  · simpa only [hm] using h.kidsU
  · simpa only [hm] using h.chU

/-- the member rings of the destroyed objects are empty afterwards -/
def Emptied (s' : St) (K : List Nat) : Prop :=
  ∀ b ∈ K, s'.kids b = [] ∧ ∀ k, s'.chGet k b = []

theorem Emptied.append {s' : St} {K1 K2 : List Nat} (h1 : Emptied s' K1) (h2 : Emptied s' K2) :
    Emptied s' (K1 ++ K2) := by
  intro b hb
  rcases List.mem_append.mp hb with hb | hb
  · exact h1 b hb
  · exact h2 b hb

theorem Emptied.nil (s : St) : Emptied s [] := by intro b hb; simp at hb

/-- the destroyed objects are members of no ring of children -/
def Purged (s' : St) (K : List Nat) : Prop :=
  (∀ b x, x ∈ s'.kids b → x ∉ K) ∧ (∀ k d x, x ∈ s'.chGet k d → x ∉ K)

theorem Purged.append {s' : St} {K1 K2 : List Nat} (h1 : Purged s' K1) (h2 : Purged s' K2) :
    Purged s' (K1 ++ K2) := by
  constructor
  · intro b x hx hk
    rcases List.mem_append.mp hk with hk | hk
    · exact h1.1 b x hx hk
    · exact h2.1 b x hx hk
  · intro k d x hx hk
    rcases List.mem_append.mp hk with hk | hk
    · exact h1.2 k d x hx hk
    · exact h2.2 k d x hx hk

theorem Purged.nil (s : St) : Purged s [] := ⟨by simp, by simp⟩

theorem Purged.single {s' : St} {o : Nat} (h1 : ∀ b, o ∉ s'.kids b) (h2 : ∀ k d, o ∉ s'.chGet k d) : Purged s' [o] :=
  ⟨fun b _ hx ho => h1 b (List.mem_singleton.mp ho ▸ hx), fun k d _ hx ho => h2 k d (List.mem_singleton.mp ho ▸ hx)⟩

/-- the safety part of the invariant, without "every child is in its device's ring" -/
structure Inv00 (ex : Var → Prop) (s : St) : Prop where
  notrap : s.trap = false
  alive_lt : ∀ o, s.alive o = true → o < s.next
  dtors_eq : ∀ o, s.dtors o = if (o < s.next ∧ s.alive o = false) then 1 else 0
  ptr_ok : ∀ v o, s.ptr v = some o → ¬ ex v →
    (s.alive o = true ∧ s.kind o = v.kind.obj ∧ v ∈ s.ring o)
  ptr_live : ∀ v o, s.ptr v = some o → s.vlive v = true
  ring_ptr : ∀ v o, v ∈ s.ring o → s.ptr v = some o
  ring_nodup : ∀ o, (s.ring o).Nodup
  ex_out : ∀ v, ex v → ∀ o, v ∉ s.ring o
  cur_lt : ∀ d, s.vlive (.cur d) = true → d < s.next
  kids_ok : ∀ b m, m ∈ s.kids b →
    (s.alive m = true ∧ s.kind m = .mem ∧ s.par m = some b ∧ s.alive b = true
      ∧ (s.kind b = .buf ∨ s.kind b = .pool))
  kids_nodup : ∀ b, (s.kids b).Nodup
  ch_ok : ∀ k d c, c ∈ s.chGet k d →
    (s.alive c = true ∧ s.par c = some d ∧ slot (s.kind c) = slot k ∧ s.kind c ≠ .dev ∧ s.kind c ≠ .mem
      ∧ s.alive d = true ∧ s.kind d = .dev)
  ch_nodup : ∀ k d, (s.chGet k d).Nodup
  inner_ok : ∀ p i, s.alive p = true → s.inner p = some i →
    (s.kind p = .pool ∧ s.alive i = true ∧ s.kind i = .buf ∧ s.kids i = [] ∧ s.par i = s.par p
      ∧ ∀ k d, i ∉ s.chGet k d)
  inner_inj : ∀ p q i, s.alive p = true → s.alive q = true → s.inner p = some i → s.inner q = some i → p = q

section
variable {ex : Var → Prop} {s : St} (hi : Inv00 ex s)
include hi

theorem Inv00.kids_alive {b m : Nat} (h : m ∈ s.kids b) : s.alive m = true ∧ s.alive b = true :=
  ⟨(hi.kids_ok b m h).1, (hi.kids_ok b m h).2.2.2.1⟩

theorem Inv00.kids_kind {b m : Nat} (h : m ∈ s.kids b) : s.kind m = .mem ∧ (s.kind b = .buf ∨ s.kind b = .pool) :=
  ⟨(hi.kids_ok b m h).2.1, (hi.kids_ok b m h).2.2.2.2⟩

theorem Inv00.kids_par {b m : Nat} (h : m ∈ s.kids b) : s.par m = some b :=
  (hi.kids_ok b m h).2.2.1

theorem Inv00.kids_inj {b b' m : Nat} (h : m ∈ s.kids b) (h' : m ∈ s.kids b') : b' = b :=
  Option.some.inj ((hi.kids_par h').symm.trans (hi.kids_par h))

theorem Inv00.kids_nil {o : Nat} (h : s.kind o ≠ .buf ∧ s.kind o ≠ .pool) : s.kids o = [] := by
  apply List.eq_nil_iff_forall_not_mem.mpr
  intro m hm
  rcases (hi.kids_kind hm).2 with h1 | h1
  · exact h.1 h1
  · exact h.2 h1

theorem Inv00.ch_child {k : Kind} {d c : Nat} (h : c ∈ s.chGet k d) : s.alive c = true ∧ s.par c = some d :=
  ⟨(hi.ch_ok k d c h).1, (hi.ch_ok k d c h).2.1⟩

theorem Inv00.ch_kind {k : Kind} {d c : Nat} (h : c ∈ s.chGet k d) :
    slot (s.kind c) = slot k ∧ s.kind c ≠ .dev ∧ s.kind c ≠ .mem :=
  ⟨(hi.ch_ok k d c h).2.2.1, (hi.ch_ok k d c h).2.2.2.1, (hi.ch_ok k d c h).2.2.2.2.1⟩

theorem Inv00.ch_dev {k : Kind} {d c : Nat} (h : c ∈ s.chGet k d) : s.alive d = true ∧ s.kind d = .dev :=
  (hi.ch_ok k d c h).2.2.2.2.2

theorem Inv00.ch_nil {o : Nat} (h : s.kind o ≠ .dev) (k : Kind) : s.chGet k o = [] :=
  List.eq_nil_iff_forall_not_mem.mpr fun _ hc => h (hi.ch_dev hc).2

theorem Inv00.inner_kind {p i : Nat} (hp : s.alive p = true) (h : s.inner p = some i) :
    s.kind p = .pool ∧ s.kind i = .buf :=
  ⟨(hi.inner_ok p i hp h).1, (hi.inner_ok p i hp h).2.2.1⟩

theorem Inv00.inner_alive {p i : Nat} (hp : s.alive p = true) (h : s.inner p = some i) : s.alive i = true :=
  (hi.inner_ok p i hp h).2.1

theorem Inv00.inner_kids {p i : Nat} (hp : s.alive p = true) (h : s.inner p = some i) : s.kids i = [] :=
  (hi.inner_ok p i hp h).2.2.2.1

theorem Inv00.inner_par {p i : Nat} (hp : s.alive p = true) (h : s.inner p = some i) : s.par i = s.par p :=
  (hi.inner_ok p i hp h).2.2.2.2.1

theorem Inv00.inner_not_ch {p i : Nat} (hp : s.alive p = true) (h : s.inner p = some i) (k : Kind) (d : Nat) :
    i ∉ s.chGet k d :=
  (hi.inner_ok p i hp h).2.2.2.2.2 k d

theorem Inv00.pool_not_inner {b : Nat} (hk : s.kind b = .pool) : ∀ p, s.alive p = true → s.inner p ≠ some b := by
  exact fun p hpa hin => kind_clash hk (hi.inner_kind hpa hin).2

theorem Inv00.owner_not_inner {b m : Nat} (hm : m ∈ s.kids b) : ∀ p, s.alive p = true → s.inner p ≠ some b := by
  intro p hpa hin
  rw [hi.inner_kids hpa hin] at hm; cases hm

theorem Inv00.buf_ring {b : Nat} (hk : s.kind b = .buf) : s.ring b = [] := by
  apply List.eq_nil_iff_forall_not_mem.mpr
  intro v hv
  have h1 := hi.ring_ptr v b hv
  by_cases hex : ex v
  · exact hi.ex_out v hex b hv
  · have := (hi.ptr_ok v b h1 hex).2.1
    rw [hk] at this
    cases hvk : v.kind <;> simp [HKind.obj, hvk] at this

end

/-- a state that differs from `s` in the device's rings only: of the safety part of the invariant, the clauses
    that read these rings are what is left to show -/
theorem Inv00.of_ch {ex : Var → Prop} {s s' : St} (hi : Inv00 ex s)
    (he : ∃ a b c, s' = { s with dKer := a, dBuf := b, dStr := c })
    (hok : ∀ k d c, c ∈ s'.chGet k d →
      (s.alive c = true ∧ s.par c = some d ∧ slot (s.kind c) = slot k ∧ s.kind c ≠ .dev ∧ s.kind c ≠ .mem
        ∧ s.alive d = true ∧ s.kind d = .dev))
    (hnd : ∀ k d, (s'.chGet k d).Nodup)
    (hin : ∀ p i, s.alive p = true → s.inner p = some i → ∀ k d, i ∉ s'.chGet k d) : Inv00 ex s' := by
  obtain ⟨a, b, c, rfl⟩ := he
  exact { hi with
    ch_ok := hok, ch_nodup := hnd,
    inner_ok := fun p i hpa hpi =>
      let ⟨q1, q2, q3, q4, q5, _⟩ := hi.inner_ok p i hpa hpi; ⟨q1, q2, q3, q4, q5, hin p i hpa hpi⟩ }

/-- … and every object is in the ring of its owner: a child in a ring of its device (an inner buffer: held by a live
    pool), a slice in its buffer's ring -/
structure Inv0 (ex : Var → Prop) (s : St) : Prop extends Inv00 ex s where
  ch_par : ∀ c, s.alive c = true → s.kind c ≠ .dev → s.kind c ≠ .mem →
    ∃ d, s.par c = some d ∧ s.alive d = true ∧ s.kind d = .dev
      ∧ (c ∈ s.chGet (s.kind c) d ∨ (s.kind c = .buf ∧ ∃ p, s.alive p = true ∧ s.inner p = some c))
  mem_par : ∀ m, s.alive m = true → s.kind m = .mem → ∃ b, s.par m = some b ∧ m ∈ s.kids b

/-- safety part plus "nothing is alive without an owner" (no leak) -/
structure InvX (ex : Var → Prop) (s : St) : Prop extends Inv0 ex s where
  ring_ne : ∀ o, s.alive o = true → s.kind o ≠ .buf → s.useRefs o = true →
    (s.ring o ≠ [] ∨ ∃ v, ex v ∧ s.ptr v = some o)
  buf_ne : ∀ b, s.alive b = true → s.kind b = .buf →
    (s.kids b ≠ [] ∨ ∃ p, s.alive p = true ∧ s.inner p = some b)

/-- a set of objects whose destruction keeps the safety part of the invariant (`Inv0.killed`): it contains everything
    its members own, and not the inner buffer of a surviving pool -/
structure Closed0 (s : St) (K : List Nat) : Prop where
  nodup : K.Nodup
  alive : ∀ o ∈ K, s.alive o = true
  kidsC : ∀ b ∈ K, ∀ m ∈ s.kids b, m ∈ K
  innerC : ∀ p ∈ K, ∀ i, s.inner p = some i → i ∈ K
  chC : ∀ d ∈ K, ∀ k, ∀ c ∈ s.chGet k d, c ∈ K
  innerUp : ∀ p i, s.alive p = true → s.inner p = some i → i ∈ K → p ∈ K

/-- … and the no-leak part (`InvX.killed`): no surviving buffer loses its last slice -/
structure Closed (s : St) (K : List Nat) : Prop extends Closed0 s K where
  bufKeep : ∀ b, s.alive b = true → s.kind b = .buf → b ∉ K → s.kids b ≠ [] → ∃ m ∈ s.kids b, m ∉ K

theorem Closed0.emptied {s s' : St} {K : List Nat} (hc : Closed0 s K) (hk : Killed s K s') (hp : Purged s' K) :
    Emptied s' K :=
  fun b hb => ⟨List.eq_nil_iff_forall_not_mem.mpr fun x hx => hp.1 b x hx (hc.kidsC b hb x (hk.kidsS b x hx)),
    fun k => List.eq_nil_iff_forall_not_mem.mpr fun x hx => hp.2 k b x hx (hc.chC b hb k x (hk.chS k b x hx))⟩

theorem Inv00.killed {ex : Var → Prop} {s s' : St} {K : List Nat} (hi : Inv00 ex s) (hk : Killed s K s')
    (hc : Closed0 s K) (hp : Purged s' K) (he : Emptied s' K) : Inv00 ex s' := by
  have al := hk.alive_iff
  constructor
  · exact hk.trap.trans hi.notrap
  · intro o ho
    exact hk.next ▸ hi.alive_lt o ((al o).mp ho).1
  · intro o
    rw [hk.dtors, hk.next, hi.dtors_eq o, hk.alive]
    by_cases hK : o ∈ K
    · simp [hK, hc.alive o hK, hc.nodup.count, hi.alive_lt o (hc.alive o hK)]
    · simp [hK, List.count_eq_zero.mpr hK]
  · intro v o hv hex
    obtain ⟨h1, h2⟩ := hk.ptr_some hv
    obtain ⟨a, b, c⟩ := hi.ptr_ok v o h1 hex
    have hoK : o ∉ K := fun x => h2 o x c
    exact ⟨(al o).mpr ⟨a, hoK⟩, hk.kind ▸ b, hk.mem_ring.mpr ⟨hoK, c⟩⟩
  · intro v o hv
    exact hk.vlive ▸ hi.ptr_live v o (hk.ptr_some hv).1
  · intro v o hv
    obtain ⟨hoK, hv⟩ := hk.mem_ring.mp hv
    have h1 := hi.ring_ptr v o hv
    -- `v` sits in no other ring, since its pointer is `o`
    rw [hk.ptrU v fun x hx hvx => hoK (Option.some.inj (h1.symm.trans (hi.ring_ptr v x hvx)) ▸ hx), h1]
  · intro o
    rw [hk.ring]
    exact nodup_ite_nil (hi.ring_nodup o)
  · intro v hv o ho
    exact hi.ex_out v hv o (hk.mem_ring.mp ho).2
  · intro d hd
    exact hk.next ▸ hi.cur_lt d (hk.vlive ▸ hd)
  · intro b m hm
    obtain ⟨a1, a2, a3, a4, a5⟩ := hi.kids_ok b m (hk.kidsS b m hm)
    have hmK : m ∉ K := hp.1 b m hm
    have hbK : b ∉ K := fun hbK => List.not_mem_nil ((he b hbK).1 ▸ hm)
    exact ⟨(al m).mpr ⟨a1, hmK⟩, hk.kind ▸ a2, (hk.par m hmK a1).trans a3, (al b).mpr ⟨a4, hbK⟩, hk.kind ▸ a5⟩
  · intro b
    exact hk.kidsN b (hi.kids_nodup b)
  · intro k d c hcm
    obtain ⟨a1, a2, a3, a4, a5, a6, a7⟩ := hi.ch_ok k d c (hk.chS k d c hcm)
    have hcK : c ∉ K := hp.2 k d c hcm
    have hdK : d ∉ K := fun hdK => List.not_mem_nil ((he d hdK).2 k ▸ hcm)
    rw [hk.kind]
    exact ⟨(al c).mpr ⟨a1, hcK⟩, (hk.par c hcK a1).trans a2, a3, a4, a5, (al d).mpr ⟨a6, hdK⟩, a7⟩
  · intro k d
    exact hk.chN k d (hi.ch_nodup k d)
  · intro p i hpa hpi
    rw [hk.inner] at hpi
    obtain ⟨hp1, hp2⟩ := (al p).mp hpa
    obtain ⟨q1, q2, q3, q4, q5, q6⟩ := hi.inner_ok p i hp1 hpi
    have hiK : i ∉ K := fun x => hp2 (hc.innerUp p i hp1 hpi x)
    rw [hk.kind, hk.par i hiK q2, hk.par p hp2 hp1]
    exact ⟨q1, (al i).mpr ⟨q2, hiK⟩, q3, List.eq_nil_of_subset_nil (q4 ▸ hk.kidsS i), q5,
      fun k d hx => q6 k d (hk.chS k d i hx)⟩
  · intro p q i hpa hqa hpi hqi
    rw [hk.inner] at hpi hqi
    exact hi.inner_inj p q i ((al p).mp hpa).1 ((al q).mp hqa).1 hpi hqi

theorem Inv0.killed {ex : Var → Prop} {s s' : St} {K : List Nat} (hi : Inv0 ex s) (hk : Killed s K s')
    (hc : Closed0 s K) (hp : Purged s' K) (he : Emptied s' K) : Inv0 ex s' := by
  have al := hk.alive_iff
  refine ⟨hi.toInv00.killed hk hc hp he, ?_, ?_⟩
  · intro c hca hk1 hk2
    rw [hk.kind] at hk1 hk2
    obtain ⟨hc1, hc2⟩ := (al c).mp hca
    obtain ⟨d, hd1, hd2, hd3, hd4⟩ := hi.ch_par c hc1 hk1 hk2
    have hdK : d ∉ K := by
      intro hdK
      rcases hd4 with hd4 | ⟨hkb, p, hp1, hp2⟩
      · exact hc2 (hc.chC d hdK _ c hd4)
      · -- c is the inner buffer of pool p, which is a child of d
        have q1 := (hi.inner_kind hp1 hp2).1
        obtain ⟨d', e1, e2, e3, e4⟩ := hi.ch_par p hp1 (by rw [q1]; decide) (by rw [q1]; decide)
        obtain rfl : d' = d := Option.some.inj (e1.symm.trans ((hi.inner_par hp1 hp2).symm.trans hd1))
        rcases e4 with e4 | ⟨e5, _⟩
        · exact hc2 (hc.innerC p (hc.chC d' hdK _ p e4) c hp2)
        · exact kind_clash q1 e5
    rw [hk.kind, hk.par c hc2 hc1]
    refine ⟨d, hd1, (al d).mpr ⟨hd2, hdK⟩, hd3, ?_⟩
    rcases hd4 with hd4 | ⟨hkb, p, hp1, hp2⟩
    · exact Or.inl (hk.chU _ d c hd4 hc1 hc2 hdK)
    · exact Or.inr ⟨hkb, p, (al p).mpr ⟨hp1, fun hpK => hc2 (hc.innerC p hpK c hp2)⟩, hk.inner ▸ hp2⟩
  · intro m hm hkm
    rw [hk.kind] at hkm
    obtain ⟨hm1, hm2⟩ := (al m).mp hm
    obtain ⟨b, hb1, hb2⟩ := hi.mem_par m hm1 hkm
    exact ⟨b, (hk.par m hm2 hm1).trans hb1,
      hk.kidsU b m hb2 hm1 hm2 fun hbK => hm2 (hc.kidsC b hbK m hb2)⟩

/-- the no-leak clauses for one object: a handle refers to it (a buffer: it has a slice, or is the inner buffer of a
    live pool) -/
def Held (ex : Var → Prop) (s : St) (x : Nat) : Prop :=
  (s.kind x ≠ .buf → s.useRefs x = true → (s.ring x ≠ [] ∨ ∃ v, ex v ∧ s.ptr v = some x))
    ∧ (s.kind x = .buf → (s.kids x ≠ [] ∨ ∃ p, s.alive p = true ∧ s.inner p = some x))

/-- `InvX` with the no-leak clauses waived for the objects `N`: those between their creation and their first
    reference, or between the loss of their last reference and their destruction -/
structure InvN (ex : Var → Prop) (N : Nat → Prop) (s : St) : Prop extends Inv0 ex s where
  held : ∀ x, ¬ N x → s.alive x = true → Held ex s x

abbrev N0 : Nat → Prop := fun _ => False

section
variable {ex : Var → Prop} {N N' : Nat → Prop} {s s' : St} {K : List Nat}

theorem InvX.toN (h : InvX ex s) : InvN ex N0 s := ⟨h.toInv0, fun x _ a => ⟨h.ring_ne x a, h.buf_ne x a⟩⟩

theorem InvN.toX (h : InvN ex N0 s) : InvX ex s :=
  ⟨h.toInv0, fun x a => (h.held x id a).1, fun x a => (h.held x id a).2⟩

/-- Of the no-leak clauses only those of the survivors are used, so the waived objects may die (`hN`), and a buffer
    may lose its last slice if it is waived afterwards (`hkeep`) -/
theorem InvN.killed (hi : InvN ex N s) (hk : Killed s K s') (hc : Closed0 s K) (hp : Purged s' K)
    (hN : ∀ x, N x → x ∉ K → N' x)
    (hkeep : ∀ b, ¬ N' b → s.alive b = true → s.kind b = .buf → b ∉ K → s.kids b ≠ [] → ∃ m ∈ s.kids b, m ∉ K) :
    InvN ex N' s' := by
  refine ⟨hi.toInv0.killed hk hc hp (hc.emptied hk hp), fun x hxN hxa => ?_⟩
  have al := hk.alive_iff
  obtain ⟨hx1, hx2⟩ := (al x).mp hxa
  have hx := hi.held x (fun n => hxN (hN x n hx2)) hx1
  constructor <;> rw [hk.kind]
  · rw [hk.useRefs, hk.ring, if_neg hx2]
    intro hko hu
    rcases hx.1 hko hu with h | ⟨v, hv1, hv2⟩
    · exact Or.inl h
    · exact Or.inr ⟨v, hv1, (hk.ptrU v fun x _ => hi.ex_out v hv1 x).trans hv2⟩
  · intro hkb
    rcases hx.2 hkb with h | ⟨p, hp1, hp2⟩
    · obtain ⟨m, hm1, hm2⟩ := hkeep x hxN hx1 hkb hx2 h
      exact Or.inl (List.ne_nil_of_mem (hk.kidsU x m hm1 (hi.kids_alive hm1).1 hm2 hx2))
    · exact Or.inr ⟨p, (al p).mpr ⟨hp1, fun hpK => hx2 (hc.innerC p hpK x hp2)⟩, hk.inner ▸ hp2⟩

theorem InvX.kill (hi : InvX ex s) (hk : Killed s K s') (hc : Closed s K) (hp : Purged s' K) : InvX ex s' :=
  (hi.toN.killed hk hc.toClosed0 hp (fun _ n _ => n) fun b _ => hc.bufKeep b).toX

theorem InvX.killed {ex : Var → Prop} {s s' : St} {K : List Nat} (hi : InvX ex s) (hk : Killed s K s')
    (hc : Closed s K) (hp : Purged s' K) (he : Emptied s' K) : InvX ex s' :=
  hi.kill hk hc hp

theorem Closed0.nil (s : St) : Closed0 s [] := ⟨.nil, nofun, nofun, nofun, nofun, nofun⟩

/-- edits that concern destroyed objects only -/
theorem InvN.edit {s1 : St} (hi : InvN ex N s) (hk : Killed s [] s1) : InvN ex N s1 :=
  hi.killed hk (.nil s) (.nil s1) (fun _ n _ => n) fun _ _ _ _ _ hne =>
    let ⟨m, hm⟩ := List.exists_mem_of_ne_nil _ hne
    ⟨m, hm, List.not_mem_nil⟩

end

end Occa.Gc
