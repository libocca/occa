/-
`~modeBuffer_t` and `delete` of a buffer or memory pool (`deleteBuf`): the objects destroyed (`bufK`) form
a closed set.
-/
import OccaProofs.Lemmas.GcEdit

namespace Occa.Gc

-- as in GcEdit: keeps the comparison of a state with an updated state from evaluating `upd`
attribute [local irreducible] upd

/-- `~modeBuffer_t` after the loop over the slices -/
def dtorBufTail (s : St) (b : Nat) : St :=
  match s.par b with
  | none => s
  | some d =>
    let s := s.touch d
    let s := s.addBytes d (- (s.size b : Int))
    s.chSet .buf d (Ring.remove (s.chGet .buf d) b)

theorem dtorBufBase_unfold (s : St) (b : Nat) :
    dtorBufBase s b = dtorBufTail (destroySlices (s.kids b).length s b) b := rfl

theorem dtorBufTail_spec {s : St} {b d : Nat} (hp : s.par b = some d) (hb : s.alive b = false)
    (hd : s.alive d = true) (hdn : (s.chGet .buf d).Nodup) :
    Killed s [] (dtorBufTail s b) ∧ b ∉ (dtorBufTail s b).chGet .buf d
      ∧ (dtorBufTail s b).par = s.par ∧ (dtorBufTail s b).kids = s.kids := by
  have he : dtorBufTail s b = (s.addBytes d (- (s.size b : Int))).chSet .buf d
      (Ring.remove ((s.addBytes d (- (s.size b : Int))).chGet .buf d) b) := by
    unfold dtorBufTail
    simp only [hp, St.touch_alive hd]
  rw [he]
  refine ⟨?_, ?_, rfl, rfl⟩
  · exact Killed.pre_edit (preEdit_addBytes d _) (preEdit_chSet_remove (s := s.addBytes d _) .buf d b hdn (Or.inr hb)).killed
  · rw [chGet_chSet]
    simp only [and_self, if_true]
    exact Ring.not_mem_remove hdn b

/-- the pool's `buffer`, which is destroyed with the pool; a plain buffer has none -/
def innerOf (s : St) (b : Nat) : Option Nat := if s.kind b = .pool then s.inner b else none

theorem innerOf_eq_some {s : St} {b i : Nat} : innerOf s b = some i ↔ s.kind b = .pool ∧ s.inner b = some i := by
  unfold innerOf
  split <;> simp [*]

/-- the objects destroyed by `delete` of a buffer / pool -/
def bufK (s : St) (b : Nat) : List Nat := [b] ++ (innerOf s b).toList ++ s.kids b

theorem mem_bufK (s : St) (b x : Nat) :
    x ∈ bufK s b ↔ (x = b ∨ (s.kind b = .pool ∧ s.inner b = some x) ∨ x ∈ s.kids b) := by
  rw [← innerOf_eq_some]
  unfold bufK
  cases innerOf s b <;> simp [eq_comm]

theorem self_mem_bufK (s : St) (b : Nat) : b ∈ bufK s b := (mem_bufK s b b).mpr (Or.inl rfl)

/-- `delete` of a buffer or pool, once `died` and the loop over the wrappers are in closed form (a plain buffer has
    no wrapper, `hr`): `if (buffer) delete buffer;` of a pool, then `~modeBuffer_t` -/
theorem deleteBuf_unfold {s : St} {b : Nat} (ha : s.alive b = true) (hn : (s.ring b).Nodup)
    (hr : s.kind b ≠ .pool → s.ring b = []) :
    deleteBuf s b = dtorBufBase (match innerOf s b with
      | none => killForm s b
      | some i => dtorBufBase ((killForm s b).died i) i) b := by
  unfold deleteBuf innerOf
  simp only [died_kind]
  split
  · rw [nullWrappers_died_eq ha hn]; rfl
  · rw [died_eq_killForm ha (hr ‹_›)]

/-- what `~modeBuffer_t` of `x` (device `d`, slices `M`) makes of `t`, beside the `Killed` fact: `x` has no slice and
    is out of the device's ring; `par` and `kids` of the other objects, dead ones too, are as they were (the destructor
    of a pool still reads them of the pool after its inner buffer has gone through here) -/
structure BufGone (t t' : St) (x d : Nat) (M : List Nat) : Prop where
  kids_nil : t'.kids x = []
  not_ch : x ∉ t'.chGet .buf d
  par : ∀ y, y ∉ M → t'.par y = t.par y
  kids : ∀ y, y ≠ x → t'.kids y = t.kids y

/-- `~modeBuffer_t` of `x` in a state `t` where the objects `K ∋ x` are already destroyed, but neither the
    slices of `x` nor its device: the slices go too -/
theorem dtorBufBase_after {ex : Var → Prop} {s t : St} {K : List Nat} {x d : Nat} (hi : Inv00 ex s)
    (hK : Killed s K t) (hxK : x ∈ K) (hdK : d ∉ K) (hda : s.alive d = true) (hdk : s.kind d = .dev)
    (hkx : s.kind x ≠ .mem) (hslices : ∀ m ∈ s.kids x, m ∉ K) (hp : t.par x = some d)
    (hkids : t.kids x = s.kids x) :
    Killed s (K ++ s.kids x) (dtorBufBase t x) ∧ BufGone t (dtorBufBase t x) x d (s.kids x) := by
  have hdx : d ∉ s.kids x := fun h => kind_clash hdk (hi.kids_kind h).1
  obtain ⟨k1, k2, k3, k4⟩ := destroySlices_killed x _ t rfl (hkids ▸ hi.kids_nodup x) fun m hm =>
    have hm := hkids ▸ hm
    ⟨(hK.alive_iff m).mpr ⟨(hi.kids_alive hm).1, hslices m hm⟩,
      by rw [hK.ring, if_neg (hslices m hm)]; exact hi.ring_nodup m⟩
  rw [dtorBufBase_unfold]
  generalize destroySlices (t.kids x).length t x = t1 at *
  rw [hkids] at k1 k3
  obtain ⟨e1, e2, e3, e4⟩ := dtorBufTail_spec (s := t1) (b := x) ((k3 x fun h => hkx (hi.kids_kind h).1).trans hp)
    (by rw [k1.alive, hK.alive]; simp [hxK]) (by rw [k1.alive, hK.alive]; simp [hda, hdK, hdx])
    (k1.chN _ _ (hK.chN _ _ (hi.ch_nodup .buf d)))
  exact ⟨hK.trans (by simpa using k1.trans e1),
    e4 ▸ k2, e2, fun y hy => e3 ▸ k3 y hy, fun y hy => e4 ▸ k4 y hy⟩

theorem deleteBuf_core {ex : Var → Prop} {s : St} {b d : Nat} (hi : Inv00 ex s) (ha : s.alive b = true)
    (hk : s.kind b = .buf ∨ s.kind b = .pool) (hp : s.par b = some d) (hda : s.alive d = true)
    (hdk : s.kind d = .dev) :
    Killed s (bufK s b) (deleteBuf s b) ∧ (deleteBuf s b).kids b = []
      ∧ b ∉ (deleteBuf s b).chGet .buf d := by
  obtain ⟨hkd, hkm⟩ := bufpool_ne hk
  have hdb : d ≠ b := by intro h; rw [h] at hdk; exact hkd hdk
  have hmb : ∀ m ∈ s.kids b, m ≠ b := fun m hm h => hkm (h ▸ (hi.kids_kind hm).1)
  rw [deleteBuf_unfold ha (hi.ring_nodup b) fun h => hi.buf_ring (hk.resolve_right h)]
  unfold bufK
  cases hio : innerOf s b with
  | none =>
    obtain ⟨b1, g⟩ := dtorBufBase_after hi (killForm_killed (s := s) (o := b)) (List.mem_singleton_self b)
      (fun h => hdb (List.mem_singleton.mp h)) hda hdk hkm (fun m hm h => hmb m hm (List.mem_singleton.mp h)) hp rfl
    exact ⟨b1, g.kids_nil, g.not_ch⟩
  | some i =>
    obtain ⟨hkp, hin⟩ := innerOf_eq_some.mp hio
    have q3 := (hi.inner_kind ha hin).2
    have q4 := hi.inner_kids ha hin
    have hib : i ≠ b := ne_of_kind q3 hkp
    have hdi : d ≠ i := ne_of_kind hdk q3
    let s1 := killForm s b
    dsimp only
    rw [died_eq_killForm (s := s1) (by simp [s1, killForm, upd_apply, hib, hi.inner_alive ha hin])
      (by simp [s1, killForm, upd_apply, hib, hi.buf_ring q3])]
    have hdK : d ∉ [b] ++ [i] := by simp [hdb, hdi]
    -- first the inner buffer (it has no slices), then the pool itself
    obtain ⟨c1, gi⟩ := dtorBufBase_after (x := i) hi
      ((killForm_killed (s := s) (o := b)).trans (killForm_killed (s := s1) (o := i))) (by simp) hdK hda hdk
      (by rw [q3]; decide) (by rw [q4]; simp) ((hi.inner_par ha hin).trans hp) rfl
    rw [q4, List.append_nil] at c1
    generalize dtorBufBase (killForm s1 i) i = s3 at *
    obtain ⟨e1, g⟩ := dtorBufBase_after (x := b) hi c1 (by simp) hdK hda hdk hkm
      (fun m hm h => by
        rcases List.mem_append.mp h with h | h
        · exact hmb m hm (List.mem_singleton.mp h)
        · exact kind_clash (List.mem_singleton.mp h ▸ (hi.kids_kind hm).1) q3)
      ((gi.par b (by rw [q4]; simp)).trans hp) (gi.kids b hib.symm)
    exact ⟨e1, g.kids_nil, g.not_ch⟩

theorem bufK_cases {ex : Var → Prop} {s : St} {b x : Nat} (hi : Inv00 ex s) (ha : s.alive b = true)
    (hx : x ∈ bufK s b) :
    x = b ∨ (s.kind b = .pool ∧ s.inner b = some x ∧ s.kind x = .buf ∧ s.alive x = true ∧ s.kids x = [])
      ∨ (x ∈ s.kids b ∧ s.kind x = .mem ∧ s.alive x = true) := by
  rcases (mem_bufK s b x).mp hx with h | ⟨h1, h2⟩ | h
  · exact Or.inl h
  · exact Or.inr (Or.inl ⟨h1, h2, (hi.inner_kind ha h2).2, hi.inner_alive ha h2, hi.inner_kids ha h2⟩)
  · exact Or.inr (Or.inr ⟨h, (hi.kids_kind h).1, (hi.kids_alive h).1⟩)

theorem bufK_ne_dev {ex : Var → Prop} {s : St} {b x : Nat} (hi : Inv00 ex s) (ha : s.alive b = true)
    (hk : s.kind b = .buf ∨ s.kind b = .pool) (hx : x ∈ bufK s b) : s.kind x ≠ .dev := by
  rcases bufK_cases hi ha hx with rfl | ⟨_, _, h, _, _⟩ | ⟨_, h, _⟩
  · exact (bufpool_ne hk).1
  · rw [h]; decide
  · rw [h]; decide

theorem bufK_slice {ex : Var → Prop} {s : St} {b b' m : Nat} (hi : Inv00 ex s) (ha : s.alive b = true)
    (hk : s.kind b = .buf ∨ s.kind b = .pool) (hm : m ∈ s.kids b') (hmK : m ∈ bufK s b) : b' = b := by
  have hmk := (hi.kids_kind hm).1
  rcases bufK_cases hi ha hmK with h | ⟨_, _, h1, _, _⟩ | ⟨h1, _, _⟩
  · exact absurd (h ▸ hmk) (bufpool_ne hk).2
  · exact kind_clash hmk h1
  · exact hi.kids_inj h1 hm

theorem bufK_nodup {ex : Var → Prop} {s : St} {b : Nat} (hi : Inv00 ex s) (ha : s.alive b = true)
    (hk : s.kind b = .buf ∨ s.kind b = .pool) : (bufK s b).Nodup := by
  have hbk : b ∉ s.kids b := fun h => (bufpool_ne hk).2 (hi.kids_kind h).1
  unfold bufK
  cases hio : innerOf s b with
  | none => exact List.nodup_cons.mpr ⟨hbk, hi.kids_nodup b⟩
  | some i =>
    obtain ⟨hp, hin⟩ := innerOf_eq_some.mp hio
    have q3 := (hi.inner_kind ha hin).2
    have hib : b ≠ i := ne_of_kind hp q3
    have hik : i ∉ s.kids b := fun h => kind_clash q3 (hi.kids_kind h).1
    exact List.nodup_cons.mpr ⟨by simp [hib, hbk], List.nodup_cons.mpr ⟨hik, hi.kids_nodup b⟩⟩

theorem bufK_closed {ex : Var → Prop} {s : St} {b : Nat} (hi : Inv00 ex s) (ha : s.alive b = true)
    (hk : s.kind b = .buf ∨ s.kind b = .pool) (hni : ∀ p, s.alive p = true → s.inner p ≠ some b) :
    Closed s (bufK s b) := by
  have hcase := fun x hx => bufK_cases (x := x) hi ha hx
  refine ⟨⟨bufK_nodup hi ha hk, ?_, ?_, ?_, ?_, ?_⟩, ?_⟩
  · intro o ho
    rcases hcase o ho with h | ⟨_, _, _, h, _⟩ | ⟨_, _, h⟩
    · rw [h]; exact ha
    · exact h
    · exact h
  · intro o ho m hm
    rcases hcase o ho with h | ⟨_, _, _, _, h⟩ | ⟨_, h, _⟩
    · subst h; exact (mem_bufK s o m).mpr (Or.inr (Or.inr hm))
    · rw [h] at hm; simp at hm
    · exact (hi.kids_kind hm).2.elim (fun e => kind_clash h e) fun e => kind_clash h e
  · intro p hp i hin
    rcases hcase p hp with h | ⟨_, _, h1, h2, _⟩ | ⟨_, h1, h2⟩
    · subst h
      exact (mem_bufK s p i).mpr (Or.inr (Or.inl ⟨(hi.inner_kind ha hin).1, hin⟩))
    · exact kind_clash h1 (hi.inner_kind h2 hin).1
    · exact kind_clash h1 (hi.inner_kind h2 hin).1
  · intro d hd k c hc
    exact absurd (hi.ch_dev hc).2 (bufK_ne_dev hi ha hk hd)
  · intro p i hpa hin hiK
    rcases hcase i hiK with h | ⟨_, h1, _, _, _⟩ | ⟨_, h1, _⟩
    · subst h; exact absurd hin (hni p hpa)
    · have := hi.inner_inj p b i hpa ha hin h1
      rw [this]; exact self_mem_bufK s b
    · exact kind_clash h1 (hi.inner_kind hpa hin).2
  · intro b' hb'a hb'k hb'K hne
    obtain ⟨m, hm⟩ := List.exists_mem_of_ne_nil _ hne
    refine ⟨m, hm, fun hmK => hb'K ?_⟩
    rw [bufK_slice hi ha hk hm hmK]
    exact self_mem_bufK ..

theorem deleteBuf_spec {ex : Var → Prop} {s : St} {b : Nat} (hi : Inv00 ex s) (ha : s.alive b = true)
    (hk : s.kind b = .buf ∨ s.kind b = .pool) {d : Nat} (hp : s.par b = some d) (hda : s.alive d = true)
    (hdk : s.kind d = .dev) :
    Killed s (bufK s b) (deleteBuf s b) ∧ Purged (deleteBuf s b) (bufK s b) := by
  obtain ⟨hkil, hk0, hnb⟩ := deleteBuf_core hi ha hk hp hda hdk
  have hcase := fun x hx => bufK_cases (x := x) hi ha hx
  have hslot : slot (s.kind b) = .buf := by rcases hk with h | h <;> rw [h] <;> rfl
  refine ⟨hkil, ?_, ?_⟩
  · intro b' x hx hxK
    rw [bufK_slice hi ha hk (hkil.kidsS b' x hx) hxK, hk0] at hx
    cases hx
  · intro k d' x hx hxK
    have hx0 := hkil.chS k d' x hx
    rcases hcase x hxK with h | ⟨_, h1, _, _, _⟩ | ⟨_, h1, _⟩
    · subst h
      have e1 := (hi.ch_child hx0).2
      rw [hp] at e1
      cases e1
      have e2 : slot k = .buf := by rw [← (hi.ch_kind hx0).1]; exact hslot
      rw [chGet_slot, e2] at hx
      exact hnb hx
    · exact hi.inner_not_ch ha h1 k d' hx0
    · exact (hi.ch_kind hx0).2.2 h1

/-- `delete` of a buffer or pool, in the state `t` in which its device may already have taken it out of its ring
    (`freeRing`; for a delete through a handle `t` is `s`).  The buffer may be one that has lost its last slice (`hN`) -/
theorem InvN.del_buf_after {ex : Var → Prop} {N : Nat → Prop} {s t : St} {b : Nat} (hi : InvN ex N s)
    (hN : ∀ x, N x → x ∈ bufK s b) (pe : PreEdit s t (bufK s b)) (hit : Inv00 ex t) (hp : t.par b = s.par b)
    (hK : bufK t b = bufK s b) (ha : s.alive b = true) (hk : s.kind b = .buf ∨ s.kind b = .pool)
    (hni : ∀ p, s.alive p = true → s.inner p ≠ some b) :
    InvX ex (deleteBuf t b) ∧ Killed s (bufK s b) (deleteBuf t b) := by
  obtain ⟨hkd, hkm⟩ := bufpool_ne hk
  obtain ⟨d, hd, hda, hdk, _⟩ := hi.ch_par b ha hkd hkm
  have sp := deleteBuf_spec hit (pe.alive ▸ ha) (pe.kind ▸ hk) (hp.trans hd) (pe.alive ▸ hda) (pe.kind ▸ hdk)
  rw [hK] at sp
  have hkil := Killed.pre_edit pe sp.1
  have hc := bufK_closed hi.toInv00 ha hk hni
  exact ⟨(hi.killed hkil hc.toClosed0 sp.2 (fun x n h => (h (hN x n)).elim) fun b' _ => hc.bufKeep b').toX, hkil⟩

theorem InvN.del_buf {ex : Var → Prop} {N : Nat → Prop} {s : St} {b : Nat} (hi : InvN ex N s)
    (hN : ∀ x, N x → x ∈ bufK s b) (ha : s.alive b = true) (hk : s.kind b = .buf ∨ s.kind b = .pool)
    (hni : ∀ p, s.alive p = true → s.inner p ≠ some b) :
    InvX ex (deleteBuf s b) ∧ Killed s (bufK s b) (deleteBuf s b) :=
  hi.del_buf_after hN (PreEdit.refl s _) hi.toInv00 rfl rfl ha hk hni

end Occa.Gc
