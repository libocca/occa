/-
Concrete specifications, configurations, file systems and traces used by the `example`s beside the
property theorems of Props/C08.lean and Props/C09.lean (they show that the hypotheses are satisfiable).
-/
import OccaProofs.Lemmas.BuildFSSched

namespace Occa.BuildFS.Examples
open Occa Occa.BuildFS

def exSpec : Spec where
  valid := fun p bs => if p.base = "binary" ∨ p.base = "build.log" then bs == [9] else bs == [1]
  compile := fun _ _ => [9]
  recipe := fun p =>
    if p.base = "binary" ∨ p.base = "build.log" then
      some (if p.dir = "V" then "findCompilerVendor.cpp" else if p.dir = "O" then "compilerSupportsOpenMP.cpp" else "k.source.cpp")
    else none

theorem exSpec_coherent : exSpec.Coherent := by
  intro src out s _ hr _ _
  simp only [exSpec, Path.final] at hr ⊢
  split at hr
  · rename_i h; simp [h]
  · cases hr

def exToks (n : Nat) : String := String.ofList (List.replicate n 'a')

theorem exToks_inj : ∀ i j, exToks i = exToks j → i = j := by
  intro i j h
  have : (exToks i).toList.length = (exToks j).toList.length := by rw [h]
  simpa [exToks] using this

def exCfg : Config :=
  { openmp := true, fromString := true, silent := false, parseOk := true, kdir := "K", vdir := "V", odir := "O",
    rawBase := "k.raw_source.cpp", cppBase := "k.source.cpp", str := [1], raw := [1], cpp := [1], json := [1],
    vsrc := [1], vout := [1], osrc := [1], oout := [1], ooutNA := [1], toks := exToks }

theorem cfgOK_toks (toks : Nat → String) (h : ∀ i j, toks i = toks j → i = j) :
    CfgOK exSpec { exCfg with toks := toks } :=
  { toks_inj := h, v_str := rfl, v_raw := rfl, v_cpp := rfl, v_json := rfl,
    v_vsrc := rfl, v_vout := rfl, v_osrc := rfl, v_oout := rfl, v_ooutNA := rfl,
    r_kbin := rfl, r_vbin := rfl, r_vlog := rfl, r_obin := rfl }

theorem exCfg_ok : CfgOK exSpec exCfg := cfgOK_toks exToks exToks_inj

/-- a Good state with debris: an empty cache plus a half-written temp-named binary of a dead process -/
def exFS : FS := FS.empty.setFile ⟨"K", some "deadbeef", "binary"⟩ (some ⟨[7], false⟩)

theorem exFS_good : Good exSpec exFS := by
  intro p f hp hf
  simp only [exFS, FS.setFile, FS.empty] at hf
  split at hf
  · rename_i h; rw [h] at hp; cases hp
  · cases hf

theorem exFS_fresh : TokFresh exCfg exFS := by
  intro p ⟨i, hi⟩
  simp only [exFS, FS.setFile, FS.empty]
  split
  · rename_i h
    rw [h] at hi
    simp only [exCfg, Option.some.injEq] at hi
    have : ("deadbeef" : String).toList = List.replicate i 'a' := by rw [hi]; simp [exToks]
    exact absurd ((List.eq_replicate_iff.1 this).2 'd' (by decide)) (by decide)
  · rfl

def exSpec9 : Spec where
  valid := fun _ bs => bs == [1]
  compile := fun _ _ => [1]
  recipe := fun _ => none

def fin : Path := ⟨"K", none, "build.json"⟩
def ta : Path := ⟨"K", some "aaaa", "build.json"⟩
def tb : Path := ⟨"K", some "bbbb", "build.json"⟩

/-- two processes whose steps alternate, each staging its own temp file for the same final name -/
def exTrace : Trace :=
  [⟨1, .creat ta, true⟩, ⟨2, .creat tb, true⟩, ⟨1, .append ta [1], true⟩, ⟨2, .append tb [1], true⟩,
   ⟨2, .close tb, true⟩, ⟨1, .close ta, true⟩, ⟨2, .rename tb fin, true⟩, ⟨1, .openRead fin, true⟩,
   ⟨1, .rename ta fin, true⟩, ⟨2, .openRead fin, true⟩]

def mkTok (i n : Nat) : String := String.ofList (List.replicate i 'b' ++ 'c' :: List.replicate n 'a')

theorem mkTok_inj (i j n m : Nat) (h : mkTok i n = mkTok j m) : i = j ∧ n = m := by
  have hl : (List.replicate i 'b' ++ 'c' :: List.replicate n 'a') = (List.replicate j 'b' ++ 'c' :: List.replicate m 'a') := by
    have := congrArg String.toList h
    simpa [mkTok] using this
  have h1 := congrArg (List.count 'b') hl
  have h2 := congrArg List.length hl
  simp [List.count_append, List.count_replicate] at h1
  simp at h2
  omega

def spec2 : Spec where
  valid := fun p bs => if p.base = "binary" ∨ p.base = "build.log" then bs == [9] else bs == [1]
  compile := fun _ _ => [9]
  recipe := fun p =>
    if p.base = "binary" ∨ p.base = "build.log" then
      some (if p.dir = "V" then "findCompilerVendor.cpp" else if p.dir = "O" then "compilerSupportsOpenMP.cpp" else "k.source.cpp")
    else none

theorem spec2_coherent : spec2.Coherent := exSpec_coherent

/-- every process builds the SAME kernel (same directories), OpenMP, from a string; process i's tokens are mkTok i _ -/
def cfgsEx (i : Nat) : Config :=
  { openmp := true, fromString := true, silent := false, parseOk := true, kdir := "K", vdir := "V", odir := "O",
    rawBase := "k.raw_source.cpp", cppBase := "k.source.cpp", str := [1], raw := [1], cpp := [1], json := [1],
    vsrc := [1], vout := [1], osrc := [1], oout := [1], ooutNA := [1], toks := mkTok i }

theorem cfgsEx_ok (i : Nat) : CfgOK spec2 (cfgsEx i) :=
  cfgOK_toks (mkTok i) fun a b h => (mkTok_inj i i a b h).2

theorem cfgsEx_disj : ∀ i j, i ≠ j → ∀ x, IsTok (cfgsEx i) x → ¬ IsTok (cfgsEx j) x := by
  intro i j hij x ⟨a, ha⟩ ⟨b, hb⟩
  rw [ha] at hb
  exact hij (mkTok_inj i j a b (Option.some.inj hb)).1

end Occa.BuildFS.Examples
