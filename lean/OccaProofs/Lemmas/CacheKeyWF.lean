/-
The dump model as the encoder of the key construction (C06 with `enc = dump`): it meets `Env.Inj` on
well-formed values (`Env.inj_dump`), and the three objects setupKernelInfo feeds to it are well-formed
when the property values of the configuration and the renderings of hashes (`hfw`) are (`ok_of_wf`).  For the objects of the dependency chain
(C07) see Lemmas/DepHashWF.lean.
-/
import OccaProofs.Lemmas.CacheKey
import OccaProofs.Lemmas.JsonDump

namespace Occa.CacheKey

theorem Env.inj_dump {κ : Type} (e : Env κ String) (henc : e.enc = dump) (hH : Function.Injective e.H)
    (hraw : Function.Injective e.raw) (hfull : Function.Injective e.full)
    (htweak : Function.Injective e.tweak) : e.Inj J.WFtop :=
  ⟨hH, fun a b wa wb hab => dump_injective a b wa wb (henc ▸ hab), hraw, hfull, htweak⟩

theorem wfo_mkMap (l : List (String × J)) (h : ∀ kv ∈ l, keyOk kv.1 ∧ kv.2.WF) : WFo (mkMap l) :=
  (wfo_iff _).mpr fun kv m => h kv (mem_mkMap kv l m)

theorem wftop_mkObj (l : List (String × J)) (h : ∀ kv ∈ l, keyOk kv.1 ∧ kv.2.WF) : (mkObj l).WFtop := by
  unfold mkObj
  cases l with
  | nil => exact Or.inl rfl
  | cons a t => exact Or.inr (wfo_mkMap _ h)

theorem wftop_objOf (names : List String) (g : String → Option J) (hk : ∀ n ∈ names, keyOk n)
    (hv : ∀ n v, g n = some v → v.WF) : (objOf names g).WFtop := by
  apply wftop_mkObj
  intro kv hm
  obtain ⟨n, hn, hf⟩ := List.mem_filterMap.mp hm
  obtain ⟨v, hg, rfl⟩ := Option.map_eq_some_iff.mp hf
  exact ⟨hk n hn, hv n v hg⟩

def Config.WF (c : Config) : Prop := ∀ n v, c.get n = some v → v.WF

theorem keyOk_tables : (∀ n ∈ Gen.serialFields, keyOk n) ∧ (∀ n ∈ Gen.headerFields, keyOk n) ∧
    ∀ lp ∈ Gen.setupParts, keyOk lp.1 := by
  decide +kernel

variable {κ σ : Type}

theorem ok_of_wf (e : Env κ σ) (hfw : ∀ k, (e.full k).WF) (c : Config) (hc : c.WF) :
    Config.Ok e J.WFtop c := by
  have hfield : ∀ n v, fieldVal true c.get n = some v → v.WF := fun n v h =>
    hc n v (fieldVal_true c.get n ▸ h)
  refine ⟨wftop_mkObj _ fun kv hm => ?_,
    shape.serialSkip ▸ wftop_objOf _ _ keyOk_tables.1 hfield,
    shape.headerSkip ▸ wftop_objOf _ _ keyOk_tables.2.1 hfield⟩
  obtain ⟨⟨l, q, g⟩, hlp, hf⟩ := List.mem_filterMap.mp hm
  obtain ⟨v, hp, rfl⟩ := Option.map_eq_some_iff.mp hf
  refine ⟨keyOk_tables.2.2 (l, q, g) hlp, ?_⟩
  cases q with
  | prop n =>
    cases guarded_of_mem hlp
    exact hfield n v hp
  | _ =>
    simp only [partVal, render_full, Option.some.injEq] at hp
    exact hp ▸ hfw _

end Occa.CacheKey
