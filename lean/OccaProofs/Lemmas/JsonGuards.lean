/-
The guards of C24_roundtrip_partial: executable forms of `RT` and `NoNul` (`coveredB`, `nulFreeB`) and their soundness.
-/
import OccaProofs.Lemmas.JsonNul

namespace Occa.Json

def isIntB (p : Prim) : Bool :=
  p.src.isEmpty && decide (p.ty.wrap p.val = p.val) &&
    (p.ty = .i8 || p.ty = .u8 || p.ty = .i16 || p.ty = .u16 || p.ty = .i32 || p.ty = .u32 || p.ty = .i64 || p.ty = .u64)

theorem isInt_of_isIntB {p : Prim} (h : isIntB p = true) : p.IsInt := by
  simp only [isIntB, Bool.and_eq_true, Bool.or_eq_true, decide_eq_true_eq, List.isEmpty_iff] at h
  obtain ⟨⟨h1, h2⟩, h3⟩ := h
  refine ⟨h1, h2, ?_⟩
  rcases h3 with ((((((h3 | h3) | h3) | h3) | h3) | h3) | h3) | h3 <;> simp [h3]

mutual
/-- executable form of `RT` -/
def coveredB : Json → Bool
  | .none => false
  | .null => true
  | .num p => isIntB p || p == ⟨.bool, 0, []⟩ || p == ⟨.bool, 1, []⟩
  | .str _ => true
  | .arr xs => coveredL xs
  | .obj kvs => keysSorted kvs && coveredO kvs
def coveredL : List Json → Bool
  | [] => true
  | x :: xs => coveredB x && coveredL xs
def coveredO : Obj → Bool
  | [] => true
  | (k, v) :: r => !k.isEmpty && coveredB v && coveredO r
end

mutual
theorem rt_of_coveredB : ∀ v, coveredB v = true → RT v
  | .none, h => by simp [coveredB] at h
  | .null, _ => trivial
  | .str _, _ => trivial
  | .num p, h => by
    simp only [coveredB, Bool.or_eq_true, beq_iff_eq] at h
    rcases h with (h | h) | h
    · exact Or.inl (isInt_of_isIntB h)
    · exact Or.inr (Or.inl h)
    · exact Or.inr (Or.inr h)
  | .arr xs, h => by simp only [coveredB] at h; exact rtl_of_coveredL xs h
  | .obj kvs, h => by
    simp only [coveredB, Bool.and_eq_true] at h
    exact ⟨(keysSorted_iff _).mp h.1, rto_of_coveredO kvs h.2⟩
theorem rtl_of_coveredL : ∀ xs, coveredL xs = true → RTL xs
  | [], _ => trivial
  | x :: xs, h => by
    simp only [coveredL, Bool.and_eq_true] at h
    exact ⟨rt_of_coveredB x h.1, rtl_of_coveredL xs h.2⟩
theorem rto_of_coveredO : ∀ kvs, coveredO kvs = true → RTO kvs
  | [], _ => trivial
  | (k, v) :: r, h => by
    simp only [coveredO, Bool.and_eq_true, Bool.not_eq_true', List.isEmpty_eq_false_iff] at h
    exact ⟨h.1.1, rt_of_coveredB v h.1.2, rto_of_coveredO r h.2⟩
end

mutual
/-- executable form of `NoNul` -/
def nulFreeB : Json → Bool
  | .str s => s.all (· ≠ 0)
  | .arr xs => nulFreeL xs
  | .obj kvs => nulFreeO kvs
  | _ => true
def nulFreeL : List Json → Bool
  | [] => true
  | x :: xs => nulFreeB x && nulFreeL xs
def nulFreeO : Obj → Bool
  | [] => true
  | (k, v) :: r => k.all (· ≠ 0) && nulFreeB v && nulFreeO r
end

mutual
theorem noNul_of_nulFreeB : ∀ v, nulFreeB v = true → NoNul v
  | .none, _ => trivial
  | .null, _ => trivial
  | .num _, _ => trivial
  | .str s, h => by simp only [nulFreeB] at h; exact noNulB_of_all h
  | .arr xs, h => by simp only [nulFreeB] at h; exact noNulL_of_nulFreeL xs h
  | .obj kvs, h => by simp only [nulFreeB] at h; exact noNulO_of_nulFreeO kvs h
theorem noNulL_of_nulFreeL : ∀ xs, nulFreeL xs = true → NoNulL xs
  | [], _ => trivial
  | x :: xs, h => by
    simp only [nulFreeL, Bool.and_eq_true] at h
    exact ⟨noNul_of_nulFreeB x h.1, noNulL_of_nulFreeL xs h.2⟩
theorem noNulO_of_nulFreeO : ∀ kvs, nulFreeO kvs = true → NoNulO kvs
  | [], _ => trivial
  | (k, v) :: r, h => by
    simp only [nulFreeO, Bool.and_eq_true] at h
    exact ⟨noNulB_of_all h.1.1, noNul_of_nulFreeB v h.1.2, noNulO_of_nulFreeO r h.2⟩
end

end Occa.Json
