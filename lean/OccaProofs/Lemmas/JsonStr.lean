/-
Lemmas for C24 (and the path strings of C25): whitespace texts (`AllWs`) and skipping them, NUL-free texts (`NoNulB`)
and their `cstr`, and the string escape/unescape pair (`loadStr` after `dumpStr` returns the original bytes and the
untouched rest).
-/
import OccaModel.Json

namespace Occa.Json

def AllWs (s : Bytes) : Prop := ∀ c ∈ s, isWs c = true

theorem allWs_nil : AllWs [] := by intro c h; cases h

theorem allWs_append {a b : Bytes} (ha : AllWs a) (hb : AllWs b) : AllWs (a ++ b) :=
  List.forall_mem_append.mpr ⟨ha, hb⟩

theorem allWs_cons {c : UInt8} {s : Bytes} (hc : isWs c = true) (hs : AllWs s) : AllWs (c :: s) :=
  List.forall_mem_cons.mpr ⟨hc, hs⟩

theorem allWs_replicate (n : Nat) : AllWs (List.replicate n cSp) := by
  intro c hc
  rw [List.eq_of_mem_replicate hc]; decide

theorem skipWs_allWs_append (w s : Bytes) (hw : AllWs w) : skipWs (w ++ s) = skipWs s := by
  induction w with
  | nil => rfl
  | cons c t ih =>
    obtain ⟨hc, ht⟩ := List.forall_mem_cons.mp hw
    simp [skipWs, hc, ih ht]

theorem skipWs_cons_nonws (c : UInt8) (s : Bytes) (h : isWs c = false) : skipWs (c :: s) = c :: s := by
  simp [skipWs, h]

def NoNulB (s : Bytes) : Prop := ∀ c ∈ s, c ≠ 0

theorem noNulB_append {a b : Bytes} (ha : NoNulB a) (hb : NoNulB b) : NoNulB (a ++ b) :=
  List.forall_mem_append.mpr ⟨ha, hb⟩

theorem noNulB_cons {c : UInt8} {s : Bytes} (hc : c ≠ 0) (hs : NoNulB s) : NoNulB (c :: s) :=
  List.forall_mem_cons.mpr ⟨hc, hs⟩

theorem noNulB_of_allWs {s : Bytes} (h : AllWs s) : NoNulB s := by
  intro c hc e; subst e; exact absurd (h 0 hc) (by decide)

theorem noNulB_of_all {s : Bytes} (h : s.all (· ≠ 0) = true) : NoNulB s := by
  intro c hc
  have := List.all_eq_true.mp h c hc
  simpa using this

theorem cstr_noNul (s : Bytes) (h : NoNulB s) : cstr s = s := by
  have := List.takeWhile_append_of_pos (p := (· ≠ 0)) (l₂ := []) fun c hc => decide_eq_true (h c hc)
  rwa [List.append_nil, List.takeWhile_nil, List.append_nil] at this

theorem loadStr_escByte (c : UInt8) (r acc : Bytes) :
    loadStr cQuote false (escByte c ++ r) acc = loadStr cQuote false r (acc ++ [c]) := by
  by_cases h : c ∈ [cQuote, cBackslash, cBs, cFf, cNl, cCr, cTab]
  · simp only [List.mem_cons, List.not_mem_nil, or_false] at h
    rcases h with rfl | rfl | rfl | rfl | rfl | rfl | rfl <;> rfl
  · simp only [List.mem_cons, List.not_mem_nil, or_false, not_or] at h
    simp [escByte, loadStr, h]

theorem loadStr_escBytes (s r acc : Bytes) :
    loadStr cQuote false (escBytes s ++ cQuote :: r) acc = .ok (acc ++ s, r) := by
  induction s generalizing acc with
  | nil => simp [escBytes, loadStr, cQuote, cBackslash]
  | cons c t ih =>
    simp only [escBytes, List.append_assoc]
    rw [loadStr_escByte, ih]
    simp

end Occa.Json
