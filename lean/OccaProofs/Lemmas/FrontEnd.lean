/-
C16, the tokenContext_t model (OccaModel/FrontEnd.lean): reads that stay inside the vectors, and what
`setup` establishes (the pair map of `findPairs` is a complete matching unless `hasError` is raised).
-/
import OccaModel.FrontEnd

namespace Occa.FrontEnd

@[simp] theorem ok_bind {α β : Type} (a : α) (f : α → Res β) : (Res.ok a >>= f) = f a := rfl
@[simp] theorem pure_eq {α : Type} (a : α) : (pure a : Res α) = Res.ok a := rfl

/-- an operator whose opType has a `pair` bit really is a `pairOperator_t` object: the C cast in
    findPairs is sound for every operator object that exists -/
theorem knownOps_pair_isPairOp : ∀ o ∈ knownOps, (o.opType.and pairM).toBool = true → o.isPairOp = true := by
  decide +kernel

theorem knownOps_start_pair : ∀ o ∈ knownOps, (o.opType.and pairStartM).toBool = true → (o.opType.and pairM).toBool = true := by
  decide +kernel

theorem none_not_pair : (noneM.and pairM).toBool = false := by decide
theorem none_not_semicolon : (noneM.and semicolonM).toBool = false := by decide

/-- The one undefined shift: `trap` sits under `shift ≥ 64`, `shift - 64 ≥ 64` and `¬ shift > 128`. -/
theorem shr_trap_iff (x : Bitfield) (shift : Int) : x.shr shift = .trap ↔ shift = 128 := by
  unfold Bitfield.shr
  grind

theorem shr_one_ok (x : Bitfield) : ∃ y, x.shr 1 = .ok y := by
  unfold Bitfield.shr
  simp

/-- every `tokenIndices` entry points into `tokens` -/
def IdxOk (c : Ctx) : Prop := ∀ (k v : Nat), c.tokenIndices[k]? = some v → v < c.tokens.size

/-- every operator token refers to an operator object that exists -/
def Typed (tokens : Array Tok) : Prop := ∀ (k : Nat) (t : Tok), tokens[k]? = some t → ∀ o, t = Tok.op o → o ∈ knownOps

theorem Typed.of_mem {tokens : Array Tok} (h : ∀ o, Tok.op o ∈ tokens → o ∈ knownOps) : Typed tokens :=
  fun _ _ hk o ho => h o (ho ▸ Array.mem_of_getElem? hk)

theorem getToken_ok (c : Ctx) (hidx : IdxOk c) (ht : Typed c.tokens) (i : Int) (h0 : 0 ≤ i)
    (h : i < (c.tokenIndices.size : Int)) : ∃ t, c.getToken i = .ok t ∧ ∀ o, t = .op o → o ∈ knownOps := by
  obtain ⟨n, rfl⟩ := Int.eq_ofNat_of_zero_le h0
  have h1 : c.tokenIndices[n]? = some c.tokenIndices[n] := Array.getElem?_eq_getElem (by omega)
  have h2 := Array.getElem?_eq_getElem (hidx _ _ h1)
  refine ⟨_, ?_, ht _ _ h2⟩
  unfold Ctx.getToken
  rw [if_neg (by omega), Int.toNat_natCast, h1]
  simp only [h2]

/-- token `j` is an opening bracket (and, being in the table, a `pairOperator_t`) -/
def Opener (c : Ctx) (j : Nat) : Prop :=
  ∃ o, c.getToken (j : Int) = .ok (.op o) ∧ (o.opType.and pairStartM).toBool = true ∧ o.isPairOp = true

/-- token `j` is a closing bracket -/
def Closer (c : Ctx) (j : Nat) : Prop :=
  ∃ o, c.getToken (j : Int) = .ok (.op o) ∧ (o.opType.and pairM).toBool = true ∧ (o.opType.and pairStartM).toBool = false

/-- binding `(a, b)`: an opening bracket at `a`, a closing one at `b`, of the same kind by the
    C++ test `start.opType == (end.opType >> 1)` -/
def Match (c : Ctx) (a b : Int) : Prop :=
  ∃ oa ob, c.getToken a = .ok (.op oa) ∧ c.getToken b = .ok (.op ob) ∧
    (oa.opType.and pairStartM).toBool = true ∧
    (ob.opType.and pairM).toBool = true ∧ (ob.opType.and pairStartM).toBool = false ∧
    ob.opType.shr 1 = .ok oa.opType

section
variable {c : Ctx} {j : Nat} {o : Op} {s : Bool}

theorem opener_iff (h : c.getToken (j : Int) = .ok (.op o)) :
    Opener c j ↔ (o.opType.and pairStartM).toBool = true ∧ o.isPairOp = true := by
  simp [Opener, h]

theorem closer_iff (h : c.getToken (j : Int) = .ok (.op o)) :
    Closer c j ↔ (o.opType.and pairM).toBool = true ∧ (o.opType.and pairStartM).toBool = false := by
  simp [Closer, h]

theorem not_opener_other (h : c.getToken (j : Int) = .ok (.other s)) : ¬ Opener c j := by
  simp [Opener, h]

theorem not_closer_other (h : c.getToken (j : Int) = .ok (.other s)) : ¬ Closer c j := by
  simp [Closer, h]

end

theorem lookup_cons (m : List (Int × Int)) (a v k : Int) :
    lookup ((a, v) :: m) k = if a = k then some v else lookup m k := by
  rw [lookup]

theorem lookup_mem : ∀ (m : List (Int × Int)) (k b : Int), lookup m k = some b → (k, b) ∈ m
  | [], _, _, h => nomatch h
  | (a, v) :: r, k, b, h => by
    rw [lookup_cons] at h
    split at h
    · cases h; subst a; exact List.mem_cons_self
    · exact List.mem_cons_of_mem _ (lookup_mem r k b h)

/-- The loop invariant of `findPairs` before token `i`, with `st` the stack of openers still open.
    The error exits return with it where they stand; the normal exit has `i` at the end and `st`
    empty, which makes `openers` and `closers` the completeness of the matching.  `openers` repeats the
    `j < b` that `bounded` gives, so that at the exit it is `Covered` as that is written. -/
structure PairsInv (c : Ctx) (i : Nat) (st : List Nat) (pairs : List (Int × Int)) : Prop where
  stack : ∀ s ∈ st, s < i ∧ Opener c s
  bounded : ∀ a b, (a, b) ∈ pairs → a < b ∧ b < (c.tokenIndices.size : Int)
  isMatch : ∀ a b, (a, b) ∈ pairs → Match c a b
  openers : ∀ j, j < i → Opener c j → j ∈ st ∨ ∃ b, lookup pairs (j : Int) = some b ∧ (j : Int) < b
  closers : ∀ j, j < i → Closer c j → ∃ a, (a, (j : Int)) ∈ pairs

namespace PairsInv
variable {c : Ctx} {i : Nat} {st : List Nat} {pairs : List (Int × Int)}

theorem init (c : Ctx) : PairsInv c 0 [] [] :=
  ⟨nofun, nofun, nofun, nofun, nofun⟩

theorem skip (h : PairsInv c i st pairs) (ho : ¬ Opener c i) (hc : ¬ Closer c i) : PairsInv c (i + 1) st pairs where
  stack s hs := ⟨Nat.lt_succ_of_lt (h.stack s hs).1, (h.stack s hs).2⟩
  bounded := h.bounded
  isMatch := h.isMatch
  openers := Nat.forall_lt_succ_right.mpr ⟨h.openers, fun hop => absurd hop ho⟩
  closers := Nat.forall_lt_succ_right.mpr ⟨h.closers, fun hcl => absurd hcl hc⟩

theorem push (h : PairsInv c i st pairs) (ho : Opener c i) (hc : ¬ Closer c i) : PairsInv c (i + 1) (i :: st) pairs where
  stack s hs := by
    rcases List.mem_cons.mp hs with rfl | hs
    · exact ⟨Nat.lt_succ_self _, ho⟩
    · exact ⟨Nat.lt_succ_of_lt (h.stack s hs).1, (h.stack s hs).2⟩
  bounded := h.bounded
  isMatch := h.isMatch
  openers := Nat.forall_lt_succ_right.mpr
    ⟨fun j hj hop => (h.openers j hj hop).imp_left (List.mem_cons_of_mem _), fun _ => .inl List.mem_cons_self⟩
  closers := Nat.forall_lt_succ_right.mpr ⟨h.closers, fun hcl => absurd hcl hc⟩

theorem bind {s : Nat} (h : PairsInv c i (s :: st) pairs) (hi : i < c.tokenIndices.size) (ho : ¬ Opener c i)
    (hm : Match c s i) : PairsInv c (i + 1) st ((s, i) :: pairs) where
  stack s' hs' := ⟨Nat.lt_succ_of_lt (h.stack s' (List.mem_cons_of_mem _ hs')).1, (h.stack s' (List.mem_cons_of_mem _ hs')).2⟩
  bounded a b hab := by
    have := (h.stack s List.mem_cons_self).1
    rcases List.mem_cons.mp hab with e | e
    · cases e; omega
    · exact h.bounded a b e
  isMatch a b hab := by
    rcases List.mem_cons.mp hab with e | e
    · cases e; exact hm
    · exact h.isMatch a b e
  openers := Nat.forall_lt_succ_right.mpr ⟨fun j hj hop => by
    rw [lookup_cons]
    by_cases e : (s : Int) = j
    · exact .inr ⟨i, if_pos e, by omega⟩
    · rw [if_neg e]
      refine (h.openers j hj hop).imp_left fun hmem => ?_
      rcases List.mem_cons.mp hmem with rfl | hmem
      · exact absurd rfl e
      · exact hmem, fun hop => absurd hop ho⟩
  closers := Nat.forall_lt_succ_right.mpr
    ⟨fun j hj hcl => (h.closers j hj hcl).imp fun _ ha => List.mem_cons_of_mem _ ha, fun _ => ⟨s, List.mem_cons_self⟩⟩

end PairsInv

/-- What the `findPairs` loop returns: it ends normally, with the invariant holding somewhere, and
    unless it raises the error flag that is at the end with nothing left open. -/
def PairsPost (c : Ctx) (r : Res PairsOut) : Prop :=
  ∃ out i st, r = .ok out ∧ PairsInv c i st out.pairs ∧ (out.hasError = false → i = c.tokenIndices.size ∧ st = [])

theorem PairsInv.stop {c : Ctx} {i : Nat} {st : List Nat} {pairs : List (Int × Int)} (h : PairsInv c i st pairs) :
    PairsPost c (.ok ⟨pairs, true⟩) :=
  ⟨_, i, st, rfl, h, nofun⟩

/-- `findPairs` reads inside the vectors and casts only pair operators -/
theorem findPairsLoop_spec (c : Ctx) (hidx : IdxOk c) (htyped : Typed c.tokens) (hsup : c.supressErrors = false) :
    ∀ (rem i : Nat) (st : List Nat) (pairs : List (Int × Int)),
      i + rem = c.tokenIndices.size → PairsInv c i st pairs → PairsPost c (findPairsLoop c rem i st pairs) := by
  have hflag : (if c.supressErrors then c.hasError else true) = true := by simp [hsup]
  intro rem
  induction rem with
  | zero =>
    intro i st pairs hlen hinv
    unfold findPairsLoop
    cases st with
    | nil => exact ⟨_, i, [], rfl, hinv, fun _ => ⟨hlen, rfl⟩⟩
    | cons s st' =>
      obtain ⟨_, o, hget, _, hpo⟩ := hinv.stack s List.mem_cons_self
      simp only [hget, ok_bind, Tok.asPairOp, hpo, if_true, hflag]
      exact hinv.stop
  | succ rem ih =>
    intro i st pairs hlen hinv
    have hi : i < c.tokenIndices.size := by omega
    have hlen' : i + 1 + rem = c.tokenIndices.size := by omega
    obtain ⟨token, hget, hknown⟩ := getToken_ok c hidx htyped i (Int.natCast_nonneg i) (Int.ofNat_lt.mpr hi)
    unfold findPairsLoop
    simp only [hget, ok_bind]
    cases token with
    | other sk =>
      simp only [Tok.getOpType, none_not_pair, Bool.not_false, if_true]
      exact ih _ _ _ hlen' (hinv.skip (not_opener_other hget) (not_closer_other hget))
    | op o =>
      have hk := hknown o rfl
      simp only [Tok.getOpType]
      by_cases hp : (o.opType.and pairM).toBool = true
      · have hpo := knownOps_pair_isPairOp o hk hp
        by_cases hs : (o.opType.and pairStartM).toBool = true
        · simp only [hp, hs, Bool.not_true, Bool.false_eq_true, if_false, if_true]
          exact ih _ _ _ hlen' (hinv.push ((opener_iff hget).mpr ⟨hs, hpo⟩)
            fun h => nomatch hs.symm.trans ((closer_iff hget).mp h).2)
        · simp only [hp, hs, Bool.not_true, Bool.false_eq_true, if_false, Tok.asPairOp, hpo, if_true, ok_bind, hflag]
          cases st with
          | nil => exact hinv.stop
          | cons s st' =>
            obtain ⟨_, os, hgets, hsstart, hpos⟩ := hinv.stack s List.mem_cons_self
            obtain ⟨sh, hsh⟩ := shr_one_ok o.opType
            simp only [hgets, ok_bind, hpos, if_true, hsh]
            by_cases hm : (os.opType != sh) = true
            · simp only [hm, if_true]
              exact hinv.stop
            · simp only [hm, Bool.false_eq_true, if_false]
              have heq : os.opType = sh := by simpa using hm
              exact ih _ _ _ hlen' (hinv.bind hi (fun h => hs ((opener_iff hget).mp h).1)
                ⟨os, o, hgets, hget, hsstart, hp, by simpa using hs, by rw [hsh, heq]⟩)
      · simp only [hp, Bool.not_false, if_true]
        exact ih _ _ _ hlen' (hinv.skip
          (fun h => hp (knownOps_start_pair o hk ((opener_iff hget).mp h).1))
          (fun h => hp ((closer_iff hget).mp h).1))

theorem setupTokenIndices_ok (tokens : Array Tok) :
    ∀ (k v : Nat), (setupTokenIndices tokens)[k]? = some v → v < tokens.size := by
  -- the fold only ever pushes members of the range it runs over
  suffices h : ∀ v ∈ setupTokenIndices tokens, v < tokens.size from fun k v hk => h v (Array.mem_of_getElem? hk)
  refine List.foldlRecOn (motive := fun acc => ∀ v ∈ acc, v < tokens.size) _ _ nofun fun acc hacc i hi => ?_
  split
  · split
    · exact hacc
    · intro v hv
      rcases Array.mem_push.mp hv with h1 | rfl
      · exact hacc v h1
      · exact List.mem_range.mp hi
  · exact hacc

theorem findSemicolonsLoop_ok (c : Ctx) (hidx : IdxOk c) (ht : Typed c.tokens) :
    ∀ (rem i : Nat) (acc : List Int), i + rem = c.tokenIndices.size →
      ∃ s, findSemicolonsLoop c rem i acc = .ok s := by
  intro rem
  induction rem with
  | zero => exact fun _ acc _ => ⟨acc, rfl⟩
  | succ rem ih =>
    intro i acc hlen
    have hlen' : i + 1 + rem = c.tokenIndices.size := by omega
    obtain ⟨t, hget, _⟩ := getToken_ok c hidx ht i (Int.natCast_nonneg i) (by omega)
    unfold findSemicolonsLoop
    simp only [hget, ok_bind]
    split <;> exact ih _ _ hlen'

/-- `setup` establishes this whether or not it raises `hasError` -/
structure Valid (c : Ctx) : Prop where
  idx : IdxOk c
  typed : Typed c.tokens
  lo : 0 ≤ c.tp.start
  mid : c.tp.start ≤ c.tp.stop
  hi : c.tp.stop ≤ (c.tokenIndices.size : Int)
  stk : ∀ r ∈ c.stack, 0 ≤ r.start ∧ r.start ≤ r.stop ∧ r.stop ≤ (c.tokenIndices.size : Int)

/-- every binding of the pair map goes forward and stays inside the token list -/
def PairsBounded (c : Ctx) : Prop :=
  ∀ a b, (a, b) ∈ c.pairs → a < b ∧ b < (c.tokenIndices.size : Int)

/-- every opening bracket has a binding to a later token -/
def Covered (c : Ctx) : Prop :=
  ∀ j, j < c.tokenIndices.size → Opener c j → ∃ b, lookup c.pairs (j : Int) = some b ∧ (j : Int) < b

/-- every binding joins an opening bracket with a closing bracket of the same kind -/
def PairsMatch (c : Ctx) : Prop := ∀ a b, (a, b) ∈ c.pairs → Match c a b

/-- every closing bracket is the target of a binding -/
def ClosersCovered (c : Ctx) : Prop :=
  ∀ j, j < c.tokenIndices.size → Closer c j → ∃ a, (a, (j : Int)) ∈ c.pairs

theorem setup_total (tokens : Array Tok) (ht : Typed tokens) :
    ∃ c, setup tokens = .ok c ∧ Valid c ∧ PairsBounded c ∧ PairsMatch c ∧
      (c.hasError = false → Covered c ∧ ClosersCovered c) := by
  let idx := setupTokenIndices tokens
  let c0 : Ctx := { tokens := tokens, tokenIndices := idx, pairs := [], semicolons := [], hasError := false,
                    supressErrors := false, stack := [], tp := ⟨0, Int.ofNat idx.size⟩ }
  have hidx : IdxOk c0 := setupTokenIndices_ok tokens
  obtain ⟨out, i, st, hout, inv, hend⟩ :=
    findPairsLoop_spec c0 hidx ht rfl idx.size 0 [] [] (Nat.zero_add _) (.init c0)
  let c1 : Ctx := { c0 with pairs := out.pairs, hasError := out.hasError }
  obtain ⟨s, hs⟩ := findSemicolonsLoop_ok c1 hidx ht idx.size 0 [] (Nat.zero_add _)
  let c2 : Ctx := { c1 with semicolons := s }
  -- `findPairs` and `findSemicolons` leave the token vectors alone: `Opener`, `Closer`, `Match` of `c2` are those of `c0`
  refine ⟨c2, ?_, ⟨hidx, ht, Int.le_refl 0, Int.natCast_nonneg _, Int.le_refl _, fun _ h => nomatch h⟩,
    inv.bounded, inv.isMatch, fun he => ?_⟩
  · have e1 : findPairsLoop c0 c0.size.toNat 0 [] c0.pairs = .ok out := hout
    have e2 : findSemicolonsLoop c1 c1.size.toNat 0 c1.semicolons = .ok s := hs
    rw [setup, Ctx.findPairs, e1, ok_bind, ok_bind, Ctx.findSemicolons, e2]
    rfl
  · obtain ⟨rfl, rfl⟩ := hend he
    exact ⟨fun j hj hop => (inv.openers j hj hop).resolve_left List.not_mem_nil, inv.closers⟩

theorem setup_spec {tokens : Array Tok} (ht : Typed tokens) {c : Ctx} (hs : setup tokens = .ok c) :
    Valid c ∧ PairsBounded c ∧ PairsMatch c ∧ (c.hasError = false → Covered c ∧ ClosersCovered c) := by
  obtain ⟨c', h, r⟩ := setup_total tokens ht
  cases hs.symm.trans h
  exact r

theorem setup_fields {tokens : Array Tok} {c : Ctx} (h : setup tokens = .ok c) :
    c.tokens = tokens ∧ c.tokenIndices = setupTokenIndices tokens ∧ c.stack = [] ∧
      c.tp = ⟨0, (c.tokenIndices.size : Int)⟩ ∧ c.supressErrors = false := by
  simp only [setup, Ctx.findPairs, Ctx.findSemicolons] at h
  generalize findPairsLoop _ _ 0 [] _ = r1 at h
  cases r1 <;> try cases h
  simp only [ok_bind] at h
  generalize findSemicolonsLoop _ _ 0 _ = r2 at h
  cases r2 <;> cases h
  exact ⟨rfl, rfl, rfl, rfl, rfl⟩

end Occa.FrontEnd
