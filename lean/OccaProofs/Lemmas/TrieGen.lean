/-
What the expressions generated from the C++ (OccaGen/TrieShape.lean, translate/gen_trie.py) have
to be for the theorems of C28 to hold.  Each fact is checked against the CURRENT source on every
run: if, say, `trieNode::get` goes back to reporting `cIndex + 1`, `gen_getFallbackLength` stops
compiling and the check reports the broken obligation (the harness oracle supplies the failing input).
-/
import OccaModel.Trie

namespace Occa.Trie

theorem gen_getNextIndex (n : Nat) : (Gen.Trie.getNextIndex (n : Int)).toNat = n + 1 := rfl

theorem gen_getFallbackLength (n : Nat) : (Gen.Trie.getFallbackLength (n : Int)).toNat = n := rfl

theorem gen_getMissLength (n : Nat) : (Gen.Trie.getMissLength (n : Int)).toNat = n := rfl

theorem gen_eraseEmptiedChild (e : Bool) (n : Nat) : Gen.Trie.eraseEmptiedChild e (n : Int) = e := rfl

theorem gen_eraseLeafChild {β : Type} (ks : List β) : Gen.Trie.eraseLeafChild (ks.length : Int) = ks.isEmpty := by
  cases ks <;> rfl

theorem gen_decrementCond (i vi : Nat) : Gen.Trie.decrementCond (i : Int) (vi : Int) = decide (i > vi) := by
  simp only [Gen.Trie.decrementCond, gt_iff_lt, Int.ofNat_lt]

theorem gen_bsMid (s e : Int) (h : 0 ≤ s + e) : Gen.Trie.bsMid s e = (s + e) / 2 :=
  Int.tdiv_eq_ediv_of_nonneg h

theorem gen_bsLeftEnd (s e : Int) (h : 0 ≤ s + e) : Gen.Trie.bsLeftEnd s e = (s + e) / 2 - 1 :=
  congrArg (· - 1) (Int.tdiv_eq_ediv_of_nonneg h)

theorem gen_bsRightStart (s e : Int) (h : 0 ≤ s + e) : Gen.Trie.bsRightStart s e = (s + e) / 2 + 1 :=
  congrArg (· + 1) (Int.tdiv_eq_ediv_of_nonneg h)

theorem gen_bsInitStart (count : Nat) : Gen.Trie.bsInitStart (count : Int) = 0 := rfl

theorem gen_bsInitEnd (count : Nat) : Gen.Trie.bsInitEnd (count : Int) = (count : Int) - 1 := rfl

theorem gen_frozenHasValue (v : Option Nat) : Gen.Trie.frozenHasValue (viInt v) = v.isSome := by
  cases v <;> rfl

theorem gen_frozenSuccess (len : Nat) (v : Option Nat) : Gen.Trie.frozenSuccess (len : Int) (viInt v) = v.isSome := by
  cases v <;> rfl

theorem gen_frozenInitIndex (v : Option Nat) : intVi (Gen.Trie.frozenInitIndex (viInt v)) = v := by
  cases v <;> rfl

theorem gen_freezeLeafOffset (o n : Nat) : (Gen.Trie.freezeLeafOffset (o : Int) (n : Int)).toNat = o + n := rfl

end Occa.Trie
