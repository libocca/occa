/-
The device byte counters of C05: `DevOK` (the ghost trace records every value `bytesAllocated` takes and
`maxBytesAllocated` is its maximum) and `DevStep` (a pool operation moves the counter by exactly the change of the
pool's buffer size).
-/
import OccaModel.Pool

namespace Occa.Pool

def maxOf : List Nat → Nat
  | [] => 0
  | x :: xs => max x (maxOf xs)

structure DevOK (d : Dev) : Prop where
  /-- `maxBytesAllocated` is the largest value `bytesAllocated` has taken -/
  max_eq : d.maxAlloc = maxOf d.trace
  /-- the trace ends with the current value (0 for a fresh device) -/
  cur : d.alloc = d.trace.headD 0

theorem DevOK.le {d : Dev} (h : DevOK d) : d.alloc ≤ d.maxAlloc := by
  rw [h.max_eq, h.cur]
  cases d.trace with
  | nil => simp [maxOf]
  | cons x xs => simp only [maxOf, List.headD_cons]; omega

theorem devOK_init : DevOK {} := ⟨rfl, rfl⟩

theorem DevOK.add {d : Dev} (h : DevOK d) (n : Nat) : DevOK (d.add n) := by
  refine ⟨?_, rfl⟩
  show max d.maxAlloc (d.alloc + n) = max (d.alloc + n) (maxOf d.trace)
  rw [h.max_eq, Nat.max_comm]

theorem DevOK.sub {d : Dev} (h : DevOK d) (n : Nat) : DevOK (d.sub n) := by
  refine ⟨?_, rfl⟩
  show d.maxAlloc = max (d.alloc - n) (maxOf d.trace)
  have := h.le
  rw [← h.max_eq]
  omega

@[simp] theorem Dev.add_alloc (d : Dev) (n : Nat) : (d.add n).alloc = d.alloc + n := rfl
@[simp] theorem Dev.sub_alloc (d : Dev) (n : Nat) : (d.sub n).alloc = d.alloc - n := rfl

/-- the counter follows the size of the pool's buffer -/
structure DevStep (d d' : Dev) (p p' : Pool) : Prop where
  ok : DevOK d'
  bal : d'.alloc + p.size = d.alloc + p'.size

theorem devStep_same {d : Dev} (hd : DevOK d) {p p' : Pool} (hs : p'.size = p.size) : DevStep d d p p' :=
  ⟨hd, by rw [hs]⟩

/-- the new buffer is allocated before the old one is freed -/
theorem devStep_realloc {d : Dev} (hd : DevOK d) {p p' : Pool} (hle : p.size ≤ d.alloc) {n : Nat} (hs : p'.size = n) :
    DevStep d ((d.add n).sub p.size) p p' :=
  ⟨(hd.add _).sub _, hs ▸ Nat.sub_add_cancel (Nat.le_trans hle (Nat.le_add_right _ _))⟩

theorem DevOK.free {d : Dev} (hd : DevOK d) {p : Pool} (hz : ¬ p.hasBuf = true → p.size = 0) (hle : p.size ≤ d.alloc) :
    DevOK (p.free d) ∧ (p.free d).alloc + p.size = d.alloc := by
  unfold Pool.free
  split
  · exact ⟨hd.sub _, Nat.sub_add_cancel hle⟩
  · exact ⟨hd, by rw [hz ‹_›]; rfl⟩

/-- without reservations the old buffer is freed first -/
theorem devStep_free_add {d : Dev} (hd : DevOK d) {p p' : Pool} (hz : ¬ p.hasBuf = true → p.size = 0)
    (hle : p.size ≤ d.alloc) {n : Nat} (hs : p'.size = n) : DevStep d ((p.free d).add n) p p' :=
  have hf := hd.free hz hle
  ⟨hf.1.add _, by rw [hs, Dev.add_alloc, Nat.add_right_comm, hf.2]⟩

end Occa.Pool
