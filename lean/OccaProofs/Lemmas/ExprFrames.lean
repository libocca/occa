/-
Frames: the parser's two stacks read as ONE sequence.  Each pending operator owns the operands
that were pushed just before it; the token sequence of a scope is recovered from its frames.
Applying the operator of a frame to the operand above it gives a tree that prints as the frame's
tokens followed by the operand's, and is precedence-correct if the pieces fit (`Frame.result_spec`).
-/
import OccaProofs.Lemmas.ExprOps

namespace Occa.Expr
open Occa.Gen

/-- result of `applyLeftUnaryOperator` for the operators of `preOk` -/
def pfxNode (n : OpNode) (v : Expr) : Expr :=
  if !has n.op.ty T.special then .lu n.op v
  else if has n.op.ty T.parenCast then .cast n.castName n.castPtrs v
  else if has n.op.ty T.sizeof_ then .sizeof v
  else .throw_ v

/-- tokens of a prefix operator entry (a cast is three tokens) -/
def pfxToks (n : OpNode) : List Tok :=
  if has n.op.ty T.parenCast then [.op .parenthesesStart, .vtype n.castName n.castPtrs, .op .parenthesesEnd]
  else [.op (lexedOp n.op)]

/-- an entry `n` of the operator stack with the operands it owns: a prefix operator (`pre`: none), a
    binary operator and its left operand (`bin`), a postfix operator and its operand (`post`: nothing is
    missing, so it only ever lies on top), `c ?` (`quest`), `c ? t :` (`colon`; the parser keeps `? t` as
    the node `lu q t`, `q` the operator of the `?`), an open bracket (`opn`) -/
inductive Frame where
  | pre (n : OpNode)
  | bin (n : OpNode) (l : Expr)
  | post (n : OpNode) (e : Expr)
  | quest (n : OpNode) (c : Expr)
  | colon (n : OpNode) (c t : Expr) (q : Op)
  | opn (n : OpNode)

namespace Frame

def node : Frame → OpNode
  | pre n => n | bin n _ => n | post n _ => n | quest n _ => n | colon n _ _ _ => n | opn n => n

/-- operands owned by the frame, top of the output stack first -/
def outs : Frame → List Expr
  | pre _ => [] | bin _ l => [l] | post _ e => [e] | quest _ c => [c] | colon _ c t q => [.lu q t, c] | opn _ => []

/-- tokens of the frame in input order -/
def toks : Frame → List Tok
  | pre n => pfxToks n
  | bin n l => printToks l ++ [.op (lexedOp n.op)]
  | post n e => printToks e ++ [.op (lexedOp n.op)]
  | quest _ c => printToks c ++ [.op .questionMark]
  | colon _ c t _ => printToks c ++ [.op .questionMark] ++ printToks t ++ [.op .colon]
  | opn n => [.op n.op]

def isPost : Frame → Bool
  | post _ _ => true | _ => false

def isOpn : Frame → Bool
  | opn _ => true | _ => false

def isQuest : Frame → Bool
  | quest _ _ => true | _ => false

/-- the kind of operator a frame may hold -/
def ok : Frame → Prop
  | pre n => preOk n.op = true
  | bin n _ => has n.op.ty T.binary = true
  | post n _ => has n.op.ty T.rightUnary = true
  | quest n _ => (n.op.ty == T.questionMark) = true
  | colon n _ _ q => (n.op.ty == T.colon) = true ∧ (q.ty == T.questionMark) = true
  | opn n => has n.op.ty T.pairStart = true

/-- the operands a frame owns, as trees (the `? t` of a colon frame counted as `t`) -/
def operands : Frame → List Expr
  | pre _ => [] | bin _ l => [l] | post _ e => [e] | quest _ c => [c] | colon _ c t _ => [c, t] | opn _ => []

/-- binding level of the tree that applying the frame produces (16 for a pending `?`: the conditional
    expression it will be part of) -/
def lvl : Frame → Nat
  | pre n => n.op.prec | bin n _ => n.op.prec | post n _ => n.op.prec
  | quest _ _ => Op.questionMark.prec | colon _ _ _ _ => Op.questionMark.prec | opn _ => 0

/-- the operand to the left of the frame's operator binds tightly enough -/
def fit : Frame → Bool
  | pre _ => true
  | bin n l => leftFits n.op.prec (rootPrec l)
  | post n e => leftFits n.op.prec (rootPrec e)
  | quest _ c => leftFits Op.questionMark.prec (rootPrec c)
  | colon _ c _ _ => leftFits Op.questionMark.prec (rootPrec c)
  | opn _ => true

/-- a tree of level `p` may become the right operand of the frame's operator -/
def accepts : Frame → Nat → Bool
  | pre n, p => rightFits n.op.prec p
  | bin n _, p => rightFits n.op.prec p
  | post _ _, _ => false
  | quest _ _, _ => true
  | colon _ _ _ _, p => rightFits Op.questionMark.prec p
  | opn _, _ => true

end Frame

/-- output stack of a scope: optional top operand, then the frames' operands -/
def scopeOut (fs : List Frame) (top : Option Expr) : List Expr :=
  top.toList ++ fs.flatMap Frame.outs

def scopeOps (fs : List Frame) : List OpNode := fs.map Frame.node

def topToks (top : Option Expr) : List Tok :=
  match top with
  | some e => printToks e
  | none => []

/-- tokens consumed in a scope, in input order (frames are kept top first) -/
def scopeToks (fs : List Frame) (top : Option Expr) : List Tok :=
  fs.reverse.flatMap Frame.toks ++ topToks top

theorem scopeToks_cons (f : Frame) (fs : List Frame) (top : Option Expr) :
    scopeToks (f :: fs) top = scopeToks fs none ++ f.toks ++ topToks top := by
  simp [scopeToks, topToks, List.flatMap_append]

theorem scopeToks_append (a b : List Frame) (top : Option Expr) :
    scopeToks (a ++ b) top = scopeToks b none ++ scopeToks a top := by
  simp [scopeToks, topToks, List.flatMap_append]

theorem scopeToks_top (fs : List Frame) (top : Option Expr) :
    scopeToks fs top = scopeToks fs none ++ topToks top := by
  simp [scopeToks, topToks]

theorem scopeToks_some (fs : List Frame) (e : Expr) :
    scopeToks fs (some e) = scopeToks fs none ++ printToks e :=
  scopeToks_top fs (some e)

theorem scopeOut_cons (f : Frame) (fs : List Frame) (top : Option Expr) :
    scopeOut (f :: fs) top = top.toList ++ f.outs ++ scopeOut fs none := by
  simp [scopeOut]

theorem scopeOut_some (fs : List Frame) (e : Expr) : scopeOut fs (some e) = e :: scopeOut fs none := by
  simp [scopeOut]

theorem apply_bin (n : OpNode) (prev : Option Tok) (r l : Expr) (rest : List Expr)
    (h : has n.op.ty T.binary = true) :
    applyOperator n prev (r :: l :: rest) = .ok (.bin n.op l r :: rest) := by
  simp [applyOperator, h]

theorem apply_post (n : OpNode) (prev : Option Tok) (e : Expr) (rest : List Expr)
    (h : has n.op.ty T.rightUnary = true) :
    applyOperator n prev (e :: rest) = .ok (.ru n.op e :: rest) := by
  simp [applyOperator, h, post_class n.op h]

theorem apply_quest (n : OpNode) (prev : Option Tok) (t : Expr) (rest : List Expr)
    (h : (n.op.ty == T.questionMark) = true) :
    applyOperator n prev (t :: rest) = .ok (.lu n.op t :: rest) := by
  simp [applyOperator, applyLeftUnary, q_class n.op h, q_facts]

theorem apply_colon (n : OpNode) (prev : Option Tok) (f t c : Expr) (q : Op) (rest : List Expr)
    (h : (n.op.ty == T.colon) = true) (hq : (q.ty == T.questionMark) = true) :
    applyOperator n prev (f :: .lu q t :: c :: rest) = .ok (.tern c t f :: rest) := by
  simp [applyOperator, applyLeftUnary, applyTernary, c_class n.op h, c_facts, q_class q hq]
  decide

/-- `x` is `: e` left over by an unmatched colon (never present in a well-shaped run) -/
def colonLu : Expr → Bool
  | .lu o _ => o.ty == T.colon
  | _ => false

theorem isTypeNode_iff (e : Expr) : isTypeNode e = true ↔ ∃ n k, e = .vtype n k :=
  ⟨fun h => by cases e <;> cases h; exact ⟨_, _, rfl⟩, fun ⟨_, _, h⟩ => h ▸ rfl⟩

theorem pfx_spec (n : OpNode) (e : Expr) (h : preOk n.op = true) :
    applyLeftUnary n e = .ok (pfxNode n e) ∧ printToks (pfxNode n e) = pfxToks n ++ printToks e ∧
    rootPrec (pfxNode n e) = n.op.prec ∧ canonB (pfxNode n e) = (canonB e && rightFits n.op.prec (rootPrec e)) ∧
    colonLu (pfxNode n e) = false ∧ isTypeNode (pfxNode n e) = false := by
  obtain ⟨o, cn, cp⟩ := n
  rcases pre_cases o h with ⟨hs, hp⟩ | rfl | rfl | rfl
  · simp [applyLeftUnary, pfxNode, pfxToks, printToks, rootPrec, canonB, colonLu, isTypeNode, hs, hp, ← has_c_eq,
      pre_class o h]
  all_goals
    simp [applyLeftUnary, pfxNode, pfxToks, printToks, rootPrec, canonB, colonLu, isTypeNode, special_facts]

theorem apply_pre (n : OpNode) (prev : Option Tok) (e : Expr) (rest : List Expr)
    (h : preOk n.op = true) :
    applyOperator n prev (e :: rest) = .ok (pfxNode n e :: rest) := by
  simp [applyOperator, pre_class n.op h, (pfx_spec n e h).1]

/-- frames that are reduced with the operand above them (`Ready.reduce`): neither an open pair nor a pending `?`,
    which waits for its `:` -/
def Frame.reducible (f : Frame) : Bool := !f.isOpn && !f.isQuest

theorem reducible_notOpn {f : Frame} (h : f.reducible = true) : f.isOpn = false := by
  simp [Frame.reducible] at h; exact h.1

theorem not_reducible {f : Frame} (hf : f.ok) (h : f.reducible = false) :
    f.isPost = false ∧ (∀ p, f.accepts p = true) ∧
    ((f.isOpn = true ∧ has f.node.op.ty T.pairStart = true) ∨
      (∃ n c, f = Frame.quest n c ∧ has n.op.ty T.pairStart = false ∧ has n.op.ty T.questionMark = true)) := by
  cases f <;> simp [Frame.reducible, Frame.isOpn, Frame.isQuest] at h
  · exact ⟨rfl, fun _ => rfl, Or.inr ⟨_, _, rfl, by simp [q_class _ hf, q_facts]⟩⟩
  · exact ⟨rfl, fun _ => rfl, Or.inl ⟨rfl, hf⟩⟩

theorem reducible_facts {f : Frame} (hf : f.ok) (hr : f.reducible = true) :
    has f.node.op.ty T.pairStart = false ∧ has f.node.op.ty T.questionMark = false ∧ f.lvl = f.node.op.prec ∧
    (f.isPost = true → f.node.op.prec = 2) ∧ 1 ≤ f.lvl := by
  cases f <;> simp [Frame.reducible, Frame.isOpn, Frame.isQuest] at hr
  · simp [Frame.node, Frame.lvl, Frame.isPost, pre_class _ hf]
  · simp [Frame.node, Frame.lvl, Frame.isPost, bin_class _ hf]
  · simp [Frame.node, Frame.lvl, Frame.isPost, post_class _ hf]
  · simp [Frame.node, Frame.lvl, Frame.isPost, c_class _ hf.1, c_facts, q_facts]

theorem Frame.accepts_eq {f : Frame} (hnp : f.isPost = false) (p : Nat) :
    f.accepts p = (!f.reducible || rightFits f.lvl p) := by
  cases f <;> first | rfl | cases hnp

/-- the operator of a non-postfix frame makes the next `+ - * & ++ -- ::` a prefix operator -/
theorem frame_prev_kind {f : Frame} (hf : f.ok) (hp : f.isPost = false) :
    has f.node.op.ty T.pairStart = true ∨ has f.node.op.ty T.leftUnary = true ∨ has f.node.op.ty T.binary = true := by
  cases f with
  | pre n => exact Or.inr (Or.inl (pre_class n.op hf).1)
  | bin n l => exact Or.inr (Or.inr hf)
  | post n e => cases hp
  | quest n c => exact Or.inr (Or.inl (by simp [Frame.node, q_class n.op hf, q_facts]))
  | colon n c t q => exact Or.inr (Or.inl (by simp [Frame.node, c_class n.op hf.1, c_facts]))
  | opn n => exact Or.inl hf

/-- the tree that reducing frame `f` with the operand `top` above it gives -/
def Frame.result : Frame → Option Expr → Expr
  | .pre n, some e => pfxNode n e
  | .bin n l, some r => .bin n.op l r
  | .post n e, _ => .ru n.op e
  | .colon _ c t _, some f => .tern c t f
  | _, _ => .empty

theorem Frame.result_spec {f : Frame} (hf : f.ok) (hr : f.reducible = true) {top : Option Expr}
    (hm : (top.isSome = true ∧ f.isPost = false) ∨ (top = none ∧ f.isPost = true)) :
    (∀ prev rest, applyOperator f.node prev (top.toList ++ f.outs ++ rest) = .ok (f.result top :: rest)) ∧
    printToks (f.result top) = f.toks ++ topToks top ∧ colonLu (f.result top) = false ∧
    isTypeNode (f.result top) = false ∧ rootPrec (f.result top) = f.lvl ∧
    ((∀ e ∈ f.operands, canonB e = true) → f.fit = true →
      (∀ e, top = some e → canonB e = true ∧ f.accepts (rootPrec e) = true) → canonB (f.result top) = true) := by
  cases f <;> cases top <;> simp [Frame.reducible, Frame.isOpn, Frame.isQuest, Frame.isPost] at hr hm
  · rename_i n e
    obtain ⟨_, h2, h3, h4, h5, h6⟩ := pfx_spec n e hf
    exact ⟨fun prev rest => apply_pre n prev e rest hf, h2, h5, h6, h3,
      fun _ _ ht => by simpa [Frame.result, h4, Frame.accepts] using ht e rfl⟩
  · rename_i n l e
    exact ⟨fun prev rest => apply_bin n prev e l rest hf, by simp [Frame.result, Frame.toks, topToks, printToks],
      rfl, rfl, rfl, fun hl hfit ht => by
        simpa [Frame.result, canonB, Frame.accepts, hl l (by simp [Frame.operands]), show leftFits _ _ = true from hfit]
          using ht e rfl⟩
  · rename_i n e
    exact ⟨fun prev rest => apply_post n prev e rest hf, by simp [Frame.result, Frame.toks, topToks, printToks],
      rfl, rfl, rfl, fun he hfit _ => by
        simp [Frame.result, canonB, he e (by simp [Frame.operands]), show leftFits _ _ = true from hfit]⟩
  · rename_i n c t q e
    exact ⟨fun prev rest => apply_colon n prev e t c q rest hf.1 hf.2,
      by simp [Frame.result, Frame.toks, topToks, printToks], rfl, rfl, rfl, fun hl hfit ht => by
        simpa [Frame.result, canonB, Frame.accepts, hl c (by simp [Frame.operands]), hl t (by simp [Frame.operands]),
          show leftFits _ _ = true from hfit] using ht e rfl⟩

end Occa.Expr
