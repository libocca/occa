/-
The generated integer formulas of C23 (`OccaGen/RangeFns.lean`) without their machine-integer wrappers, valid
while nothing overflows: `range::length()` and the safe tile sizes of `getMapArrayScope`.
-/
import OccaProofs.Lemmas.FunctionalLoops
import OccaProofs.Lemmas.CInt

namespace Occa.Functional.C23

/-- values that fit a `dim_t` with room to spare (no overflow in `end - start + step ± 1`) -/
def Fits (x : Int) : Prop := -2305843009213693952 ≤ x ∧ x ≤ 2305843009213693952

instance (x : Int) : Decidable (Fits x) := by unfold Fits; infer_instance

/-- lengths and tile settings that fit an `int` with room for `length + tileSize` -/
def FitsInt (x : Int) : Prop := -536870912 ≤ x ∧ x ≤ 536870912

instance (x : Int) : Decidable (FitsInt x) := by unfold FitsInt; infer_instance

end Occa.Functional.C23

namespace Occa.Functional
open Occa Occa.Gen Occa.Loop Occa.Functional.C23

theorem mag_of_fits {x : Int} (h : Fits x) : Mag (2 ^ 61) x := by
  unfold Fits at h; unfold Mag; omega

/-- `range::length()` is the number of iterations of the sequential loop, for every step (0 included: none).  The
    inner wrappers go by the magnitude of what they hold; the outer `wrapU` goes last, when the quotient has become a
    count and is visibly not negative. -/
theorem rangeLength_eq (s e st : Int) (hs : Fits s) (he : Fits e) (hst : Fits st) :
    rangeLength s e st = ((forVals s e st).length : Int) := by
  have d := (mag_of_fits he).sub (mag_of_fits hs)
  have n := d.add (mag_of_fits hst)
  have n1 := (n.sub Mag.one).tdiv st
  have n2 := (n.add Mag.one).tdiv st
  unfold rangeLength
  rw [Mag.zero.wrapS 63, Mag.zero.wrapU (Int.le_refl 0) 64, Mag.one.wrapS 63, d.wrapS 63, n.wrapS 63,
    (n.sub Mag.one).wrapS 63, (n.add Mag.one).wrapS 63, n1.wrapS 63, n2.wrapS 63]
  simp only [Bool.or_eq_true, Bool.and_eq_true, decide_eq_true_eq]
  rcases Int.lt_trichotomy st 0 with hn | rfl | hp
  · rw [forVals_down s e st hn, List.length_map, List.length_range]
    by_cases g : s < e
    · rw [if_pos (by omega), ceilN_nonpos (by omega) (by omega)]
      rfl
    · -- negate numerator and divisor: the quotient is the count `ceilN (s - e) (-st)` of the descending loop
      rw [if_neg (by omega), if_neg (by omega)]
      rw [← Int.neg_tdiv_neg, show -(e - s + st + 1) = s - e + -st - 1 by omega,
        tdiv_eq_ceilN _ _ (by omega) (by omega)] at n2 ⊢
      exact n2.wrapU (Int.natCast_nonneg _) 64
  · rw [forVals_zero]
    simp only [Int.tdiv_zero, ite_self]
    split <;> rfl
  · rw [forVals_up s e st hp, List.length_map, List.length_range]
    by_cases g : s > e
    · rw [if_pos (by omega), ceilN_nonpos hp (by omega)]
      rfl
    · rw [if_neg (by omega), if_pos hp]
      rw [tdiv_eq_ceilN _ _ hp (by omega)] at n1 ⊢
      exact n1.wrapU (Int.natCast_nonneg _) 64

theorem mapSafeTileSize_eq (len ts : Int) : mapSafeTileSize len ts = min len (max 1 ts) := by
  simp only [mapSafeTileSize, decide_eq_true_eq, ite_lt_eq_max, ite_lt_eq_min]

theorem mapTileDivisor_eq (len ts : Int) : mapTileDivisor len ts = min len (max 1 ts) := mapSafeTileSize_eq len ts

/-- `safeTileIterations = min(ceil(len / safeTileSize), max(1, tileIterations))`, and the quotient is at least 1 -/
theorem mapSafeTileIterations_bounds (len ts ti : Int) (hl : 1 ≤ len) (fl : FitsInt len) :
    1 ≤ mapSafeTileIterations len ts ti ∧ mapSafeTileIterations len ts ti ≤ max 1 ti := by
  unfold FitsInt at fl
  have hs : 1 ≤ mapSafeTileSize len ts ∧ mapSafeTileSize len ts ≤ len := by rw [mapSafeTileSize_eq]; omega
  simp only [mapSafeTileIterations]
  generalize mapSafeTileSize len ts = sts at hs
  have n := (show Mag (2 ^ 29) len by unfold Mag; omega).add (show Mag (2 ^ 29) sts by unfold Mag; omega)
  -- the quotient is `len / sts` rounded up, positive because `len` is
  have hq1 : 0 < ceilN len sts := (lt_ceilN_iff (by omega) 0).mpr (by omega)
  rw [n.wrapS 31, (n.sub Mag.one).wrapS 31, ((n.sub Mag.one).tdiv sts).wrapS 31, tdiv_eq_ceilN _ _ (by omega) (by omega)]
  simp only [decide_eq_true_eq, ite_lt_eq_max, ite_lt_eq_min]
  exact ⟨Int.le_min.mpr ⟨by omega, Int.le_max_left 1 ti⟩, Int.min_le_right _ _⟩

theorem mapVisit_pos (g : Bool) (len ts ti : Int) (hl : 1 ≤ len) :
    mapVisit g len ts ti =
      .ok (mapIndicesGen len (mapSafeTileSize len ts) (mapSafeTileIterations len ts ti)) := by
  have h0 : (len == 0) = false := beq_eq_false_iff_ne.mpr (by omega)
  have hd : (mapTileDivisor len ts == 0) = false := by rw [mapTileDivisor_eq, beq_eq_false_iff_ne]; omega
  simp only [mapVisit, h0, hd, Bool.and_false, Bool.false_eq_true, if_false]

end Occa.Functional
