/-
The JSON codec of dtypes and kernel metadata, for C11 and clause (b) of C10 (model: OccaModel/Dtype.lean).

  * `Dtype.norm n d`   the value `fromJson (toJson d n)` returns: own name of an enum / tuple /
                       struct / union node replaced by the name given to toJson, names of nested
                       such nodes replaced by "" (dtype::toJson(dtype) passes no name)
  * `Dtype.WF`         what every dtype built through the API satisfies: `prim` names are builtin
                       scalars, enumerators and field names are distinct (addEnumerator / addField
                       reject duplicates)
  * `Dtype.Equiv`      same kind, field names and order, element types, leaf names and sizes
  * the JSON round trip by mutual structural induction (`Dtype.fromJson_toJson`), over `simp` equations that read
                       a member of the objects `toJson` builds; what `norm` preserves (`Equiv`, hence size,
                       flattening and casts; `WF`; depth; the JSON itself)
  * `KernelMeta.norm`, `KernelMeta.WF` and the round trip of argument metadata
  * `Post P x`         whatever the `Except` computation `x` returns satisfies `P`: how "every dtype
                       the decoder accepts is well formed" is stated and proved
-/
import OccaModel.Dtype

namespace Occa.Dtype
open Occa

mutual
  def Dtype.norm : String → Dtype → Dtype
    | _, .prim m => .prim m
    | _, .custom m b => .custom m b
    | n, .enum_ _ b es => .enum_ n b es
    | n, .tuple _ e k => .tuple n (Dtype.norm "" e) k
    | n, .struct _ fs => .struct n fs.norm
    | n, .union_ _ fs => .union_ n fs.norm
  def Fields.norm : Fields → Fields
    | .nil => .nil
    | .cons f d r => .cons f (Dtype.norm "" d) r.norm
end

mutual
  def Dtype.WF : Dtype → Prop
    | .prim n => isPrimName n = true
    | .custom _ _ => True
    | .enum_ _ _ es => es.Nodup
    | .tuple _ e _ => e.WF
    | .struct _ fs => fs.WF ∧ fs.names.Nodup
    | .union_ _ fs => fs.WF ∧ fs.names.Nodup
  def Fields.WF : Fields → Prop
    | .nil => True
    | .cons _ d r => d.WF ∧ r.WF
end

mutual
  /-- same kind, field names and order, element types, leaf names and stored sizes; the own
      names of enum / tuple / struct / union nodes are not compared -/
  def Dtype.Equiv : Dtype → Dtype → Prop
    | .prim n, .prim m => n = m
    | .custom n b, .custom m c => n = m ∧ b = c
    | .enum_ _ b es, .enum_ _ c fs => b = c ∧ es = fs
    | .tuple _ e k, .tuple _ e' k' => k = k' ∧ e.Equiv e'
    | .struct _ fs, .struct _ gs => fs.Equiv gs
    | .union_ _ fs, .union_ _ gs => fs.Equiv gs
    | _, _ => False
  def Fields.Equiv : Fields → Fields → Prop
    | .nil, .nil => True
    | .cons n d r, .cons m e s => n = m ∧ d.Equiv e ∧ r.Equiv s
    | _, _ => False
end

def Fields.append : Fields → Fields → Fields
  | .nil, g => g
  | .cons n d r, g => .cons n d (r.append g)

/-- is the node an enum / tuple / struct / union (its own name is an argument of toJson) -/
def Dtype.isComposite : Dtype → Bool
  | .prim _ => false
  | .custom _ _ => false
  | _ => true

theorem Fields.append_nil : (f : Fields) → f.append .nil = f
  | .nil => rfl
  | .cons n d r => by simp [Fields.append, Fields.append_nil r]

theorem Fields.snoc_append : (f : Fields) → (n : String) → (d : Dtype) → (g : Fields) →
    (f.snoc n d).append g = f.append (.cons n d g)
  | .nil, _, _, _ => rfl
  | .cons _ _ r, n, d, g => by simp [Fields.snoc, Fields.append, Fields.snoc_append r n d g]

theorem Fields.names_snoc : (f : Fields) → (n : String) → (d : Dtype) → (f.snoc n d).names = f.names ++ [n]
  | .nil, _, _ => rfl
  | .cons _ _ r, n, d => by simp [Fields.snoc, Fields.names, Fields.names_snoc r n d]

theorem Fields.wf_snoc : (f : Fields) → (n : String) → (d : Dtype) → f.WF → d.WF → (f.snoc n d).WF
  | .nil, _, _, _, hd => ⟨hd, trivial⟩
  | .cons _ _ r, n, d, hf, hd => ⟨hf.1, Fields.wf_snoc r n d hf.2 hd⟩

theorem Fields.names_norm : (f : Fields) → f.norm.names = f.names
  | .nil => rfl
  | .cons _ _ r => by simp [Fields.norm, Fields.names, Fields.names_norm r]

theorem Dtype.depth_pos (d : Dtype) : 1 ≤ d.depth := by
  cases d <;> simp [Dtype.depth]

theorem nodup_snoc {l : List String} {a : String} (hl : l.Nodup) (ha : a ∉ l) : (l ++ [a]).Nodup := by
  rw [List.nodup_append]
  exact ⟨hl, by simp, fun b hb c hc hbc => ha (by simp at hc; rwa [← hc, ← hbc])⟩

theorem nodup_middle {l r : List String} {a : String} (h : (l ++ a :: r).Nodup) :
    a ∉ l ∧ ((l ++ [a]) ++ r).Nodup :=
  ⟨fun ha => (List.nodup_append.mp h).2.2 a ha a (by simp) rfl, by simpa using h⟩

theorem getBuiltin_prim {n : String} (h : isPrimName n = true) :
    getBuiltin n = .prim n ∧ isBuiltinKey n = true := by
  have h' := h
  unfold isPrimName at h'
  simp only [Bool.and_eq_true, bne_iff_ne, ne_eq, beq_iff_eq, Option.isNone_iff_eq_none] at h'
  obtain ⟨⟨hne, hmap⟩, htup⟩ := h'
  unfold getBuiltin isBuiltinKey
  cases hf : Gen.builtinMap.find? (fun e => e.1 == n) with
  | none => simp [hf] at hmap
  | some e =>
    simp only [hf, Option.map_some, Option.some.injEq] at hmap
    simp [hmap, hne, registeredByName, htup, h]

/-- the element of every registered vector is a registered scalar (a fact about the generated table) -/
theorem builtin_table_ok : ∀ e ∈ Gen.dtypeTuples, isPrimName e.2.1 = true := by decide +kernel

theorem getBuiltin_wf (key : String) : (getBuiltin key).WF := by
  unfold getBuiltin
  split
  · unfold registeredByName
    split
    · next e h => exact builtin_table_ok e (List.mem_of_find?_eq_some h)
    · split
      · assumption
      · trivial
  · trivial

/-! `Json.get` / `Json.has` member by member, and past the optional name member that `toJson` writes
    after the tag: with these `simp` reads any key from the objects `toJson` builds, and with the coercions and
    the two monad equations it runs a decoder on them -/

attribute [local simp] Json.isArray Json.array Json.isNumber Json.toInt Json.toBool

@[local simp] theorem pure_eq {ε α : Type} (a : α) : (pure a : Except ε α) = .ok a := rfl
@[local simp] theorem ok_bind {ε α β : Type} (a : α) (f : α → Except ε β) : (Except.ok a >>= f) = f a := rfl

@[simp] theorem Json.get_nil (k : String) : (Json.obj []).get k = .null := rfl

@[simp] theorem Json.get_cons (k' k : String) (v : Json) (kvs : List (String × Json)) :
    (Json.obj ((k', v) :: kvs)).get k = if k' = k then v else (Json.obj kvs).get k := by
  by_cases h : k' = k <;> simp [Json.get, h]

@[simp] theorem Json.has_nil (k : String) : (Json.obj []).has k = false := rfl

@[simp] theorem Json.has_cons (k' k : String) (v : Json) (kvs : List (String × Json)) :
    (Json.obj ((k', v) :: kvs)).has k = (k' == k || (Json.obj kvs).has k) := by
  simp [Json.has]

@[simp] theorem Json.toStr?_str (s : String) : (Json.str s).toStr? = some s := rfl

@[simp] theorem get_nameEntry (n : String) {k : String} (rest : List (String × Json)) (hk : k ≠ "name") :
    (Json.obj (nameEntry n ++ rest)).get k = (Json.obj rest).get k := by
  unfold nameEntry
  split <;> simp [Ne.symm hk]

@[simp] theorem has_nameEntry (n : String) {k : String} (rest : List (String × Json)) (hk : k ≠ "name") :
    (Json.obj (nameEntry n ++ rest)).has k = (Json.obj rest).has k := by
  unfold nameEntry
  split <;> simp [Ne.symm hk]

/-- `dtype.name_ = j["name"].toString()` gives back the name `toJson` was called with, written or not -/
@[simp] theorem name_nameEntry (n : String) {rest : List (String × Json)} (hr : (Json.obj rest).get "name" = .null) :
    (((Json.obj (nameEntry n ++ rest)).get "name").toStr?).getD "" = n := by
  unfold nameEntry
  split
  · simp
  · simp_all [Json.toStr?]

theorem enumGo_toJson (es : List String) : ∀ acc : List String, (acc ++ es).Nodup →
    enumGo (enumeratorsJson es) acc = .ok (acc ++ es) := by
  induction es with
  | nil => intro acc _; simp [enumeratorsJson, enumGo]
  | cons e r ih =>
    intro acc h
    have ⟨hnot, h'⟩ := nodup_middle h
    have := ih (acc ++ [e]) h'
    simp only [enumeratorsJson, List.map_cons] at this ⊢
    simp [enumGo, hnot, this]

mutual
  theorem Dtype.fromJson_toJson (hE : Gen.enumWritesBytes = true) (hR : Gen.fromJsonRestoresBytes = true)
      (hI : Gen.builtinByIdentity = true) (d : Dtype) :
      ∀ (n : String) (fuel : Nat), d.WF → d.depth ≤ fuel →
        Dtype.fromJson fuel (d.toJson n) = .ok (Dtype.norm n d) := by
    intro n fuel hwf h
    cases fuel with
    | zero => exact absurd (Nat.le_trans d.depth_pos h) (by omega)
    | succ f =>
      cases d with
      | prim m =>
        have ⟨h1, h2⟩ := getBuiltin_prim hwf
        simp [Dtype.toJson, Dtype.fromJson, Dtype.norm, h1, h2]
      | custom m b =>
        simp [Dtype.toJson, Dtype.fromJson, Dtype.norm, hI]
      | enum_ m b es =>
        have hgo := enumGo_toJson es [] hwf
        simp [Dtype.toJson, Dtype.fromJson, Dtype.norm, hE, hR, enumFromJson, hgo]
      | tuple m e k =>
        have ih := Dtype.fromJson_toJson hE hR hI e "" f hwf (Nat.le_of_succ_le_succ h)
        simp [Dtype.toJson, Dtype.fromJson, Dtype.norm, ih]
      | struct m fs =>
        have ih := Fields.fromJson_toJson hE hR hI fs f .nil hwf.1 (Nat.le_of_succ_le_succ h) hwf.2
        simp [Dtype.toJson, Dtype.fromJson, Dtype.norm, fieldsFromJson, ih, Fields.append]
      | union_ m fs =>
        have ih := Fields.fromJson_toJson hE hR hI fs f .nil hwf.1 (Nat.le_of_succ_le_succ h) hwf.2
        simp [Dtype.toJson, Dtype.fromJson, Dtype.norm, fieldsFromJson, ih, Fields.append]
  theorem Fields.fromJson_toJson (hE : Gen.enumWritesBytes = true) (hR : Gen.fromJsonRestoresBytes = true)
      (hI : Gen.builtinByIdentity = true) (fs : Fields) :
      ∀ (fuel : Nat) (acc : Fields), fs.WF → fs.depth ≤ fuel → (acc.names ++ fs.names).Nodup →
        fieldsGo (Dtype.fromJson fuel) fs.toJson acc = .ok (acc.append fs.norm) := by
    intro fuel acc hwf hfuel hnd
    cases fs with
    | nil => exact congrArg Except.ok (Fields.append_nil acc).symm
    | cons fname d r =>
      have ⟨hnot, hnd'⟩ := nodup_middle hnd
      rw [← Fields.names_snoc acc fname (Dtype.norm "" d)] at hnd'
      have ih := Fields.fromJson_toJson hE hR hI r fuel _ hwf.2 (Nat.le_trans (Nat.le_max_right ..) hfuel) hnd'
      have hd := Dtype.fromJson_toJson hE hR hI d "" fuel hwf.1 (Nat.le_trans (Nat.le_max_left ..) hfuel)
      rw [Fields.snoc_append] at ih
      simp [Fields.toJson, Fields.norm, fieldsGo, hd, hnot, ih]
end

mutual
  theorem Dtype.equiv_norm : (d : Dtype) → (n : String) → d.Equiv (Dtype.norm n d)
    | .prim _, _ => rfl
    | .custom _ _, _ => ⟨rfl, rfl⟩
    | .enum_ _ _ _, _ => ⟨rfl, rfl⟩
    | .tuple _ e _, _ => ⟨rfl, Dtype.equiv_norm e ""⟩
    | .struct _ fs, _ => Fields.equiv_norm fs
    | .union_ _ fs, _ => Fields.equiv_norm fs
  theorem Fields.equiv_norm : (fs : Fields) → fs.Equiv fs.norm
    | .nil => trivial
    | .cons _ d r => ⟨rfl, Dtype.equiv_norm d "", Fields.equiv_norm r⟩
end

-- between different constructors `Equiv` is `False` by definition (`h.elim`)
mutual
  theorem Dtype.Equiv.props : (d d' : Dtype) → d.Equiv d' →
      d.bytes = d'.bytes ∧ d.flatten = d'.flatten ∧ isByte d = isByte d'
    | d, d', h => by
      cases d <;> cases d' <;> try exact h.elim
      case prim.prim => obtain rfl := h; exact ⟨rfl, rfl, rfl⟩
      case custom.custom => obtain ⟨rfl, rfl⟩ := h; exact ⟨rfl, rfl, rfl⟩
      case enum_.enum_ => obtain ⟨rfl, rfl⟩ := h; exact ⟨rfl, rfl, rfl⟩
      case tuple.tuple _ e _ _ e' _ =>
        obtain ⟨rfl, h⟩ := h
        have p := Dtype.Equiv.props e e' h
        exact ⟨congrArg (· * _) p.1, congrArg (repeatList _) p.2.1, rfl⟩
      case struct.struct _ fs _ gs => exact ⟨(Fields.Equiv.props fs gs h).1, (Fields.Equiv.props fs gs h).2, rfl⟩
      case union_.union_ _ fs _ gs => exact ⟨(Fields.Equiv.props fs gs h).1, (Fields.Equiv.props fs gs h).2, rfl⟩
  theorem Fields.Equiv.props : (fs gs : Fields) → fs.Equiv gs → fs.bytes = gs.bytes ∧ fs.flatten = gs.flatten
    | fs, gs, h => by
      cases fs <;> cases gs <;> try exact h.elim
      case nil.nil => exact ⟨rfl, rfl⟩
      case cons.cons _ d r _ e s =>
        have p := Dtype.Equiv.props d e h.2.1
        have q := Fields.Equiv.props r s h.2.2
        exact ⟨by show _ + _ = _ + _; rw [p.1, q.1], by show _ ++ _ = _ ++ _; rw [p.2.1, q.2]⟩
end

theorem Dtype.bytes_norm (d : Dtype) (n : String) : (Dtype.norm n d).bytes = d.bytes :=
  (Dtype.Equiv.props _ _ (d.equiv_norm n)).1.symm

theorem Dtype.flatten_norm (d : Dtype) (n : String) : (Dtype.norm n d).flatten = d.flatten :=
  (Dtype.Equiv.props _ _ (d.equiv_norm n)).2.1.symm

theorem isByte_norm (d : Dtype) (n : String) : isByte (Dtype.norm n d) = isByte d :=
  (Dtype.Equiv.props _ _ (d.equiv_norm n)).2.2.symm

theorem Fields.bytes_norm : (fs : Fields) → fs.norm.bytes = fs.bytes :=
  fun fs => (Fields.Equiv.props _ _ fs.equiv_norm).1.symm

theorem Fields.flatten_norm : (fs : Fields) → fs.norm.flatten = fs.flatten :=
  fun fs => (Fields.Equiv.props _ _ fs.equiv_norm).2.symm

mutual
  theorem Dtype.toJson_norm : (d : Dtype) → (n m : String) → (Dtype.norm n d).toJson m = d.toJson m
    | .prim _, _, _ => rfl
    | .custom _ _, _, _ => rfl
    | .enum_ _ _ _, _, _ => rfl
    | .tuple _ e k, _, _ => by simp [Dtype.norm, Dtype.toJson, Dtype.toJson_norm e "" ""]
    | .struct _ fs, _, _ => by simp [Dtype.norm, Dtype.toJson, Fields.toJson_norm fs]
    | .union_ _ fs, _, _ => by simp [Dtype.norm, Dtype.toJson, Fields.toJson_norm fs]
  theorem Fields.toJson_norm : (fs : Fields) → fs.norm.toJson = fs.toJson
    | .nil => rfl
    | .cons _ d r => by simp [Fields.norm, Fields.toJson, Dtype.toJson_norm d "" "", Fields.toJson_norm r]
end

mutual
  theorem Dtype.wf_norm : (d : Dtype) → (n : String) → d.WF → (Dtype.norm n d).WF
    | .prim _, _, h => h
    | .custom _ _, _, _ => trivial
    | .enum_ _ _ _, _, h => h
    | .tuple _ e _, _, h => Dtype.wf_norm e "" h
    | .struct _ fs, _, h => ⟨Fields.wf_norm fs h.1, fs.names_norm ▸ h.2⟩
    | .union_ _ fs, _, h => ⟨Fields.wf_norm fs h.1, fs.names_norm ▸ h.2⟩
  theorem Fields.wf_norm : (fs : Fields) → fs.WF → fs.norm.WF
    | .nil, _ => trivial
    | .cons _ d r, h => ⟨Dtype.wf_norm d "" h.1, Fields.wf_norm r h.2⟩
end

mutual
  theorem Dtype.depth_norm : (d : Dtype) → (n : String) → (Dtype.norm n d).depth = d.depth
    | .prim _, _ => rfl
    | .custom _ _, _ => rfl
    | .enum_ _ _ _, _ => rfl
    | .tuple _ e _, _ => congrArg (· + 1) (Dtype.depth_norm e "")
    | .struct _ fs, _ => congrArg (· + 1) (Fields.depth_norm fs)
    | .union_ _ fs, _ => congrArg (· + 1) (Fields.depth_norm fs)
  theorem Fields.depth_norm : (fs : Fields) → fs.norm.depth = fs.depth
    | .nil => rfl
    | .cons _ d r => by simp [Fields.norm, Fields.depth, Dtype.depth_norm d "", Fields.depth_norm r]
end

theorem Dtype.name_norm (d : Dtype) (n : String) :
    (Dtype.norm n d).name = if d.isComposite then n else d.name := by
  cases d <;> rfl

theorem canCast_congr {a a' b b' : Dtype} (h1 : isByte a = isByte a') (h2 : a.flatten = a'.flatten)
    (h3 : isByte b = isByte b') (h4 : b.flatten = b'.flatten) : canCast a b = canCast a' b' := by
  unfold canCast
  rw [h1, h2, h3, h4]

def ArgMeta.norm (a : ArgMeta) : ArgMeta := { a with dtype := Dtype.norm "" a.dtype }
def KernelMeta.norm (m : KernelMeta) : KernelMeta :=
  { initialized := true, name := m.name, arguments := m.arguments.map ArgMeta.norm }
def KernelMeta.WF (m : KernelMeta) : Prop := ∀ a ∈ m.arguments, a.dtype.WF

theorem foldl_max_le (l : List ArgMeta) : ∀ (k : Nat), k ≤ l.foldl (fun n a => max n a.depth) k ∧
    ∀ a ∈ l, a.depth ≤ l.foldl (fun n a => max n a.depth) k := by
  induction l with
  | nil => intro k; simp
  | cons x r ih =>
    intro k
    have h := ih (max k x.depth)
    simp only [List.foldl_cons, List.mem_cons, forall_eq_or_imp]
    refine ⟨by omega, by omega, h.2⟩

theorem KernelMeta.depth_arg (m : KernelMeta) {a : ArgMeta} (h : a ∈ m.arguments) : a.dtype.depth ≤ m.depth :=
  (foldl_max_le m.arguments 0).2 a h

theorem ArgMeta.fromJson_toJson (hE : Gen.enumWritesBytes = true) (hR : Gen.fromJsonRestoresBytes = true)
    (hI : Gen.builtinByIdentity = true) (a : ArgMeta) (fuel : Nat) (hw : a.dtype.WF) (hd : a.dtype.depth ≤ fuel) :
    ArgMeta.fromJson fuel a.toJson = .ok a.norm := by
  have h := Dtype.fromJson_toJson hE hR hI a.dtype "" fuel hw hd
  simp [ArgMeta.fromJson, ArgMeta.toJson, h, ArgMeta.norm]

theorem mapM_ok {γ α β : Type} (f : γ → α) (g : α → Except Err β) (h : γ → β) :
    ∀ (l : List γ), (∀ c ∈ l, g (f c) = .ok (h c)) → (l.map f).mapM g = .ok (l.map h) := by
  intro l
  induction l with
  | nil => intro _; rfl
  | cons x r ih =>
    intro hl
    rw [List.forall_mem_cons] at hl
    simp [List.mapM_cons, hl.1, ih hl.2]

theorem KernelMeta.fromJson_toJson (hE : Gen.enumWritesBytes = true) (hR : Gen.fromJsonRestoresBytes = true)
    (hI : Gen.builtinByIdentity = true) (hM : Gen.fromJsonMarksInitialized = true)
    (m : KernelMeta) (fuel : Nat) (hw : m.WF) (hd : m.depth ≤ fuel) :
    KernelMeta.fromJson fuel m.toJson = .ok m.norm := by
  have hargs : (m.arguments.map ArgMeta.toJson).mapM (ArgMeta.fromJson fuel) = .ok (m.arguments.map ArgMeta.norm) :=
    mapM_ok _ _ _ _ fun a ha =>
      ArgMeta.fromJson_toJson hE hR hI a fuel (hw a ha) (Nat.le_trans (m.depth_arg ha) hd)
  simp [KernelMeta.fromJson, KernelMeta.toJson, hargs, hM, KernelMeta.norm]

/-- `P` holds of the value of `x`, if it has one.  The rules below follow the shapes the decoders are
    written in. -/
def Post {ε α : Type} (P : α → Prop) (x : Except ε α) : Prop := ∀ v, x = .ok v → P v

namespace Post
variable {ε α : Type} {P : α → Prop} {x y : Except ε α} {c : Prop} [Decidable c] {e : ε}

theorem error : Post P (.error e : Except ε α) := fun _ h => nomatch h

theorem pure {v : α} (h : P v) : Post P (pure v : Except ε α) := fun _ h' => by cases h'; exact h

theorem ite (hx : Post P x) (hy : Post P y) : Post P (if c then x else y) := by
  split <;> assumption

theorem guard (hy : ¬ c → Post P y) : Post P (if c then throw e else y) := by
  split
  · exact error
  · exact hy ‹_›

/-- Past a call of `x` inside `match x with | .error e => .error e | .ok v => ..`.  A rule whose conclusion contains
    the `match` would have to be polymorphic in the value types, and the matcher of such a rule does not unify with the
    model's (one over closed types does: `Decides.seq`, Lemmas/Cast.lean).  An eliminator with conclusion `motive x`
    fires: `elab_as_elim` finds the call in the goal by abstraction. -/
@[elab_as_elim]
theorem on {motive : Except ε α → Prop} (hx : Post P x) (error : ∀ e, motive (.error e))
    (ok : ∀ v, P v → motive (.ok v)) : motive x := by
  cases x with
  | error e => exact error e
  | ok v => exact ok v (hx v rfl)

end Post

theorem enumGo_nodup : ∀ (l : List Json) (acc : List String), acc.Nodup → Post List.Nodup (enumGo l acc)
  | [], _, ha => .pure ha
  | e :: l, acc, ha => by
      unfold enumGo
      refine .guard fun _ => ?_
      split
      · exact .guard fun hc => enumGo_nodup l _ (nodup_snoc ha (by simpa using hc))
      · exact .error

theorem enumFromJson_nodup (j : Json) : Post List.Nodup (enumFromJson j) :=
  .guard fun _ => .guard fun _ => enumGo_nodup _ [] List.nodup_nil

theorem fieldsGo_wf {dec : Json → Except Err Dtype} (hdec : ∀ j, Post Dtype.WF (dec j)) :
    ∀ (l : List Json) (acc : Fields), acc.WF → acc.names.Nodup →
      Post (fun r => r.WF ∧ r.names.Nodup) (fieldsGo dec l acc)
  | [], _, h1, h2 => .pure ⟨h1, h2⟩
  | f :: l, acc, h1, h2 => by
      unfold fieldsGo
      refine .guard fun _ => .guard fun _ => ?_
      split
      · exact (hdec _).on (fun _ => .error) fun d hd => .guard fun hc =>
          fieldsGo_wf hdec l _ (acc.wf_snoc _ d h1 hd) (acc.names_snoc _ d ▸ nodup_snoc h2 (by simpa using hc))
      · exact .error

theorem fieldsFromJson_wf {dec : Json → Except Err Dtype} (hdec : ∀ j, Post Dtype.WF (dec j)) (j : Json) :
    Post (fun r => r.WF ∧ r.names.Nodup) (fieldsFromJson dec j) :=
  .guard fun _ => .guard fun _ => fieldsGo_wf hdec _ .nil trivial List.nodup_nil

theorem Dtype.fromJson_wf : ∀ (fuel : Nat) (j : Json), Post Dtype.WF (Dtype.fromJson fuel j)
  | 0, _ => .error
  | fuel + 1, j => by
      have ih := Dtype.fromJson_wf fuel
      unfold Dtype.fromJson
      -- by tag: builtin, enum, struct, tuple, union, custom, anything else
      exact .ite (.guard fun _ => .pure (getBuiltin_wf _))
        (.ite ((enumFromJson_nodup j).on (fun _ => .error) fun _ h => .pure h)
        (.ite ((fieldsFromJson_wf ih j).on (fun _ => .error) fun _ h => .pure h)
        (.ite (.guard fun _ => .guard fun _ => .guard fun _ => (ih _).on (fun _ => .error) fun _ h => .pure h)
        (.ite ((fieldsFromJson_wf ih j).on (fun _ => .error) fun _ h => .pure h)
        (.ite (.pure trivial) .error)))))

end Occa.Dtype
