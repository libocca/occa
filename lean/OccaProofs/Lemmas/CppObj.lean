/-
OCCA's macro expansion on tables of OBJECT-LIKE macros (any reference structure, cycles and
self-reference included): it terminates, and it agrees with the hide-set reference.

For such tables processToken has a closed form (`ptObj`), and the whole run is one tree walk that both
algorithms make: `tr` lists the processToken steps that the complete expansion of a token takes, `trace` those of a
list of the reference, `toH` is the list of the reference that a state of the machine stands for.  The length
of the trace bounds the machine's time (eleven units of fuel for each entry), its `some` entries are what the machine
(`obj_run`, induction on the trace) and the reference (`expandR_trace`, induction on its own fuel) put out.  A step of
the machine is put under the consumer by `drain_cons` (CppExpand.lean).
-/
import OccaProofs.Lemmas.CppExpand

namespace Occa.Cpp

/-- every macro is object-like (and none is the built-in `defined`) -/
def ObjTable (tbl : List Macro) : Prop := ∀ m ∈ tbl, m.isFn = false ∧ m.special = false

/-- the tokens an object-like macro expands to -/
def objBody (vc : XCfg) (m : Macro) : List Tok := subst vc.vaCommas m []

/-- no token spelled `defined` (that identifier is a built-in function-like macro) -/
def NoDefined (vc : XCfg) (tbl : List Macro) : Prop :=
  ∀ m ∈ tbl, ∀ t ∈ objBody vc m, t.text ≠ "defined"

/-- the macro a token would be replaced by: an identifier naming a macro that is not disabled -/
def expandable (tbl : List Macro) (D : List String) (t : Tok) : Option Macro :=
  if t.isIdent then
    match tbl.find? (fun m => m.name == t.text) with
    | some m => if D.contains m.name then none else some m
    | none => none
  else none

/-- closed form of processToken on an object-like table -/
def ptObj (vc : XCfg) (t : ITok) (s : PP) : PP :=
  match expandable s.table s.disabled t.tok with
  | none => (s.pushOut t.tok).clear t.ends
  | some m =>
    match (objBody vc m).getLast? with
    | none => s.clear t.ends
    | some l =>
      { s with disabled := m.name :: s.disabled,
               input := ((objBody vc m).dropLast.map (fun x => (⟨x, []⟩ : ITok)) ++ [⟨l, t.ends ++ [m.name]⟩]) ++ s.input }

theorem clear_nil (s : PP) : s.clear [] = s := by
  cases s; simp [PP.clear]

theorem lookup_of_not_defined (tbl : List Macro) (n : String) (h : n ≠ "defined") :
    lookup tbl n = tbl.find? (fun m => m.name == n) := by
  unfold lookup
  cases tbl.find? (fun m => m.name == n) with
  | some m => rfl
  | none => simp [h]

/-- Five units of fuel: processToken, processIdentifier, expandMacro, macroExpand, loadArgs take one each. -/
theorem processToken_obj (vc : XCfg) (t : ITok) (s : PP) (hobj : ObjTable s.table) (hex : s.expanding = true)
    (hd : t.tok.text ≠ "defined") : processToken vc 5 t s = .ok (ptObj vc t s) := by
  rw [processToken, ptObj, expandable]
  cases hid : t.tok.isIdent
  · rfl
  rw [if_pos rfl, if_pos rfl, processIdentifier, if_pos hex, lookup_of_not_defined s.table t.tok.text hd]
  cases hf : s.table.find? (fun m => m.name == t.tok.text) with
  | none => rfl
  | some m =>
    have hm := hobj m (List.mem_of_find?_eq_some hf)
    dsimp only
    cases hdis : s.disabled.contains m.name
    · -- the tests of processIdentifier in turn: not disabled, not the built-in `defined`, not function-like
      rw [if_neg Bool.false_ne_true, hm.2, Bool.and_false, Bool.false_and, if_neg Bool.false_ne_true, hm.1,
        Bool.not_false, if_pos rfl, if_neg Bool.false_ne_true]
      simp only [expandMacro, macroExpand, loadArgs, hm.1, hm.2, Bool.false_eq_true, if_false, Bool.not_false,
        if_true, objBody]
      cases (subst vc.vaCommas m []).getLast? with
      | none => rfl
      | some l => simp only [hdis, Bool.false_eq_true, if_false, clear_nil]
    · rfl

theorem filter_ne_length_lt (E : List Macro) (m : Macro) (hm : m ∈ E) :
    (E.filter (fun x => x.name != m.name)).length < E.length :=
  List.length_filter_lt_length_iff_exists.mpr ⟨m, hm, by simp⟩

/-- The processToken steps that the complete expansion of `t` takes while the macros `E` are enabled, in order:
    `none` for a step that replaces a macro name by its body, `some x` for a step that passes `x` on.
    It is indexed by the list of enabled macros and not by a hide set: the machine disables `m` by `m.name :: D`,
    the reference by `hsUnion hs [m.name]`, two lists with the same members, and `enabledOf tbl` of them is the
    same list (`enabledOf_congr`, hence `trace_hs`, which `expandR_trace` uses at its one replacement step); no
    invariant has to speak of hide sets that agree as sets. -/
def tr (vc : XCfg) (E : List Macro) (t : Tok) : List (Option Tok) :=
  if t.isIdent then
    match h : E.find? (fun m => m.name == t.text) with
    | some m => [none] ++ (objBody vc m).flatMap (tr vc (E.filter (fun x => x.name != m.name)))
    | none => [some t]
  else [some t]
termination_by E.length
decreasing_by simpa using filter_ne_length_lt E m (List.mem_of_find?_eq_some h)

def enabledOf (tbl : List Macro) (D : List String) : List Macro := tbl.filter (fun m => !D.contains m.name)

theorem find?_enabledOf (tbl : List Macro) (D : List String) (x : String) :
    (enabledOf tbl D).find? (fun m => m.name == x) =
      if D.contains x then none else tbl.find? (fun m => m.name == x) := by
  -- all macros named `x` are enabled or disabled together
  have : ∀ m : Macro, decide ((!D.contains m.name) = true ∧ (m.name == x) = true) = (!D.contains x && m.name == x) :=
    fun m => by by_cases h : m.name = x <;> simp [h]
  rw [enabledOf, List.find?_filter]
  simp only [this]
  cases D.contains x <;> simp

theorem enabledOf_cons (tbl : List Macro) (D : List String) (n : String) :
    enabledOf tbl (n :: D) = (enabledOf tbl D).filter (fun x => x.name != n) := by
  unfold enabledOf
  rw [List.filter_filter]
  apply List.filter_congr
  intro x _
  by_cases h : x.name = n <;> simp [h]

theorem enabledOf_congr {D D' : List String} (h : ∀ x, x ∈ D ↔ x ∈ D') (tbl : List Macro) :
    enabledOf tbl D = enabledOf tbl D' :=
  List.filter_congr fun m _ => by simp [h m.name]

theorem expandable_eq (tbl : List Macro) (D : List String) (t : Tok) :
    expandable tbl D t =
      if t.isIdent then (enabledOf tbl D).find? (fun m => m.name == t.text) else none := by
  rw [expandable, find?_enabledOf]
  cases t.isIdent
  · rfl
  cases hf : tbl.find? (fun m => m.name == t.text) with
  | none => simp
  | some m =>
    have := List.find?_some hf
    rw [← show m.name = t.text from eq_of_beq this]

theorem tr_eq (vc : XCfg) (tbl : List Macro) (D : List String) (t : Tok) :
    tr vc (enabledOf tbl D) t =
      match expandable tbl D t with
      | none => [some t]
      | some m => none :: (objBody vc m).flatMap (tr vc (enabledOf tbl (m.name :: D))) := by
  rw [tr, expandable_eq]
  split
  · split
    · rename_i m h
      rw [h]
      exact (enabledOf_cons tbl D m.name).symm ▸ rfl
    · rename_i h
      rw [h]
  · rfl

/-- The reference's token list that a state of the machine stands for: the hide set of a pending token is
    what will be disabled when the token is processed (the macros ending at earlier tokens are enabled again
    by then). -/
def toH : List String → List ITok → List HTok
  | _, [] => []
  | D, t :: r => ⟨t.tok, D⟩ :: toH (D.filter (fun m => !t.ends.contains m)) r

theorem filter_ends_nil (D : List String) : D.filter (fun m => !([] : List String).contains m) = D := by
  simp

theorem toH_plain (D : List String) (pre : List Tok) (rest : List ITok) :
    toH D (pre.map (fun x => (⟨x, []⟩ : ITok)) ++ rest) = pre.map (fun x => (⟨x, D⟩ : HTok)) ++ toH D rest := by
  induction pre with
  | nil => rfl
  | cons a r ih =>
    simp only [List.map_cons, List.cons_append, toH]
    rw [filter_ends_nil, ih]

theorem filter_after_expand (D : List String) (ends : List String) (n : String) (hn : n ∉ D) :
    (n :: D).filter (fun m => !(ends ++ [n]).contains m) = D.filter (fun m => !ends.contains m) := by
  rw [List.filter_cons]
  simp only [List.contains_eq_mem, List.mem_append, List.mem_singleton, or_true, decide_true, Bool.not_true,
    Bool.false_eq_true, if_false]
  apply List.filter_congr
  intro x hx
  have : x ≠ n := fun e => hn (e ▸ hx)
  simp [this]

def trace (vc : XCfg) (tbl : List Macro) (hl : List HTok) : List (Option Tok) :=
  hl.flatMap fun h => tr vc (enabledOf tbl h.hs) h.tok

theorem trace_hs (vc : XCfg) (tbl : List Macro) {hs hs' : List String} (hh : ∀ x, x ∈ hs ↔ x ∈ hs') (b : List Tok)
    (hl : List HTok) :
    trace vc tbl (b.map (fun x => (⟨x, hs⟩ : HTok)) ++ hl) = trace vc tbl (b.map (fun x => (⟨x, hs'⟩ : HTok)) ++ hl) := by
  simp only [trace, List.flatMap_append, List.flatMap_map, enabledOf_congr hh]

/-- `trace` solves the recursion that both algorithms follow; nothing below unfolds it or `tr` -/
theorem trace_cons (vc : XCfg) (tbl : List Macro) (h : HTok) (hl : List HTok) :
    trace vc tbl (h :: hl) =
      match expandable tbl h.hs h.tok with
      | none => some h.tok :: trace vc tbl hl
      | some m => none :: trace vc tbl ((objBody vc m).map (fun x => (⟨x, m.name :: h.hs⟩ : HTok)) ++ hl) := by
  show tr vc (enabledOf tbl h.hs) h.tok ++ trace vc tbl hl = _
  rw [tr_eq]
  cases expandable tbl h.hs h.tok with
  | none => rfl
  | some m => simp only [trace, List.flatMap_append, List.flatMap_map, List.cons_append]

theorem expandable_mem {tbl : List Macro} {D : List String} {t : Tok} {m : Macro}
    (h : expandable tbl D t = some m) : tbl.find? (fun x => x.name == t.text) = some m ∧ m.name ∉ D := by
  unfold expandable at h
  split at h
  · split at h
    · rename_i m' hf
      split at h
      · cases h
      · rename_i hc
        cases h
        exact ⟨hf, by simpa using hc⟩
    · cases h
  · cases h

/-- the machine disables the name until the body's last token has gone by, the reference puts it in every hide set
    of the body -/
theorem toH_ptObj (vc : XCfg) (t : ITok) (s : PP) :
    (ptObj vc t s).table = s.table ∧ (ptObj vc t s).expanding = s.expanding ∧
      (ptObj vc t s).output =
        s.output ++ (match expandable s.table s.disabled t.tok with | none => [t.tok] | some _ => []) ∧
      toH (ptObj vc t s).disabled (ptObj vc t s).input =
        (match expandable s.table s.disabled t.tok with
         | none => []
         | some m => (objBody vc m).map (fun x => (⟨x, m.name :: s.disabled⟩ : HTok))) ++
          toH (s.disabled.filter (fun x => !t.ends.contains x)) s.input := by
  unfold ptObj
  cases he : expandable s.table s.disabled t.tok with
  | none => exact ⟨rfl, rfl, rfl, rfl⟩
  | some m =>
    simp only
    cases hl : (objBody vc m).getLast? with
    | none =>
      rw [List.getLast?_eq_none_iff.mp hl]
      exact ⟨rfl, rfl, (List.append_nil _).symm, rfl⟩
    | some l =>
      obtain ⟨ys, hys⟩ := List.getLast?_eq_some_iff.mp hl
      refine ⟨rfl, rfl, (List.append_nil _).symm, ?_⟩
      simp only [hys, List.dropLast_concat, List.append_assoc, toH_plain, List.map_append, List.cons_append,
        List.nil_append, toH, List.map_cons, List.map_nil, filter_after_expand _ _ _ (expandable_mem he).2]

theorem trace_ptObj (vc : XCfg) (t : ITok) (s : PP) :
    ∃ x, trace vc s.table (toH s.disabled (t :: s.input)) =
        x :: trace vc (ptObj vc t s).table (toH (ptObj vc t s).disabled (ptObj vc t s).input) ∧
      (ptObj vc t s).output = s.output ++ x.toList := by
  obtain ⟨htb, -, ho, hin⟩ := toH_ptObj vc t s
  rw [toH, trace_cons, htb, hin]
  revert ho
  cases expandable s.table s.disabled t.tok with
  | none => exact fun ho => ⟨_, rfl, ho⟩
  | some m => exact fun ho => ⟨none, rfl, ho⟩

theorem refBody_eq (vc : XCfg) (m : Macro) (hs : List String) :
    refBody m hs = (objBody vc m).map (fun x => (⟨x, hs⟩ : HTok)) := by
  unfold refBody objBody subst
  induction m.body with
  | nil => rfl
  | cons b r ih =>
    cases b with
    | raw t => simp [ih]
    | arg i => simp [ih]
    | va => cases h : vc.vaCommas <;> simp [ih, h]

/-- the reference's step, in the shape of `trace_cons` -/
theorem expandR_cons (vc : XCfg) (f : Nat) {tbl : List Macro} (hobj : ObjTable tbl) (h : HTok) (hr : List HTok) :
    expandR (f + 1) tbl (h :: hr) =
      match expandable tbl h.hs h.tok with
      | none => (match expandR f tbl hr with
                 | .ok r => .ok (h :: r)
                 | e => e)
      | some m => expandR f tbl ((objBody vc m).map (fun x => (⟨x, hsUnion h.hs [m.name]⟩ : HTok)) ++ hr) := by
  rw [expandR, expandable]
  cases hid : h.tok.isIdent
  · cases expandR f tbl hr <;> rfl
  cases hf : tbl.find? (fun m => m.name == h.tok.text) with
  | none => cases expandR f tbl hr <;> rfl
  | some m =>
    simp only [Bool.not_true, Bool.false_eq_true, if_false, if_true, (hobj m (List.mem_of_find?_eq_some hf)).1,
      Bool.not_false, refBody_eq vc]
    cases hc : h.hs.contains m.name
    · rfl
    · cases expandR f tbl hr <;> rfl

theorem mem_hsUnion (a b : List String) (x : String) : x ∈ hsUnion a b ↔ x ∈ a ∨ x ∈ b := by
  unfold hsUnion
  simp only [List.mem_append, List.mem_filter]
  constructor
  · rintro (h | ⟨h, _⟩)
    · exact Or.inl h
    · exact Or.inr h
  · rintro (h | h)
    · exact Or.inl h
    · by_cases ha : x ∈ a
      · exact Or.inl ha
      · exact Or.inr ⟨h, by simpa using ha⟩

theorem expandR_trace (vc : XCfg) {tbl : List Macro} (hobj : ObjTable tbl) :
    ∀ (n : Nat) (hl r : List HTok), expandR n tbl hl = .ok r → r.map (·.tok) = (trace vc tbl hl).filterMap id
  | 0, _, _, hr => by cases hr
  | _ + 1, [], r, hr => by
      cases hr
      rfl
  | f + 1, h :: hl, r, hr => by
      rw [expandR_cons vc f hobj] at hr
      rw [trace_cons]
      cases he : expandable tbl h.hs h.tok with
      | none =>
        rw [he] at hr
        cases hr' : expandR f tbl hl <;> rw [hr'] at hr <;> cases hr
        exact congrArg (h.tok :: ·) (expandR_trace vc hobj f hl _ hr')
      | some m =>
        rw [he] at hr
        rw [expandR_trace vc hobj f _ r hr,
          trace_hs vc tbl (hs' := m.name :: h.hs) fun x => by simp [mem_hsUnion, or_comm]]
        rfl

/-- `inp` speaks of the reference's list, as `toH_ptObj` does -/
structure ObjInv (vc : XCfg) (s : PP) : Prop where
  obj : ObjTable s.table
  nd : NoDefined vc s.table
  ex : s.expanding = true
  inp : ∀ h ∈ toH s.disabled s.input, h.tok.text ≠ "defined"

theorem ObjInv.ptObj {vc : XCfg} {s : PP} {t : ITok} (h : ObjInv vc { s with input := t :: s.input }) :
    ObjInv vc (ptObj vc t s) := by
  obtain ⟨htb, hex, -, hin⟩ := toH_ptObj vc t s
  refine ⟨htb ▸ h.obj, htb ▸ h.nd, hex.trans h.ex, fun x hx => ?_⟩
  rw [hin] at hx
  rcases List.mem_append.mp hx with hx | hx
  · cases he : expandable s.table s.disabled t.tok with
    | none =>
      rw [he] at hx
      cases hx
    | some m =>
      rw [he] at hx
      obtain ⟨y, hy, rfl⟩ := List.mem_map.mp hx
      exact h.nd m (List.mem_of_find?_eq_some (expandable_mem he).1) y hy
  · exact h.inp x (List.mem_cons_of_mem _ hx)

/-- a state with pending input, as the state `s0` that processToken receives with the token put back in front: the
    form in which `drain_cons` and `trace_ptObj` speak of it -/
theorem PP.input_cases (s : PP) : s.input = [] ∨ ∃ (t : ITok) (s0 : PP), s = { s0 with input := t :: s0.input } := by
  obtain ⟨_ | ⟨t, rest⟩, out, dis, tbl, ex, er⟩ := s
  · exact .inl rfl
  · exact .inr ⟨t, ⟨rest, out, dis, tbl, ex, er⟩, rfl⟩

/-- Every entry of the trace is one processToken step, and eleven units of fuel pay for it: five for processToken
    (`processToken_obj`), three for drain, next and fill around it (`drain_cons`), three more for the consumer to take
    the token when the step puts one out (`drain_pop`). -/
theorem obj_run (vc : XCfg) (l : List (Option Tok)) : ∀ (s : PP) (acc : List Tok), ObjInv vc s → s.output = [] →
    trace vc s.table (toH s.disabled s.input) = l →
    ∃ s', drain vc (11 * l.length + 3) s acc = .ok (acc.reverse ++ l.filterMap id, s') := by
  induction l with
  | nil =>
    intro s acc _ ho hl
    obtain hin | ⟨t, s0, rfl⟩ := s.input_cases
    · exact ⟨s, by simp [drain, next, fill, ho, hin]⟩
    · obtain ⟨_, htr, -⟩ := trace_ptObj vc t s0
      exact nomatch htr.symm.trans hl
  | cons x l ih =>
    intro s acc h ho hl
    obtain hin | ⟨t, s0, rfl⟩ := s.input_cases
    · rw [hin] at hl
      cases hl
    · have hinv := h.ptObj
      obtain ⟨y, htr, hout⟩ := trace_ptObj vc t s0
      obtain ⟨rfl, hl'⟩ := List.cons.inj (htr.symm.trans hl)
      rw [show s0.output = [] from ho] at hout
      -- the run from the state after the step, with the three units that `drain_pop` may need
      have hrest : ∃ s', drain vc (11 * l.length + 6) (ptObj vc t s0) acc =
          .ok (acc.reverse ++ (y :: l).filterMap id, s') := by
        cases y with
        | none =>
          obtain ⟨s', hd⟩ := ih _ acc hinv hout hl'
          exact ⟨s', drain_mono_le vc _ acc (.ok _) nofun _ 3 hd⟩
        | some o =>
          obtain ⟨s', hd⟩ := ih { ptObj vc t s0 with output := [] } (o :: acc)
            ⟨hinv.obj, hinv.nd, hinv.ex, hinv.inp⟩ rfl hl'
          rw [List.reverse_cons, List.append_assoc] at hd
          exact ⟨s', drain_pop vc _ _ o acc _ hout hd⟩
      obtain ⟨s', hd⟩ := hrest
      refine ⟨s', ?_⟩
      rw [List.length_cons, show 11 * (l.length + 1) + 3 = 11 * l.length + 6 + 5 + 3 by omega]
      exact drain_cons vc 5 _ t s0 _ acc _ ho
        (processToken_obj vc t s0 h.obj h.ex (h.inp ⟨t.tok, _⟩ List.mem_cons_self)) hd

theorem toH_init (toks : List Tok) :
    toH [] (toks.map (fun t => (⟨t, []⟩ : ITok))) = toks.map (fun t => (⟨t, []⟩ : HTok)) := by
  simpa [toH] using toH_plain [] toks []

theorem objInv_init (vc : XCfg) (tbl : List Macro) (toks : List Tok) (hobj : ObjTable tbl)
    (hnd : NoDefined vc tbl) (ht : ∀ t ∈ toks, t.text ≠ "defined") :
    ObjInv vc { table := tbl, input := (toks ++ [nlTok]).map (fun t => (⟨t, []⟩ : ITok)) } := by
  refine ⟨hobj, hnd, rfl, ?_⟩
  intro it hit
  simp only [toH_init, List.mem_map, List.mem_append, List.mem_singleton] at hit
  obtain ⟨x, hx | hx, rfl⟩ := hit
  · exact ht x hx
  · subst hx; decide

theorem expandLine_obj (vc : XCfg) (tbl : List Macro) (toks : List Tok) (hobj : ObjTable tbl)
    (hnd : NoDefined vc tbl) (ht : ∀ t ∈ toks, t.text ≠ "defined") :
    ∃ s', expandLine vc (11 * (trace vc tbl ((toks ++ [nlTok]).map (fun t => (⟨t, []⟩ : HTok)))).length + 3)
        { table := tbl } toks =
      .ok ((trace vc tbl ((toks ++ [nlTok]).map (fun t => (⟨t, []⟩ : HTok)))).filterMap id, s') :=
  toH_init _ ▸ obj_run vc _ _ [] (objInv_init vc tbl toks hobj hnd ht) rfl rfl

end Occa.Cpp
