/-
State-level facts used by the C03/C04/C05 property theorems: when the resize step fails and when it (and shrink)
succeeds, the abstract view of a pool, what `freeall` leaves.
-/
import OccaProofs.Lemmas.PoolStep

namespace Occa.Pool

theorem step_resize_below {c : Cfg} {s : State} {i n : Nat} {p : Pool} (hp : s.pool i = some p)
    (hlt : n < p.reserved) : step c s (.resize i n) = (s, .err) := by
  simp only [step, hp, (resize_total (c := c) (d := s.dev) n false).1 hlt]

theorem step_resize_succeeds {c : Cfg} {s : State} (h : SInv s) {i n : Nat} {p : Pool} (hp : s.pool i = some p)
    (hle : p.reserved ≤ n) : (step c s (.resize i n)).2 = .ok := by
  obtain ⟨dp, hres⟩ := resize_succeeds (c := c) (d := s.dev) (h.pools i p hp).inv false hle
  simp only [step, hp, hres]

theorem step_shrink_succeeds {c : Cfg} {s : State} (h : SInv s) {i : Nat} {p : Pool} (hp : s.pool i = some p) :
    (step c s (.shrink i)).2 = .ok := by
  obtain ⟨dp, hres⟩ := resize_succeeds (c := c) (d := s.dev) (h.pools i p hp).inv false (Nat.le_refl p.reserved)
  simp only [step, hp, hres]

/-- what the memory object in slot `k` of the pool reads back (`none`: no such reservation) -/
def view (p : Pool) (k : Nat) : Option (List Byte) :=
  (findSlot k p.resv).map fun r => readAt p.buf r.off r.size

theorem view_eq_of {p p' : Pool} (hc : SameContents p p') (hs : p'.resv.map (·.slot) = p.resv.map (·.slot)) :
    view p' = view p := by
  funext k
  unfold view
  cases hf : findSlot k p.resv with
  | none => rw [findSlot_none_of_slots hs hf]; rfl
  | some r =>
    obtain ⟨r', hr', _, _, hread⟩ := hc k r hf
    rw [hr']; simp only [Option.map_some]; rw [hread]

theorem freePool_mems (s : State) (i : Nat) : (s.freePool i).mems = s.mems := by
  unfold State.freePool
  cases s.pool i with
  | none => rfl
  | some p => exact setPool_mems ..

theorem freePool_pool (s : State) (i j : Nat) : (s.freePool i).pool j = if j = i then none else s.pool j := by
  unfold State.freePool
  cases hp : s.pool i with
  | none =>
    show s.pool j = _
    split
    · rename_i e; rw [e, hp]
    · rfl
  | some p => exact pool_setPool (pool_lt hp) none j

theorem alloc_zero_of_released {s : State} (h : SInv s) (hm : s.mems = []) (h0 : s.pool 0 = none)
    (h1 : s.pool 1 = none) : s.dev.alloc = 0 := by
  have hb : s.bufs = [] := by
    cases hbs : s.bufs with
    | nil => rfl
    | cons b bs =>
      obtain ⟨m, hmm, _⟩ := h.mems.bufLive b (by rw [hbs]; exact List.mem_cons_self)
      rw [hm] at hmm; cases hmm
  rw [h.account, hb, h0, h1]
  rfl

theorem step_freeall {c : Cfg} (hc : c.Fixed) {s : State} (h : SInv s) :
    (step c s .freeall).1.mems = [] ∧ (step c s .freeall).1.pool 0 = none ∧
    (step c s .freeall).1.pool 1 = none ∧ (step c s .freeall).1.dev.alloc = 0 := by
  have hinv := (step_ok hc h .freeall).1
  have hst : (step c s .freeall).1 = ((releaseAllFrom c s NSLOT).freePool 0).freePool 1 := by simp only [step]
  rw [hst] at hinv ⊢
  have hm : (((releaseAllFrom c s NSLOT).freePool 0).freePool 1).mems = [] := by
    rw [freePool_mems, freePool_mems]
    exact (releaseAll_spec hc h).2
  have h0 : (((releaseAllFrom c s NSLOT).freePool 0).freePool 1).pool 0 = none := by
    rw [freePool_pool, freePool_pool]; rfl
  have h1 : (((releaseAllFrom c s NSLOT).freePool 0).freePool 1).pool 1 = none := by
    rw [freePool_pool]; rfl
  exact ⟨hm, h0, h1, alloc_zero_of_released hinv hm h0 h1⟩

end Occa.Pool
