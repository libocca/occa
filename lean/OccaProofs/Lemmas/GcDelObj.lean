/-
`delete` of a kernel / stream (`deleteChild`), of a memory object (`deleteMem`: the object, and its buffer
when it was the last slice), and `modeDevice_t::freeRing`, the loop that deletes every member of one of
the device's rings.
-/
import OccaProofs.Lemmas.GcDelBuf
import OccaProofs.Lemmas.GcRef

namespace Occa.Gc

-- as in GcEdit: keeps the comparison of a state with an updated state from evaluating `upd`
attribute [local irreducible] upd

/-- `o` owns no other object and is not an inner buffer: it can be destroyed alone -/
structure Alone (s : St) (o : Nat) : Prop where
  kids : s.kids o = []
  ch : ∀ k, s.chGet k o = []
  nopool : s.kind o ≠ .pool
  nobuf : s.kind o ≠ .buf

theorem Inv00.alone {ex : Var → Prop} {s : St} {o : Nat} {k : Kind} (hi : Inv00 ex s) (hko : s.kind o = k)
    (hk : k = .mem ∨ k = .ker ∨ k = .str) : Alone s o := by
  have hne : s.kind o ≠ .dev ∧ s.kind o ≠ .pool ∧ s.kind o ≠ .buf := by
    rcases hk with h | h | h <;> rw [hko, h] <;> decide
  exact ⟨hi.kids_nil ⟨hne.2.2, hne.2.1⟩, hi.ch_nil hne.1, hne.2.1, hne.2.2⟩

theorem Alone.closed0 {ex : Var → Prop} {s : St} {o : Nat} (h : Alone s o) (hi : Inv00 ex s)
    (ha : s.alive o = true) : Closed0 s [o] := by
  refine ⟨List.nodup_cons.mpr ⟨List.not_mem_nil, List.nodup_nil⟩, ?_, ?_, ?_, ?_, ?_⟩
  · intro x hx
    obtain rfl := List.mem_singleton.mp hx
    exact ha
  · intro b hb m hm
    obtain rfl := List.mem_singleton.mp hb
    rw [h.kids] at hm; cases hm
  · intro p hp i hin
    obtain rfl := List.mem_singleton.mp hp
    exact absurd (hi.inner_kind ha hin).1 h.nopool
  · intro d hd k c hc
    obtain rfl := List.mem_singleton.mp hd
    rw [h.ch k] at hc; cases hc
  · intro p i hpa hin hiK
    obtain rfl := List.mem_singleton.mp hiK
    exact absurd (hi.inner_kind hpa hin).2 h.nobuf

theorem Alone.closed {ex : Var → Prop} {s : St} {o : Nat} (h : Alone s o) (hi : Inv00 ex s)
    (ha : s.alive o = true) (hkm : s.kind o ≠ .mem) : Closed s [o] :=
  ⟨h.closed0 hi ha, fun _ _ _ _ hne =>
    let ⟨x, hx⟩ := List.exists_mem_of_ne_nil _ hne
    ⟨x, hx, fun e => hkm (List.mem_singleton.mp e ▸ (hi.kids_kind hx).1)⟩⟩

theorem deleteChild_core {ex : Var → Prop} {s : St} {o d : Nat} {k : Kind} (hi : Inv00 ex s)
    (ha : s.alive o = true) (hko : s.kind o = k) (hk : k = .ker ∨ k = .str)
    (hp : s.par o = some d) (hda : s.alive d = true) (hdo : d ≠ o) :
    Killed s [o] (deleteChild k s o) ∧ Purged (deleteChild k s o) [o] := by
  have hkm : s.kind o ≠ .mem := by rcases hk with h | h <;> rw [hko, h] <;> decide
  have he : deleteChild k s o
      = (killForm s o).chSet k d (Ring.remove ((killForm s o).chGet k d) o) := by
    unfold deleteChild
    dsimp only
    rw [nullWrappers_died_eq ha (hi.ring_nodup o)]
    have h1 : (killForm s o).par o = some d := hp
    have h2 : (killForm s o).alive d = true := by simp [killForm, upd_apply, hdo, hda]
    simp only [h1, St.touch_alive h2]
  have hkil : Killed s [o] (deleteChild k s o) := by
    rw [he]
    have h1 := killForm_killed (s := s) (o := o)
    have h2 : PreEdit (killForm s o) ((killForm s o).chSet k d (Ring.remove ((killForm s o).chGet k d) o)) [] :=
      preEdit_chSet_remove k d o (by simpa using hi.ch_nodup k d) (Or.inr (by simp [killForm]))
    simpa using h1.trans h2.killed
  refine ⟨hkil, .single (fun b hx => ?_) fun k' d' hx => ?_⟩
  · exact hkm (hi.kids_kind (hkil.kidsS b o hx)).1
  · have hx0 := hkil.chS k' d' o hx
    have e1 := (hi.ch_child hx0).2
    rw [hp] at e1
    cases e1
    have e2 : slot k' = slot k := by rw [← (hi.ch_kind hx0).1, hko]
    rw [he, chGet_chSet] at hx
    simp only [e2, and_self, if_true] at hx
    exact Ring.not_mem_remove (by simpa using hi.ch_nodup k d) o hx

/-- `delete` of a kernel or stream, in the state `t` in which its device may already have taken it out of its ring
    (`freeRing`; for a delete through a handle `t` is `s`) -/
theorem InvX.del_child_after {ex : Var → Prop} {s t : St} {o : Nat} {k : Kind} (hi : InvX ex s)
    (pe : PreEdit s t [o]) (hit : Inv00 ex t) (hp : t.par o = s.par o) (ha : s.alive o = true) (hko : s.kind o = k)
    (hk : k = .ker ∨ k = .str) :
    InvX ex (deleteChild k t o) ∧ Killed s [o] (deleteChild k t o) := by
  have hkd : s.kind o ≠ .dev := by rcases hk with h | h <;> rw [hko, h] <;> decide
  have hkm : s.kind o ≠ .mem := by rcases hk with h | h <;> rw [hko, h] <;> decide
  obtain ⟨d, hd, hda, hdk, _⟩ := hi.ch_par o ha hkd hkm
  have hdo : d ≠ o := by intro h; rw [h] at hdk; exact hkd hdk
  obtain ⟨h1, h2⟩ := deleteChild_core hit (pe.alive ▸ ha) (pe.kind ▸ hko) hk (hp.trans hd) (pe.alive ▸ hda) hdo
  have hkil := Killed.pre_edit pe h1
  exact ⟨hi.kill hkil ((hi.toInv00.alone hko (Or.inr hk)).closed hi.toInv00 ha hkm) h2, hkil⟩

theorem InvX.del_child {ex : Var → Prop} {s : St} {o : Nat} {k : Kind} (hi : InvX ex s)
    (ha : s.alive o = true) (hko : s.kind o = k) (hk : k = .ker ∨ k = .str) :
    InvX ex (deleteChild k s o) ∧ Killed s [o] (deleteChild k s o) :=
  hi.del_child_after (PreEdit.refl s _) hi.toInv00 rfl ha hko hk

/-- `~modeMemory_t` up to the test `modeBuffer->needsFree()`: the object is destroyed and out of its buffer's ring
    of slices -/
theorem deleteMem_first {ex : Var → Prop} {s : St} {m b : Nat} (hi : Inv00 ex s) (ha : s.alive m = true)
    (hk : s.kind m = .mem) (hp : s.par m = some b) (hmb : m ∈ s.kids b) :
    let sA := (killForm s m).setKids b (Ring.remove ((killForm s m).kids b) m)
    deleteMem s m = (if needsFreeBuf sA b then deleteBuf sA b else sA).setPar m none
      ∧ Killed s [m] sA ∧ Purged sA [m] := by
  intro sA
  have hba := (hi.kids_alive hmb).2
  have hbm : b ≠ m := fun h => (bufpool_ne (hi.kids_kind hmb).2).2 (h ▸ hk)
  have hkn := hi.kids_nodup b
  have he : deleteMem s m = (if needsFreeBuf sA b then deleteBuf sA b else sA).setPar m none := by
    unfold deleteMem dtorMemBody
    dsimp only
    rw [nullWrappers_died_eq ha (hi.ring_nodup m)]
    have h1 : (killForm s m).par m = some b := hp
    have h2 : (killForm s m).alive b = true := by simp [killForm, upd_apply, hbm, hba]
    simp only [h1, St.touch_alive h2]
    rfl
  have hkA : Killed s [m] sA := by
    have h1 := killForm_killed (s := s) (o := m)
    have h2 : PreEdit (killForm s m) sA [] := preEdit_setKids_remove b m hkn (Or.inr (by simp [killForm]))
    simpa using h1.trans h2.killed
  refine ⟨he, hkA, .single (fun b' hx => ?_) fun k' d' hx => (hi.ch_kind (hkA.chS k' d' m hx)).2.2 hk⟩
  by_cases hb' : b' = b
  · subst hb'
    rw [show sA.kids b' = Ring.remove (s.kids b') m from upd_same ..] at hx
    exact Ring.not_mem_remove hkn m hx
  · exact hb' (hi.kids_inj hmb (hkA.kidsS b' m hx))

/-- `delete` of a memory object: the object goes, which may leave its buffer without a slice (`N`); such a buffer is
    then deleted like any other.  A pool stays: a handle refers to it or it does not count references (`hpool`) -/
theorem InvX.del_mem {ex : Var → Prop} {s : St} {m : Nat} (hi : InvX ex s) (ha : s.alive m = true)
    (hk : s.kind m = .mem)
    (hpool : ∀ b, s.par m = some b → s.kind b = .pool → s.useRefs b = true → s.ring b ≠ []) :
    InvX ex (deleteMem s m)
      ∧ ∃ K, Killed s K (deleteMem s m) ∧ m ∈ K ∧ ∀ x ∈ K, x = m ∨ s.kind x = .buf := by
  obtain ⟨b, hp, hmb⟩ := hi.mem_par m ha hk
  have hba := (hi.kids_alive hmb).2
  have hbk := (hi.kids_kind hmb).2
  have hbm : b ≠ m := fun h => (bufpool_ne hbk).2 (h ▸ hk)
  have hkn := hi.kids_nodup b
  have hA := deleteMem_first hi.toInv00 ha hk hp hmb
  extract_lets sA at hA
  obtain ⟨he, hkA, hpurA⟩ := hA
  have hsAkids : sA.kids b = Ring.remove (s.kids b) m := upd_same ..
  have hnf : needsFreeBuf sA b
      = if s.kind b = .pool then (s.useRefs b && (s.ring b).isEmpty) else (Ring.remove (s.kids b) m).isEmpty := by
    unfold needsFreeBuf
    rw [hsAkids]
    have : sA.ring b = s.ring b := by simp [sA, St.setKids, killForm, upd_apply, hbm]
    rw [this]
    rfl
  have hc0 := (hi.toInv00.alone hk (Or.inl rfl)).closed0 hi.toInv00 ha
  have other : ∀ b', b' ≠ b → s.kids b' ≠ [] → ∃ x ∈ s.kids b', x ∉ [m] := fun b' hb' hne =>
    let ⟨x, hx⟩ := List.exists_mem_of_ne_nil _ hne
    ⟨x, hx, fun h => hb' (hi.kids_inj hmb (List.mem_singleton.mp h ▸ hx))⟩
  -- the last statement, `modeBuffer = NULL`
  have fin : ∀ {t K}, InvX ex t → Killed s K t → m ∈ K → (∀ x ∈ K, x = m ∨ s.kind x = .buf) →
      InvX ex (t.setPar m none) ∧ ∃ K, Killed s K (t.setPar m none) ∧ m ∈ K ∧ ∀ x ∈ K, x = m ∨ s.kind x = .buf :=
    fun {t K} hit hK hm hx =>
    have pe := (preEdit_setPar (s := t) (K := []) m none (Or.inr (by rw [hK.alive]; simp [hm]))).killed
    ⟨(hit.toN.edit pe).toX, K, by simpa using hK.trans pe, hm, hx⟩
  rw [he]
  by_cases hneed : needsFreeBuf sA b = true
  · -- last slice of a plain buffer: the buffer is left without a slice, and is deleted
    have hkb : s.kind b = .buf := by
      rcases hbk with h | h
      · exact h
      · exfalso
        rw [hnf] at hneed
        simp only [h, if_true, Bool.and_eq_true, List.isEmpty_iff] at hneed
        exact hpool b hp h hneed.1 hneed.2
    have hiA : InvN ex (· = b) sA := hi.toN.killed hkA hc0 hpurA (fun _ n => n.elim) fun b' hb' _ _ _ => other b' hb'
    have hsAalive : sA.alive b = true := by rw [hkA.alive]; simp [hba, hbm]
    obtain ⟨h1, hkB⟩ := hiA.del_buf (fun x e => e ▸ self_mem_bufK sA b) hsAalive (Or.inl hkb)
      fun p hpa hin => hi.owner_not_inner hmb p ((hkA.alive_iff p).mp hpa).1 (hkA.inner ▸ hin)
    simp only [hneed, if_true]
    refine fin h1 (hkA.trans hkB) (by simp) fun x hx => ?_
    rw [List.mem_append, List.mem_singleton] at hx
    refine hx.imp id fun hx => ?_
    rcases bufK_cases hiA.toInv00 hsAalive hx with h | ⟨h, _⟩ | ⟨h, _⟩
    · exact h ▸ hkb
    · exact kind_clash h hkb
    · rw [hsAkids] at h
      rw [hnf, if_neg (by rw [hkb]; decide)] at hneed
      rw [List.isEmpty_iff.mp hneed] at h; cases h
  · -- other slices (or a pool) remain
    simp only [hneed, if_false, Bool.false_eq_true]
    have hiA : InvN ex N0 sA := hi.toN.killed hkA hc0 hpurA (fun _ n => n.elim) fun b' _ _ hb'k _ hne => by
      by_cases e : b' = b
      · subst e
        rw [hnf, if_neg (by rw [hb'k]; decide), List.isEmpty_iff] at hneed
        obtain ⟨x, hx⟩ := List.exists_mem_of_ne_nil _ hneed
        obtain ⟨hx1, hx2⟩ := (Ring.mem_remove hkn m x).mp hx
        exact ⟨x, hx1, fun h => hx2 (List.mem_singleton.mp h)⟩
      · exact other b' e hne
    exact fin hiA.toX hkA (by simp) fun x hx => Or.inl (by simpa using hx)

theorem Inv00.chSet_remove {ex : Var → Prop} {s : St} (hi : Inv00 ex s) (k : Kind) (d x : Nat) :
    Inv00 ex (s.chSet k d (Ring.remove (s.chGet k d) x)) := by
  have m := fun k' d' c => (mem_chSet_remove (c := x) (hi.ch_nodup k d) k' d' c).mp
  exact hi.of_ch (chSet_eq ..) (fun k' d' c hc => hi.ch_ok k' d' c (m k' d' c hc).1)
    (fun k' d' => nodup_chSet (Ring.nodup_remove (hi.ch_nodup k d) x) (hi.ch_nodup k' d'))
    fun p i hpa hpi k' d' h => hi.inner_not_ch hpa hpi k' d' (m k' d' i h).1

/-- one iteration of `freeRing`: `ring.removeRef(ptr); delete ptr;` -/
theorem freeRing_step {ex : Var → Prop} {s : St} {d x : Nat} {k : Kind} (hi : InvX ex s)
    (hks : k = .ker ∨ k = .buf ∨ k = .str) (hx : x ∈ s.chGet k d) :
    InvX ex (deleteOf k (s.chSet k d (Ring.remove (s.chGet k d) x)) x)
      ∧ ∃ K, Killed s K (deleteOf k (s.chSet k d (Ring.remove (s.chGet k d) x)) x) ∧ x ∈ K
          ∧ ∀ y ∈ K, s.kind y ≠ .dev := by
  have hxa := (hi.ch_child hx).1
  obtain ⟨hxs, hxd, hxm⟩ := hi.ch_kind hx
  have hiE := hi.toInv00.chSet_remove k d x
  have pe := fun K (hxK : x ∈ K) => preEdit_chSet_remove (K := K) k d x (hi.ch_nodup k d) (Or.inl hxK)
  -- after `ring.removeRef(ptr)` only the device's rings differ from `s`
  obtain ⟨a, b, c, hE⟩ := chSet_eq s k d (Ring.remove (s.chGet k d) x)
  rw [hE] at hiE pe ⊢
  let sE : St := { s with dKer := a, dBuf := b, dStr := c }
  have child : ∀ (hk : k = .ker ∨ k = .str), s.kind x = k →
      InvX ex (deleteChild k sE x) ∧ ∃ K, Killed s K (deleteChild k sE x) ∧ x ∈ K ∧ ∀ y ∈ K, s.kind y ≠ .dev :=
    fun hk hkx =>
    let ⟨h1, hkil⟩ := hi.del_child_after (pe [x] (List.mem_singleton_self x)) hiE rfl hxa hkx hk
    ⟨h1, [x], hkil, List.mem_singleton_self x, fun y hy => List.mem_singleton.mp hy ▸ hxd⟩
  rcases hks with rfl | rfl | rfl
  · exact child (Or.inl rfl) (slot_ker hxs)
  · have hkx : s.kind x = .buf ∨ s.kind x = .pool := slot_buf hxs hxd hxm
    have hxK := self_mem_bufK s x
    -- `x` is in a ring of the device, so it is nobody's inner buffer
    obtain ⟨h1, hkil⟩ := hi.toN.del_buf_after nofun (pe _ hxK) hiE rfl rfl hxa hkx
      fun p hpa hin => hi.inner_not_ch hpa hin .buf d hx
    exact ⟨h1, bufK s x, hkil, hxK, fun y hy => bufK_ne_dev hi.toInv00 hxa hkx hy⟩
  · exact child (Or.inr rfl) (slot_str hxs)

theorem freeRing_inv {ex : Var → Prop} {k : Kind} {d : Nat} (hks : k = .ker ∨ k = .buf ∨ k = .str) :
    ∀ (n : Nat) (s : St), InvX ex s → (s.chGet k d).length ≤ n →
      InvX ex (freeRing k n s d) ∧ (freeRing k n s d).chGet k d = []
        ∧ ∃ K, Killed s K (freeRing k n s d) ∧ ∀ y ∈ K, s.kind y ≠ .dev := by
  intro n
  induction n with
  | zero =>
    intro s hi hl
    have h0 : s.chGet k d = [] := List.length_eq_zero_iff.mp (Nat.le_zero.mp hl)
    unfold freeRing
    exact ⟨hi, h0, [], Killed.refl s, by simp⟩
  | succ n ih =>
    intro s hi hl
    match hr : s.chGet k d with
    | [] =>
      have : freeRing k (n+1) s d = s := by
        conv => lhs; unfold freeRing
        simp only [hr]
      rw [this]
      exact ⟨hi, hr, [], Killed.refl s, by simp⟩
    | x :: t =>
      have hstep : freeRing k (n+1) s d
          = freeRing k n (deleteOf k (s.chSet k d (Ring.remove (s.chGet k d) x)) x) d := by
        conv => lhs; unfold freeRing
        simp only [hr]
      have hx : x ∈ s.chGet k d := by rw [hr]; simp
      obtain ⟨hi1, K1, hk1, hxK, hK1⟩ := freeRing_step hi hks hx
      rw [hstep]
      generalize deleteOf k (s.chSet k d (Ring.remove (s.chGet k d) x)) x = s1 at *
      have hxn : x ∉ s1.chGet k d := by
        intro h
        have := (hi1.ch_child h).1
        rw [hk1.alive] at this
        simp [hxK] at this
      have hlen : (s1.chGet k d).length ≤ n := by
        have := (List.nodup_cons.mpr ⟨hxn, hi1.ch_nodup k d⟩).length_le_of_subset
          (List.cons_subset.mpr ⟨hx, fun y => hk1.chS k d y⟩)
        exact Nat.le_of_succ_le_succ (Nat.le_trans this hl)
      obtain ⟨hi2, he2, K2, hk2, hK2⟩ := ih s1 hi1 hlen
      refine ⟨hi2, he2, K1 ++ K2, hk1.trans hk2, ?_⟩
      intro y hy
      rcases List.mem_append.mp hy with h | h
      · exact hK1 y h
      · exact hk1.kind ▸ hK2 y h

end Occa.Gc
