/-
Lemmas for C20 / C21 on the loop-structure semantics (OccaModel/OklSem.lean): the launch grid against the
sequential reading (`coverage`, by `thr_congr`), interleavings of commuting step sequences (`run_interleave`),
and the values of the exclusive index (`counterRun_spec`).
-/
import OccaModel.OklSem

namespace Occa.OklSem

/-- a GPU thread only looks at the index components of the loops still to come -/
theorem thr_congr (s : Sem) : ∀ (b b' t t' : Nat → Nat) (d e : Nat) (os is js : List Nat),
    (∀ k, d ≤ k → b k = b' k) → (∀ k, e ≤ k → t k = t' k) →
    thr b t d e os is js s = thr b' t' d e os is js s := by
  intro b b' t t'
  induction s with
  | nil => intros; rfl
  | outer n body next ihb ihn =>
    intro d e os is js hb ht
    rw [thr, thr, hb d (Nat.le_refl _), ihb (d + 1) e _ is js (fun k hk => hb k (Nat.le_of_succ_le hk)) ht,
      ihn d e os is js hb ht]
  | inner n body next ihb ihn =>
    intro d e os is js hb ht
    rw [thr, thr, ht e (Nat.le_refl _), ihb d (e + 1) os _ js hb (fun k hk => ht k (Nat.le_of_succ_le hk)),
      ihn d e os is js hb ht]
  | seq n body next ihb ihn =>
    intro d e os is js hb ht
    rw [thr, thr, ihn d e os is js hb ht, List.flatMap_def, List.flatMap_def,
      List.map_congr_left fun j _ => ihb d e os is _ hb ht]
  | stmt id next ihn =>
    intro d e os is js hb ht
    rw [thr, thr, ihn d e os is js hb ht]
  | barrier next ihn => exact ihn

def InGrid (od id : Nat → Nat) (b t : Nat → Nat) : Prop := (∀ k, b k < od k) ∧ (∀ k, t k < id k)

theorem update_lt {f g : Nat → Nat} (h : ∀ k, f k < g k) {d v : Nat} (hv : v < g d) (k : Nat) :
    (if k = d then v else f k) < g k := by
  by_cases hk : k = d
  · rw [if_pos hk, hk]; exact hv
  · rw [if_neg hk]; exact h k

theorem coverage (od id : Nat → Nat) (hod : ∀ k, 0 < od k) (hid : ∀ k, 0 < id k) (s : Sem) :
    ∀ (d e : Nat) (os is js : List Nat) (x : Inst), Uniform od id d e s →
      (x ∈ seqTrace os is js s ↔ ∃ b t, InGrid od id b t ∧ x ∈ thr b t d e os is js s) := by
  -- in every case the statements after the loop (`next`) are the induction hypothesis on both sides;
  -- what is left is the loop itself
  induction s with
  | nil =>
    intro d e os is js x _
    simp [seqTrace, thr]
  | outer n body next ihb ihn =>
    intro d e os is js x ⟨hn, hub, hun⟩
    simp only [seqTrace, thr, List.mem_append, and_or_left, exists_or, ← ihn d e os is js x hun,
      List.mem_flatMap, List.mem_range]
    refine or_congr_left ⟨fun ⟨o, ho, hx⟩ => ?_, fun ⟨b, t, hg, hx⟩ =>
      ⟨b d, hn ▸ hg.1 d, (ihb (d + 1) e _ is js x hub).2 ⟨b, t, hg, hx⟩⟩⟩
    obtain ⟨b, t, ⟨hb, ht⟩, hx'⟩ := (ihb (d + 1) e (os ++ [o]) is js x hub).1 hx
    refine ⟨fun k => if k = d then o else b k, t, ⟨update_lt hb (hn ▸ ho), ht⟩, ?_⟩
    dsimp only
    rwa [if_pos rfl, thr_congr body (fun k => if k = d then o else b k) b t t (d + 1) e _ is js
      (fun k hk => if_neg (Nat.ne_of_gt hk)) (fun _ _ => rfl)]
  | inner n body next ihb ihn =>
    intro d e os is js x ⟨hn, hub, hun⟩
    simp only [seqTrace, thr, List.mem_append, and_or_left, exists_or, ← ihn d e os is js x hun,
      List.mem_flatMap, List.mem_range]
    refine or_congr_left ⟨fun ⟨i, hi, hx⟩ => ?_, fun ⟨b, t, hg, hx⟩ =>
      ⟨t e, hn ▸ hg.2 e, (ihb d (e + 1) os _ js x hub).2 ⟨b, t, hg, hx⟩⟩⟩
    obtain ⟨b, t, ⟨hb, ht⟩, hx'⟩ := (ihb d (e + 1) os (is ++ [i]) js x hub).1 hx
    refine ⟨b, fun k => if k = e then i else t k, ⟨hb, update_lt ht (hn ▸ hi)⟩, ?_⟩
    dsimp only
    rwa [if_pos rfl, thr_congr body b b (fun k => if k = e then i else t k) t d (e + 1) os _ js
      (fun _ _ => rfl) (fun k hk => if_neg (Nat.ne_of_gt hk))]
  | seq n body next ihb ihn =>
    intro d e os is js x ⟨hub, hun⟩
    simp only [seqTrace, thr, List.mem_append, and_or_left, exists_or, ← ihn d e os is js x hun,
      List.mem_flatMap, List.mem_range]
    refine or_congr_left ⟨fun ⟨j, hj, hx⟩ => ?_, fun ⟨b, t, hg, j, hj, hx⟩ =>
      ⟨j, hj, (ihb d e os is _ x hub).2 ⟨b, t, hg, hx⟩⟩⟩
    obtain ⟨b, t, hg, hx'⟩ := (ihb d e os is (js ++ [j]) x hub).1 hx
    exact ⟨b, t, hg, j, hj, hx'⟩
  | stmt id' next ihn =>
    intro d e os is js x hu
    simp only [seqTrace, thr, List.mem_cons, and_or_left, exists_or, ← ihn d e os is js x hu]
    exact or_congr_left ⟨fun hx => ⟨fun _ => 0, fun _ => 0, ⟨hod, hid⟩, hx⟩, fun ⟨_, _, _, hx⟩ => hx⟩
  | barrier next ihn => exact ihn

theorem run_append {α σ : Type} (f : α → σ → σ) (a b : List α) (s : σ) :
    run f (a ++ b) s = run f b (run f a s) := by
  simp [run, List.foldl_append]

theorem run_cons {α σ : Type} (f : α → σ → σ) (x : α) (l : List α) (s : σ) :
    run f (x :: l) s = run f l (f x s) := rfl

theorem commute_run {α σ : Type} (f : α → σ → σ) (x : α) (p : List α)
    (h : ∀ y ∈ p, ∀ s, f x (f y s) = f y (f x s)) (s : σ) : f x (run f p s) = run f p (f x s) := by
  induction p generalizing s with
  | nil => rfl
  | cons y p ih =>
    rw [run_cons, run_cons, ih (fun z hz => h z (by simp [hz])), h y (by simp)]

def CrossCommute {α σ : Type} (f : α → σ → σ) (ls : List (List α)) : Prop :=
  ls.Pairwise (fun a b => ∀ x ∈ a, ∀ y ∈ b, ∀ s, f x (f y s) = f y (f x s))

theorem run_interleave {α σ : Type} (f : α → σ → σ) (ls : List (List α)) (l : List α)
    (h : Interleave ls l) : CrossCommute f ls → ∀ s, run f l s = run f ls.flatten s := by
  induction h with
  | done ls hall => intro _ s; rw [List.flatten_eq_nil_iff.2 hall]
  | step pre x r post l _ ih =>
    intro hc s
    -- written out, `hc` speaks of `x` and of the steps of `r` separately; the latter is what `ih` asks for
    simp only [CrossCommute, List.pairwise_append, List.pairwise_cons, List.forall_mem_cons] at hc ih
    obtain ⟨hpre, ⟨hxr_post, hpost⟩, hpre_later⟩ := hc
    have hx : f x (run f pre.flatten s) = run f pre.flatten (f x s) :=
      commute_run f x _ (fun y hy s' => by
        obtain ⟨a, ha, hya⟩ := List.mem_flatten.1 hy
        exact (((hpre_later a ha).1 y hya).1 s').symm) s
    rw [run_cons, ih ⟨hpre, ⟨fun b hb => (hxr_post b hb).2, hpost⟩,
      fun a ha => ⟨fun y hy => ((hpre_later a ha).1 y hy).2, (hpre_later a ha).2⟩⟩]
    simp only [List.flatten_append, List.flatten_cons, run_append, List.cons_append, run_cons, hx]

theorem counterRun_spec : ∀ (dims : List Nat) (c : Nat),
    counterRun dims c = (List.range' c dims.prod, c + dims.prod) := by
  intro dims
  induction dims with
  | nil => intro c; simp [counterRun]
  | cons n r ih =>
    intro c
    have hrep : ∀ k c, counterRun.rep k r c = (List.range' c (k * r.prod), c + k * r.prod) := by
      intro k
      induction k with
      | zero => intro c; simp [counterRun.rep]
      | succ k ihk =>
        intro c
        simp only [counterRun.rep, ih, ihk]
        refine Prod.ext ?_ ?_
        · simp only
          rw [Nat.succ_mul, Nat.add_comm (k * r.prod), List.range'_append_1]
        · simp only; rw [Nat.succ_mul]; omega
    simp only [counterRun, hrep, List.prod_cons]

end Occa.OklSem
