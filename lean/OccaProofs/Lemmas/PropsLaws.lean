/-
Lemmas for C26: the JSON operations the layering functions of src/core/device.cpp are composed of, on
dictionary-like values (`DictLike`: `none` or an ordered object), member by member (`add_dict`, `remove1_dict`,
`remove2_dict`, `write1_dict`), and the vocabulary of the C26 statements: `over` (one layer over another for one
member), the three places read for one object (`layer1`–`layer3`, `objMember`) and `DevLayers`.
-/
import OccaModel.Props
import OccaProofs.Lemmas.JsonPathLaws
import OccaProofs.Lemmas.JsonSplit

namespace Occa.Json

def DictLike (j : Json) : Prop := j = .none ∨ ∃ kvs, j = .obj kvs ∧ Sorted kvs

/-- one layer over another, for one member: the upper layer wins, except that objects present in both
    layers are merged recursively (`mergeVal`) -/
def over (lower upper : Option Json) : Option Json :=
  match upper with
  | Option.none => lower
  | some vb => some (mergeVal lower vb)

theorem over_none_right (x : Option Json) : over x Option.none = x := rfl

theorem over_none_left (y : Option Json) : over Option.none y = y := by
  cases y with
  | none => rfl
  | some v => exact congrArg some (mergeVal_none v)

theorem over_leaf (x : Option Json) (v : Json) (h : v.isObj = false) : over x (some v) = some v :=
  congrArg some (mergeVal_nonobj x v h)

theorem dictLike_none : DictLike .none := Or.inl rfl
theorem dictLike_obj {kvs : Obj} (h : Sorted kvs) : DictLike (.obj kvs) := Or.inr ⟨kvs, rfl, h⟩

/-- a dictionary-like value is determined by its members, up to `none` / the empty object -/
theorem dict_ext {a b : Json} (ha : DictLike a) (hb : DictLike b) (ho : a.isObj = b.isObj)
    (h : ∀ k, memberOf a k = memberOf b k) : a = b := by
  rcases ha with rfl | ⟨ak, rfl, has⟩ <;> rcases hb with rfl | ⟨bk, rfl, hbs⟩
  · rfl
  · cases ho
  · cases ho
  · exact congrArg Json.obj (sorted_ext has hbs h)

theorem add_dict (a b : Json) (ha : DictLike a) (hb : DictLike b) :
    ∃ r, add a b = .ok r ∧ DictLike r ∧ (∀ k, memberOf r k = over (memberOf a k) (memberOf b k))
      ∧ r.isObj = (a.isObj || b.isObj) := by
  rcases hb with rfl | ⟨bk, rfl, hbs⟩
  · exact ⟨a, by cases a <;> rfl, ha, fun k => rfl, (Bool.or_false _).symm⟩
  · rcases ha with rfl | ⟨ak, rfl, has⟩
    · refine ⟨.obj bk, ?_, dictLike_obj hbs, fun k => (over_none_left _).symm, rfl⟩
      show Except.ok (Json.obj (mergeObj [] bk)) = _
      rw [mergeObj_empty bk hbs]
    · exact ⟨.obj (mergeObj ak bk), rfl, dictLike_obj (sorted_mergeObj bk ak has),
        fun k => lookup_mergeObj bk ak hbs k, rfl⟩

theorem remove1_dict (m : Bytes) (j : Json) (hj : DictLike j) :
    DictLike (removeK [m] j) ∧ (∀ k, memberOf (removeK [m] j) k = if k = m then Option.none else memberOf j k)
      ∧ (removeK [m] j).isObj = j.isObj := by
  rcases hj with rfl | ⟨kvs, rfl, hs⟩
  · exact ⟨dictLike_none, fun k => (ite_self _).symm, rfl⟩
  · refine ⟨dictLike_obj (sorted_erase m hs), fun k => ?_, rfl⟩
    split
    · next hk => rw [hk]; exact memberOf_remove1_self m hs
    · next hk => exact memberOf_remove1_ne hk _

theorem dictLike_setLit (m : Bytes) (v : Json) {j : Json} (hj : DictLike j) :
    ∃ kvs, setLit m v j = .obj kvs ∧ Sorted kvs := by
  rcases hj with rfl | ⟨kvs, rfl, hs⟩
  · exact ⟨[(m, v)], rfl, sorted_insert m v sorted_nil⟩
  · exact ⟨insert m v kvs, rfl, sorted_insert m v hs⟩

theorem write1_dict (m : Bytes) (v : Json) {j : Json} (hj : DictLike j) :
    ∃ kvs, write [m] v j = .ok (.obj kvs) ∧ Sorted kvs ∧ ∀ q, lookup q kvs = if q = m then some v else memberOf j q := by
  obtain ⟨kvs, hk, hs⟩ := dictLike_setLit m v hj
  refine ⟨kvs, ?_, hs, fun q => by rw [← memberOf_obj, ← hk, memberOf_setLit]⟩
  rw [← hk]
  rcases hj with rfl | ⟨kvs, rfl, _⟩ <;> exact (touchWith_cons _ m [] _).trans (by rw [touchWith_nil]; rfl)

theorem remove2_dict (a b : Bytes) (j : Json) (hj : DictLike j) :
    DictLike (removeK [a, b] j)
      ∧ (∀ k, memberOf (removeK [a, b] j) k = if k = a then (memberOf j a).map (removeK [b]) else memberOf j k) := by
  rw [removeK_cons2, hasK_one, readK_one]
  cases hm : memberOf j a with
  | none =>
    refine ⟨hj, fun k => ?_⟩
    show memberOf j k = if k = a then Option.none else memberOf j k
    split
    · next hk => rw [hk, hm]
    · rfl
  | some v =>
    obtain ⟨kvs, hk, hs⟩ := dictLike_setLit a (removeK [b] v) hj
    exact ⟨hk ▸ dictLike_obj hs, fun k => memberOf_setLit a _ j k⟩

theorem plain_sModes : PlainKey sModes := ⟨by decide, by decide⟩
theorem plain_sMode : PlainKey sMode := ⟨by decide, by decide⟩
theorem plain_sDevice : PlainKey sDevice := ⟨by decide, by decide⟩
theorem plain_sKernel : PlainKey sKernel := ⟨by decide, by decide⟩
theorem plain_sMemory : PlainKey sMemory := ⟨by decide, by decide⟩
theorem plain_sStream : PlainKey sStream := ⟨by decide, by decide⟩

theorem splitPath1 (a : Bytes) (ha : PlainKey a) : splitPath a = [a] :=
  splitPath_join [a] (List.forall_mem_singleton.mpr ha)

theorem splitPath2 (a b : Bytes) (ha : PlainKey a) (hb : PlainKey b) : splitPath (a ++ [cSlash] ++ b) = [a, b] := by
  have := splitPath_join [a, b] (by simp [ha, hb])
  simpa [joinPath] using this

theorem splitPath3 (a b c : Bytes) (ha : PlainKey a) (hb : PlainKey b) (hc : PlainKey c) :
    splitPath (a ++ [cSlash] ++ b ++ [cSlash] ++ c) = [a, b, c] := by
  have := splitPath_join [a, b, c] (by simp [ha, hb, hc])
  simpa [joinPath] using this

/-- the three places `getObjectSpecificProps` reads for one object -/
def layer1 (object : Bytes) (props : Json) : Json := readK [object] props
def layer2 (mode object : Bytes) (props : Json) : Json := readK [object, sModes, mode] props
def layer3 (mode object : Bytes) (props : Json) : Json := readK [sModes, mode, object] props

theorem objectSpecific_keys {mode object : Bytes} (hm : PlainKey mode) (ho : PlainKey object) (props : Json) :
    objectSpecific mode object props =
      (add3 (layer1 object props) (layer2 mode object props) (layer3 mode object props)).map
        fun all => removeK [sModes] (removeK [object, sModes] all) := by
  unfold objectSpecific readP removeP layer1 layer2 layer3
  rw [splitPath1 object ho, splitPath3 object sModes mode ho plain_sModes hm,
    splitPath3 sModes mode object plain_sModes hm ho, splitPath2 object sModes ho plain_sModes,
    splitPath1 sModes plain_sModes]
  cases add3 _ _ _ <;> rfl

/-- the member `k` of the three layers of one property tree, lowest priority first.  (The C++ also calls
    `remove(object + "/modes")` on the merged value: a member that happens to be named like the object
    itself loses its own "modes" member.) -/
def objMember (mode object : Bytes) (props : Json) (k : Bytes) : Option Json :=
  let m := over (over (memberOf (layer1 object props) k) (memberOf (layer2 mode object props) k))
    (memberOf (layer3 mode object props) k)
  if k = object then m.map (removeK [sModes]) else m

/-- the hypotheses of the device-level statement: every place the code reads is undefined or an object -/
structure DevLayers (settings props : Json) (mode : Bytes) : Prop where
  d1 : DictLike (layer1 sDevice settings)
  d2 : DictLike (layer2 mode sDevice settings)
  d3 : DictLike (layer3 mode sDevice settings)
  um : DictLike (readK [sModes, mode] props)
  obj : ∀ o, o = sKernel ∨ o = sMemory ∨ o = sStream →
    DictLike (layer1 o settings) ∧ DictLike (layer2 mode o settings) ∧ DictLike (layer3 mode o settings)
      ∧ DictLike (layer1 o props) ∧ DictLike (layer2 mode o props) ∧ DictLike (layer3 mode o props)

theorem mode_of_props {P : Obj} {mode : Bytes} (hmode : lookup sMode P = some (.str mode)) :
    toStringJ (readP sMode (.obj P)) = mode := by
  rw [readP, splitPath1 sMode plain_sMode, readK_one, memberOf_obj, hmode]
  rfl

theorem modeSpecific_dict (mode : Bytes) (props : Json) (hm : PlainKey mode) (hp : DictLike props)
    (hM : DictLike (readK [sModes, mode] props)) :
    ∃ r, modeSpecific mode props = .ok r ∧ DictLike r ∧ r.isObj = (props.isObj || (readK [sModes, mode] props).isObj)
      ∧ ∀ k, memberOf r k = if k = sModes then Option.none
          else over (memberOf props k) (memberOf (readK [sModes, mode] props) k) := by
  obtain ⟨all, hadd, hd, hmem, hobj⟩ := add_dict props (readK [sModes, mode] props) hp hM
  obtain ⟨hd2, hmem2, hobj2⟩ := remove1_dict sModes all hd
  refine ⟨removeK [sModes] all, ?_, hd2, hobj2.trans hobj, fun k => ?_⟩
  · unfold modeSpecific readP removeP
    rw [splitPath2 sModes mode plain_sModes hm, hadd, splitPath1 sModes plain_sModes]
  · rw [hmem2 k, hmem k]

end Occa.Json
