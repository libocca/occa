/-
`operatorIsLeftUnary` agrees with the position of the operator on well-shaped input: where an
operand is expected it answers prefix (`isLeftUnary_E`), after an operand binary / postfix
(`isLeftUnary_O`); `updateOperatorToken` then picks the operator that `resolveBy` picks by
position (`resolve_eq`).
-/
import OccaProofs.Lemmas.ExprOps

namespace Occa.Expr
open Occa.Gen

/-- `updateOperatorToken`; `operatorIsLeftUnary` is only asked about ambiguous operators -/
theorem resolve_of_isLeftUnary {o : Op} {prev next : Option Tok} {ce l : Bool}
    (h : has o.ty T.ambiguous = true → isLeftUnary o prev next ce = .ok l) :
    resolve o prev next ce = (match resolveBy l o with | some o' => .ok o' | none => .error .waldo) := by
  unfold resolve resolveBy
  cases ha : has o.ty T.ambiguous
  · rfl
  · simp only [Bool.not_true, Bool.false_eq_true, if_false, h ha]
    cases ambiguousTable.find? (fun e => has o.ty e.1) <;> rfl

theorem resolve_eq {o o' : Op} {prev next : Option Tok} {ce l : Bool}
    (h : has o.ty T.ambiguous = true → isLeftUnary o prev next ce = .ok l) (hres : resolveBy l o = some o') :
    resolve o prev next ce = .ok o' := by
  rw [resolve_of_isLeftUnary h, hres]

theorem resolve_nonAmb (o : Op) (prev next : Option Tok) (ce l : Bool) (ha : has o.ty T.ambiguous = false) :
    resolve o prev next ce = .ok o ∧ resolveBy l o = some o := by
  simp [resolve, resolveBy, ha]

theorem isLeftUnary_E (o : Op) (prev next : Option Tok) (ce : Bool)
    (hnext : next.isSome = true) (hne : isPairEndTok next = false)
    (hprev : ce = true ∨ prev = none ∨ ∃ q, prev = some (.op q) ∧
      (has q.ty T.pairStart = true ∨ has q.ty T.leftUnary = true ∨ has q.ty T.binary = true)) :
    isLeftUnary o prev next ce = .ok true := by
  obtain ⟨nx, rfl⟩ := Option.isSome_iff_exists.mp hnext
  have hne' : has nx.opType T.pairEnd = false := isPairEndTok_some nx ▸ hne
  have hq : ∀ q, (Tok.op q).opType = q.ty := fun _ => rfl
  rcases hprev with rfl | rfl | ⟨q, rfl, hk | hk | hk⟩
  · cases prev <;> simp [isLeftUnary]
  · simp [isLeftUnary]
  · simp [isLeftUnary, hq, hk]
  · simp [isLeftUnary, hq, hne', hk, unary_of_leftUnary q hk]
  · simp [isLeftUnary, hq, hne', hk, bin_class q hk]

/-- after an operand an ambiguous operator is never taken as prefix, and "Ambiguous operator" is not
    reported (`x++ ++` is read as two postfix operators; `x++ ++ ++`, where a `++` stands between a postfix
    operator and another `++`, is outside the shape) -/
theorem isLeftUnary_O (o : Op) (prev next : Option Tok)
    (hprev : (∃ t, prev = some t ∧ (∀ x, t ≠ .op x)) ∨ (∃ b, prev = some (.op b) ∧ has b.ty T.pairEnd = true) ∨
             (∃ p, prev = some (.op p) ∧ has p.ty T.rightUnary = true))
    (hnext : (has o.ty T.increment || has o.ty T.decrement) = true →
              (next.isNone = true ∨ isPairEndTok next = true ∨ isOperatorTok next = true) ∧
              (isPostfixTok prev = true → isIncDecTok next = false)) :
    isLeftUnary o prev next false = .ok false := by
  -- the three kinds of previous token only differ in a few tests
  have key : ∀ (p : Tok), prev = some p → has p.opType T.pairStart = false →
      has p.opType T.leftUnary = false → has p.opType T.binary = false →
      (has p.opType T.unary = true → isPostfixTok prev = true ∧ has p.opType chainable = true) →
      (has p.opType T.unary = false → tokIsOp p = false ∨ has p.opType T.pairEnd = true) →
      isLeftUnary o prev next false = .ok false := by
    intro p hp h1 h2 h3 h4 h5
    subst hp
    cases next with
    | none => simp [isLeftUnary]
    | some nx =>
      by_cases hpe : has nx.opType T.pairEnd = true
      · simp [isLeftUnary, h1, hpe]
      by_cases hou : (has o.ty T.increment || has o.ty T.decrement) = true
      · -- ++ / --
        obtain ⟨hnx, hchain⟩ := hnext hou
        have hn : (has nx.opType T.unary || has nx.opType T.binary) = true := by
          rcases hnx with hn | hn | hn
          · cases hn
          · exact absurd (isPairEndTok_some nx ▸ hn) hpe
          · exact hn
        by_cases hu : has p.opType T.unary = true
        · have hnc : has nx.opType chainable = false := by
            have hinc := hchain (h4 hu).1
            cases nx with
            | op x => exact not_chainable_of_not_incDec x (by simpa [Tok.opType] using hn) hinc
            | _ => simp [Tok.opType, none_facts] at hn
          simp [isLeftUnary, h1, h2, h3, hpe, hou, hu, hn, hnc, (h4 hu).2]
        · simp [isLeftUnary, h1, h2, h3, hpe, hou, hu, hn]
      · by_cases hu : has p.opType T.unary = true
        · simp [isLeftUnary, h1, h2, h3, hpe, hou, hu]
        · rcases h5 (by simpa using hu) with h6 | h6 <;> simp [isLeftUnary, h1, h2, h3, hpe, hou, hu, h6]
  rcases hprev with ⟨t, ht, hno⟩ | ⟨b, hb, hbe⟩ | ⟨p, hp, hpr⟩
  · obtain ⟨hty, hnop⟩ := Tok.not_op hno
    obtain ⟨notStart, notUnary, notBin, -, notLU⟩ := none_facts
    exact key t ht (hty ▸ notStart) (hty ▸ notLU) (hty ▸ notBin) (fun h => by simp [hty, notUnary] at h)
      (fun _ => Or.inl hnop)
  · obtain ⟨notStart, notUnary, notBin, notLU, -⟩ := closer_class b hbe
    exact key (.op b) hb notStart notLU notBin (fun h => by simp [Tok.opType, notUnary] at h) (fun _ => Or.inr hbe)
  · obtain ⟨notBin, notLU, isUnary, notStart, -, -, -, -, isChainable⟩ := post_class p hpr
    exact key (.op p) hp notStart notLU notBin (fun _ => ⟨by rw [hp]; exact hpr, isChainable⟩)
      (fun h => by simp [Tok.opType, isUnary] at h)

end Occa.Expr
