/-
Lemmas about the frozen side of the trie model: what `freeze` writes into the arrays (`LaidN`,
`freezeN_spec`, `freeze_spec`), the binary search, and that the frozen lookup loop computes the same answer as
the unfrozen recursive lookup; `FrozenOK`, the clause of the representation invariant about the
arrays, and the scan of `has(char)` over them.  Core Lean only.
-/
import OccaProofs.Lemmas.TrieNode

set_option linter.unusedSectionVars false

namespace Occa.Trie
open Node
variable {α : Type}

mutual
/-- the subtree below `n` is laid out with `n`'s children in rows `[lo, lo + k)` and all deeper
    descendants in rows `[lo + k, hi)` -/
def LaidN (arr : Cells α) : Node α → Nat → Nat → Prop
  | mk _ ks, lo, hi => LaidKids arr ks lo (lo + ks.length) hi
/-- the children `ks` occupy rows `off, off+1, …`; their descendants fill `[lo, hi)` in order -/
def LaidKids (arr : Cells α) : List (α × Node α) → Nat → Nat → Nat → Prop
  | [], _, lo, hi => lo = hi
  | (c, n) :: r, off, lo, hi =>
    ∃ mid, arr[off]? = some (some ⟨c, lo, n.kids.length, n.val⟩) ∧ LaidN arr n lo mid ∧
      LaidKids arr r (off + 1) mid hi
end

theorem laidN_iff (arr : Cells α) (n : Node α) (lo hi : Nat) :
    LaidN arr n lo hi ↔ LaidKids arr n.kids lo (lo + n.kids.length) hi := by
  cases n; exact Iff.rfl

theorem laidKids_cons (arr : Cells α) (p : α × Node α) (r : List (α × Node α)) (off lo hi : Nat) :
    LaidKids arr (p :: r) off lo hi ↔
      ∃ mid, arr[off]? = some (some ⟨p.1, lo, p.2.kids.length, p.2.val⟩) ∧ LaidN arr p.2 lo mid ∧
        LaidKids arr r (off + 1) mid hi := Iff.rfl

theorem nodeCountN_mk (v : Option Nat) (ks : List (α × Node α)) :
    nodeCountN (mk v ks) = ks.length + nodeCountKids ks := rfl

theorem nodeCountKids_cons (c : α) (n : Node α) (r : List (α × Node α)) :
    nodeCountKids ((c, n) :: r) = nodeCountN n + nodeCountKids r := rfl

theorem freezeN_mk (v : Option Nat) (ks : List (α × Node α)) (offset : Nat) (arr : Cells α) :
    freezeN (mk v ks) offset arr = freezeKids ks offset (offset + ks.length) arr := by
  show freezeKids ks offset (Gen.Trie.freezeLeafOffset offset ks.length).toNat arr = _
  rw [gen_freezeLeafOffset]

theorem freezeKids_cons (c : α) (leaf : Node α) (rest : List (α × Node α)) (offset leafOffset : Nat)
    (arr : Cells α) (h : offset < arr.size) :
    freezeKids ((c, leaf) :: rest) offset leafOffset arr =
      (freezeN leaf leafOffset (arr.set offset (some ⟨c, leafOffset, leaf.kids.length, leaf.val⟩))).bind
        fun r => freezeKids rest (offset + 1) r.2 r.1 := by
  refine (rfl : _ = if h : offset < arr.size then _ else none).trans ?_
  simp only [dif_pos h]
  cases freezeN leaf leafOffset (arr.set offset (some ⟨c, leafOffset, leaf.kids.length, leaf.val⟩)) <;> rfl

mutual
/-- the layout is stated for every array that agrees with the result on the rows written, so that the
    writes for the siblings that follow do not disturb it -/
theorem freezeN_spec : ∀ (n : Node α) lo (arr : Cells α), lo + nodeCountN n ≤ arr.size →
    ∃ arr', freezeN n lo arr = some (arr', lo + nodeCountN n) ∧ arr'.size = arr.size ∧
      (∀ i, i < lo → arr'[i]? = arr[i]?) ∧
      ∀ arr'' : Cells α, (∀ i, lo ≤ i ∧ i < lo + nodeCountN n → arr''[i]? = arr'[i]?) →
        LaidN arr'' n lo (lo + nodeCountN n)
  | mk v ks, lo, arr, hsz => by
    rw [nodeCountN_mk] at hsz ⊢
    rw [freezeN_mk, ← Nat.add_assoc]
    obtain ⟨arr', e, s, f, l⟩ := freezeKids_spec ks lo (lo + ks.length) arr (Nat.le_refl _) (by omega)
    exact ⟨arr', e, s, fun i hi => f i (Or.inl hi), fun arr'' h => l arr'' fun i hi => h i (by omega)⟩
theorem freezeKids_spec : ∀ (ks : List (α × Node α)) off lo (arr : Cells α), off + ks.length ≤ lo →
    lo + nodeCountKids ks ≤ arr.size →
      ∃ arr', freezeKids ks off lo arr = some (arr', lo + nodeCountKids ks) ∧ arr'.size = arr.size ∧
        (∀ i, i < off ∨ off + ks.length ≤ i ∧ i < lo → arr'[i]? = arr[i]?) ∧
        ∀ arr'' : Cells α,
          (∀ i, off ≤ i ∧ i < off + ks.length ∨ lo ≤ i ∧ i < lo + nodeCountKids ks → arr''[i]? = arr'[i]?) →
          LaidKids arr'' ks off lo (lo + nodeCountKids ks)
  | [], off, lo, arr, _, _ => ⟨arr, rfl, rfl, fun _ _ => rfl, fun _ _ => rfl⟩
  | (c, n) :: r, off, lo, arr, h1, h2 => by
    rw [nodeCountKids_cons] at h2 ⊢
    rw [List.length_cons] at h1 ⊢
    have hoff : off < arr.size := by omega
    rw [freezeKids_cons _ _ _ _ _ _ hoff, ← Nat.add_assoc]
    obtain ⟨arr2, e2, s2, f2, l2⟩ := freezeN_spec n lo
      (arr.set off (some ⟨c, lo, n.kids.length, n.val⟩) hoff) (by rw [Array.size_set]; omega)
    obtain ⟨arr3, e3, s3, f3, l3⟩ := freezeKids_spec r (off + 1) (lo + nodeCountN n) arr2
      (by omega) (by rw [s2, Array.size_set]; omega)
    rw [e2, Option.bind_some, e3]
    refine ⟨arr3, rfl, by rw [s3, s2, Array.size_set], fun i hi => ?_, fun arr'' h => ⟨lo + nodeCountN n, ?_, ?_, ?_⟩⟩
    · rw [f3 i (by omega), f2 i (by omega), Array.getElem?_set_ne _ (by omega)]
    · rw [h off (by omega), f3 off (by omega), f2 off (by omega), Array.getElem?_set_self _]
    · exact l2 arr'' fun i hi => by rw [h i (by omega), f3 i (by omega)]
    · exact l3 arr'' fun i hi => h i (by omega)
end

theorem laidKids_row (arr : Cells α) (ks : List (α × Node α)) :
    ∀ off lo hi, LaidKids arr ks off lo hi → ∀ j p, ks[j]? = some p →
      ∃ o h', arr[off + j]? = some (some ⟨p.1, o, p.2.kids.length, p.2.val⟩) ∧ LaidN arr p.2 o h' := by
  induction ks with
  | nil => intro off lo hi _ j p hj; cases hj
  | cons e r ih =>
    intro off lo hi h j p hj
    obtain ⟨mid, hcell, hn, hr⟩ := (laidKids_cons ..).mp h
    cases j with
    | zero => cases hj; exact ⟨lo, mid, hcell, hn⟩
    | succ j =>
      obtain ⟨o, h', h1, h2⟩ := ih _ _ _ hr j p hj
      exact ⟨o, h', by rw [← Nat.add_assoc, Nat.add_right_comm]; exact h1, h2⟩

variable [DecidableEq α] [LT α] [DecidableRel (α := α) (· < ·)]

theorem idx_lt_of_key_lt [TotalLT α] {ks : List (α × Node α)} (hs : KeysLt ks) {i j : Nat} {p q : α × Node α}
    (hi : ks[i]? = some p) (hj : ks[j]? = some q) (h : p.1 < q.1) : i < j := by
  have mono : ∀ {i j : Nat} {p q : α × Node α}, ks[i]? = some p → ks[j]? = some q → i < j → p.1 < q.1 := by
    intro i j p q hi hj hij
    obtain ⟨hi', rfl⟩ := List.getElem?_eq_some_iff.mp hi
    obtain ⟨hj', rfl⟩ := List.getElem?_eq_some_iff.mp hj
    have := List.pairwise_iff_getElem.mp hs i j (by simpa using hi') (by simpa using hj') hij
    simpa using this
  rcases Nat.lt_trichotomy i j with hij | rfl | hji
  · exact hij
  · cases hi.symm.trans hj; exact absurd h (TotalLT.irrefl _)
  · exact absurd (TotalLT.trans h (mono hj hi hji)) (TotalLT.irrefl _)

theorem exists_mid {s e : Int} (h0 : 0 ≤ s) (h : s ≤ e) :
    ∃ m : Nat, (m : Int) = (s + e) / 2 ∧ s ≤ m ∧ (m : Int) ≤ e := by
  have h1 : s ≤ (s + e) / 2 := Int.le_ediv_of_mul_le (by decide) (by omega)
  have h2 : (s + e) / 2 ≤ e := Int.ediv_le_of_le_mul (by decide) (by omega)
  exact ⟨((s + e) / 2).toNat, by rw [Int.toNat_of_nonneg (Int.le_trans h0 h1)]; exact ⟨rfl, h1, h2⟩⟩

/-- the binary search against `std::map::find` (`find`); the invariant of the loop is that every position
    whose key equals `ci` lies in the window `[start, end_]` -/
theorem bsearch_spec [TotalLT α] (arr : Cells α) (ks : List (α × Node α)) (off lo hi : Nat) (ci : α)
    (hl : LaidKids arr ks off lo hi) (hs : KeysLt ks) :
    ∀ (fuel : Nat) (start end_ : Int), 0 ≤ start ∧ end_ < ks.length ∧ end_ - start + 2 ≤ fuel ∧ 1 ≤ fuel →
      (∀ (j : Nat) (p : α × Node α), ks[j]? = some p → p.1 = ci → start ≤ j ∧ j ≤ end_) →
      match find ci ks with
      | none => bsearch arr off ci fuel start end_ = .miss
      | some ch => ∃ o h', bsearch arr off ci fuel start end_ = .hit ⟨ci, o, ch.kids.length, ch.val⟩ ∧
          LaidN arr ch o h' := by
  intro fuel
  induction fuel with
  | zero => intro start end_ h; omega
  | succ fuel ih =>
    intro start end_ hb hwin
    rw [bsearch]
    by_cases hse : start ≤ end_
    · have hnn : 0 ≤ start + end_ := Int.add_nonneg hb.1 (Int.le_trans hb.1 hse)
      rw [if_pos hse, gen_bsMid _ _ hnn, gen_bsLeftEnd _ _ hnn, gen_bsRightStart _ _ hnn]
      obtain ⟨m, hm, hm1⟩ := exists_mid hb.1 hse
      simp only [← hm, Int.toNat_natCast]
      clear hm
      obtain ⟨p, hp⟩ : ∃ p, ks[m]? = some p := ⟨ks[m]'(by omega), List.getElem?_eq_getElem _⟩
      obtain ⟨o, h', hcell, hlaid⟩ := laidKids_row arr ks off lo hi hl _ p hp
      simp only [hcell]
      by_cases hc1 : ci < p.1
      · rw [if_pos hc1]
        refine ih start (m - 1) (by omega) fun j q hq e => ?_
        have := idx_lt_of_key_lt hs hq hp (e ▸ hc1)
        have := hwin j q hq e
        omega
      · rw [if_neg hc1]
        by_cases hc2 : p.1 < ci
        · rw [if_pos hc2]
          refine ih (m + 1) end_ (by omega) fun j q hq e => ?_
          have := idx_lt_of_key_lt hs hp hq (e ▸ hc2)
          have := hwin j q hq e
          omega
        · have heq : ci = p.1 := ((TotalLT.tri ci p.1).resolve_left hc1).resolve_right hc2
          rw [if_neg hc2, (mem_iff_find hs).mp (heq ▸ List.mem_of_getElem? hp : (ci, p.2) ∈ ks)]
          exact ⟨o, h', by rw [heq], hlaid⟩
    · rw [if_neg hse, find_eq_none_iff.mpr]
      intro p hp e
      obtain ⟨j, hj, hjp⟩ := List.getElem_of_mem hp
      have := hwin j p (by rw [List.getElem?_eq_getElem hj, hjp]) e
      omega

theorem frozenLoop_eq [TotalLT α] (arr : Cells α) (q : List α) :
    ∀ (n : Node α) (lo hi p : Nat) (a : Nat × Option Nat), LaidN arr n lo hi → Sorted n →
      frozenLoop arr q lo n.kids.length p (seen n p a).1 (seen n p a).2 = some (getOr q p n a) := by
  induction q with
  | nil => intro n lo hi p a _ _; rw [getOr_nil, frozenLoop]
  | cons c cs ih =>
    intro n lo hi p a hl hs
    rw [laidN_iff] at hl
    rw [Node.eta n, sorted_mk] at hs
    rw [frozenLoop, getOr_cons, gen_bsInitStart, gen_bsInitEnd]
    have hb := bsearch_spec arr n.kids lo _ hi c hl hs.1 (n.kids.length + 1) 0 ((n.kids.length : Int) - 1)
      (by omega) fun j p hp _ => by have := (List.getElem?_eq_some_iff.mp hp).1; omega
    cases hf : find c n.kids with
    | none => rw [hf] at hb; rw [hb]
    | some ch =>
      rw [hf] at hb
      obtain ⟨o, h', hb, hlaid⟩ := hb
      simp only [hb, gen_frozenHasValue]
      rw [← ih ch o h' (p + 1) (seen n p a) hlaid (hs.2 _ (find_mem hf))]
      cases hv : ch.val.isSome <;> simp only [seen, hv, if_true, Bool.false_eq_true, if_false]

/-- a frozen representation that describes `root` -/
def FrozenOK (f : Frozen α) (root : Node α) : Prop :=
  f.baseNodeCount = root.kids.length ∧ ∃ hi, LaidN f.cells root 0 hi

/-- the frozen lookup (binary search over the flattened arrays) returns what the unfrozen
    recursive lookup returns, and never reads outside the arrays or an unwritten cell -/
theorem getLongestFrozen_eq [TotalLT α] (f : Frozen α) (root : Node α) (hf : FrozenOK f root) (hs : Sorted root)
    (q : List α) : getLongestFrozen f root.val q = some (trieGetLongest root q) := by
  obtain ⟨hbase, hi, hl⟩ := hf
  have h := frozenLoop_eq f.cells q root 0 hi 0 (0, none) hl hs
  have hseen : seen root 0 (0, none) = (0, root.val) := by unfold seen; cases root.val <;> rfl
  rw [hseen] at h
  rw [getLongestFrozen, gen_frozenInitIndex, hbase, h, getOr_eq_best, trieGetLongest_eq]
  cases best root q <;> simp [gen_frozenSuccess, Result.fail]

theorem scan_eq (arr : Cells α) (c : α) (ks : List (α × Node α)) :
    ∀ off lo hi, LaidKids arr ks off lo hi →
      Trie.hasChar.scan c arr ks.length off = some ((ks.map (·.1)).contains c) := by
  induction ks with
  | nil => intro off lo hi _; rfl
  | cons p r ih =>
    intro off lo hi h
    obtain ⟨mid, hcell, _, hr⟩ := (laidKids_cons ..).mp h
    simp only [List.length_cons, Trie.hasChar.scan, hcell, List.map_cons, List.contains_cons, ih _ _ _ hr]
    by_cases hk : p.1 = c
    · rw [if_pos hk, hk, beq_self_eq_true, Bool.true_or]
    · rw [if_neg hk, beq_eq_false_iff_ne.mpr (Ne.symm hk), Bool.false_or]

variable {V : Type} [Inhabited α]

theorem freeze_spec (t : Trie α V) :
    ∃ f, t.freeze = some { t with frozen := some f } ∧ FrozenOK f t.root := by
  obtain ⟨arr', e, _, _, hl⟩ := freezeN_spec t.root 0
    ((Array.replicate (nodeCountN t.root + 1) (none : Option (Cell α))).set! (nodeCountN t.root)
      (some ⟨default, nodeCountN t.root, 0, none⟩)) (by simp)
  refine ⟨⟨nodeCountN t.root, t.root.kids.length, arr'⟩, ?_, rfl, _, hl _ fun _ _ => rfl⟩
  simp only [Trie.freeze, Trie.defrost, e]

theorem refreeze_spec (t : Trie α V) (h : t.frozen = none) :
    ∃ t', (if t.autoFreeze then t.freeze else some t) = some t' ∧ t'.root = t.root ∧ t'.values = t.values ∧
      ∀ f, t'.frozen = some f → FrozenOK f t'.root := by
  split
  · obtain ⟨f, e, hf⟩ := freeze_spec t
    exact ⟨_, e, rfl, rfl, fun f' hf' => by cases hf'; exact hf⟩
  · exact ⟨t, rfl, rfl, rfl, fun f hf => by rw [h] at hf; cases hf⟩

end Occa.Trie
