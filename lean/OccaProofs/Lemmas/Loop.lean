/-
C17 / C18 on numbers: closed forms of the sequential loop and of the launch.

A header is read through three direction-free quantities: `togo` (how far a value is from failing the loop test),
`adv` (the value `k` steps on) and `dist = togo init`.  Once `test`, `next`, `valueOf` and `count` are expressed in them,
no proof distinguishes upward from downward loops.  The iteration count `ceilN dist step` is used through
`ceilN_le_iff`; it is unfolded only where a `tdiv` formula of the code has to be recognised (`launched_count`, `ceilN_one`,
`tdiv_eq_ceilN`, by which C23 reads the rounded-up quotients of the generated code).
-/
import OccaModel.Loop

namespace Occa.Loop

/-- `ceil(d / s)` clamped at 0, written with C's truncating division exactly as the launcher does -/
def ceilN (d s : Int) : Nat := (Int.tdiv (d + s - 1) s).toNat

theorem ceilN_le_iff {d s : Int} (hs : 0 < s) (m : Nat) : ceilN d s ≤ m ↔ d ≤ s * m := by
  rw [ceilN, Int.toNat_le]
  by_cases h0 : 0 ≤ d + s - 1
  · rw [Int.tdiv_eq_ediv_of_nonneg h0, Int.ediv_le_iff_le_mul hs, Int.mul_comm]
    omega
  · have h1 := Int.tdiv_le_tdiv hs (by omega : d + s - 1 ≤ 0)
    have h2 : 0 ≤ s * m := Int.mul_nonneg (by omega) (Int.natCast_nonneg m)
    rw [Int.zero_tdiv] at h1
    omega

theorem lt_ceilN_iff {d s : Int} (hs : 0 < s) (k : Nat) : k < ceilN d s ↔ s * k < d := by
  rw [← Nat.not_le, ceilN_le_iff hs, Int.not_le]

theorem ceilN_le_toNat {d s : Int} (hs : 0 < s) : ceilN d s ≤ d.toNat := by
  rw [ceilN_le_iff hs]
  have := Int.mul_le_mul_of_nonneg_right (by omega : 1 ≤ s) (Int.natCast_nonneg d.toNat)
  omega

theorem ceilN_nonpos {d s : Int} (hs : 0 < s) (hd : d ≤ 0) : ceilN d s = 0 :=
  Nat.le_zero.mp ((ceilN_le_iff hs 0).mpr (by rw [Int.natCast_zero, Int.mul_zero]; exact hd))

theorem ceilN_one (d : Int) : ceilN d 1 = d.toNat := by
  rw [ceilN, Int.add_sub_cancel, Int.tdiv_one]

theorem tdiv_eq_ceilN (d c : Int) (hc : 0 < c) (h : 0 ≤ d) : (d + c - 1).tdiv c = ceilN d c :=
  (Int.toNat_of_nonneg (Int.tdiv_nonneg (by omega) (Int.le_of_lt hc))).symm

/-- how far `i` is from failing the loop test, measured in the direction the comparison points -/
def Header.togo (h : Header) (i : Int) : Int :=
  (if h.upward then h.bound - i else i - h.bound) + (if h.inclusive then 1 else 0)

def Header.adv (h : Header) (i k : Int) : Int :=
  if h.positiveUpdate then i + h.step * k else i - h.step * k

def Header.dist (h : Header) : Int := h.togo h.init

theorem test_eq (h : Header) (i : Int) : h.test i = decide (0 < h.togo i) := by
  obtain ⟨i0, b0, c, r, u⟩ := h
  cases c <;> cases r <;> simp [Header.test, Header.togo, Header.upward, Header.inclusive, Cmp.holds] <;> omega

theorem next_eq (h : Header) (i : Int) : h.next i = h.adv i 1 := by
  obtain ⟨i0, b0, c, r, u⟩ := h
  cases u <;> simp [Header.next, Header.adv, Header.step, Header.positiveUpdate]

theorem valueOf_eq (h : Header) (k : Int) : valueOf h k = h.adv h.init k := by
  obtain ⟨i0, b0, c, r, u⟩ := h
  cases u <;> simp [valueOf, Header.adv, Header.positiveUpdate, Header.step]

theorem adv_zero (h : Header) (i : Int) : h.adv i 0 = i := by
  simp [Header.adv]

theorem adv_adv (h : Header) (i a b : Int) : h.adv (h.adv i a) b = h.adv i (a + b) := by
  unfold Header.adv
  rw [Int.mul_add]
  split <;> omega

theorem togo_adv (h : Header) (hv : h.Valid) (i k : Int) : h.togo (h.adv i k) = h.togo i - h.step * k := by
  unfold Header.togo Header.adv
  rw [← hv]
  split <;> omega

theorem test_valueOf (h : Header) (hv : h.Valid) (hs : 0 < h.step) (k : Nat) :
    h.test (valueOf h (Int.ofNat k)) = decide (k < ceilN h.dist h.step) := by
  rw [valueOf_eq, test_eq, togo_adv h hv, decide_eq_decide, lt_ceilN_iff hs]
  exact Int.sub_pos

theorem runFuel_eq_map (h : Header) : ∀ (n f : Nat) (i : Int), n ≤ f →
    (∀ k : Nat, k < n → h.test (h.adv i k) = true) → (n < f → h.test (h.adv i n) = false) →
    runFuel h f i = (List.range n).map fun k : Nat => h.adv i k
  | 0, 0, _, _, _, _ => rfl
  | 0, f + 1, i, _, _, hout => by
    have := hout (Nat.succ_pos f)
    rw [Int.natCast_zero, adv_zero] at this
    simp [runFuel, this]
  | n + 1, f + 1, i, hf, hin, hout => by
    have h0 := hin 0 (by omega)
    rw [Int.natCast_zero, adv_zero] at h0
    have shift : ∀ k : Nat, h.adv (h.next i) k = h.adv i ((k + 1 : Nat) : Int) := fun k => by
      rw [next_eq, adv_adv, Int.natCast_add, Int.natCast_one, Int.add_comm]
    rw [runFuel, if_pos h0, runFuel_eq_map h n f (h.next i) (by omega)
      (fun k hk => by rw [shift]; exact hin (k + 1) (by omega)) (fun hl => by rw [shift]; exact hout (by omega)),
      List.range_succ_eq_map, List.map_cons, List.map_map, Int.natCast_zero, adv_zero]
    simp only [shift, Function.comp_def]

theorem dist_lt_fuel (h : Header) : h.dist.toNat < h.fuel := by
  unfold Header.dist Header.togo Header.fuel
  split <;> split <;> omega

theorem runFuel_closed (h : Header) (hv : h.Valid) (hs : 0 < h.step) (n : Nat) (hn : ceilN h.dist h.step ≤ n) :
    runFuel h n h.init = (List.range (ceilN h.dist h.step)).map fun k => valueOf h (Int.ofNat k) := by
  have ht := fun k : Nat => valueOf_eq h k ▸ test_valueOf h hv hs k
  simp only [valueOf_eq]
  exact runFuel_eq_map h _ n h.init hn (fun k hk => by rw [ht]; exact decide_eq_true hk)
    (fun _ => by rw [ht]; exact decide_eq_false (Nat.lt_irrefl _))

theorem count_le_fuel (h : Header) (hs : 0 < h.step) : ceilN h.dist h.step ≤ h.fuel :=
  Nat.le_of_lt (Nat.lt_of_le_of_lt (ceilN_le_toNat hs) (dist_lt_fuel h))

theorem seqIters_closed (h : Header) (hv : h.Valid) (hs : 0 < h.step) :
    seqIters h = (List.range (ceilN h.dist h.step)).map fun k => valueOf h (Int.ofNat k) :=
  runFuel_closed h hv hs h.fuel (count_le_fuel h hs)

theorem valueOf_inj (h : Header) (hs : 0 < h.step) {a b : Nat} (e : valueOf h (Int.ofNat a) = valueOf h (Int.ofNat b)) :
    a = b := by
  simp only [valueOf_eq, Header.adv] at e
  have key : h.step * (Int.ofNat a) = h.step * (Int.ofNat b) := by
    split at e <;> omega
  exact Int.ofNat.inj (Int.eq_of_mul_eq_mul_left (Int.ne_of_gt hs) key)

theorem seqIters_nodup (h : Header) (hv : h.Valid) (hs : 0 < h.step) : (seqIters h).Nodup := by
  rw [seqIters_closed h hv hs]
  exact List.Pairwise.map _ (fun a b hne e => hne (valueOf_inj h hs e)) List.nodup_range

/-- what `getIterationCount` divides by the step: `larger - smaller`, and 1 more when the comparison is inclusive -/
def Header.span (h : Header) : Int :=
  let c := (if h.positiveUpdate then h.bound else h.init) - (if h.positiveUpdate then h.init else h.bound)
  if h.inclusive then 1 + c else c

theorem count_span (h : Header) : count h = Int.tdiv (h.span + h.step - 1) h.step := by
  obtain ⟨i0, b0, c, r, u⟩ := h
  cases u <;> simp only [count, Header.span, Header.step, Int.add_sub_cancel, Int.tdiv_one]

theorem span_eq_dist (h : Header) (hv : h.Valid) : h.span = h.dist := by
  unfold Header.span Header.dist Header.togo
  rw [← hv]
  dsimp only
  split <;> split <;> omega

theorem launched_toUDim (c : Int) (h1 : -2 ^ 63 ≤ c) (h2 : c < 2 ^ 63) : launched (toUDim c) = c.toNat := by
  unfold launched isNoopDim hasNegativeBit toUDim
  by_cases hc : 0 ≤ c
  · rw [Int.emod_eq_of_lt hc (by omega), Nat.div_eq_of_lt (by omega)]
    by_cases hz : c.toNat = 0 <;> simp [hz]
  · have e : (c % 2 ^ 64).toNat / 2 ^ 63 = 1 := by omega
    rw [e, Int.toNat_of_nonpos (Int.le_of_not_le hc)]
    exact if_pos (Bool.or_true _)

/-- the launch dimension is representable (the property's "no overflow" domain) -/
def Header.DimInRange (h : Header) : Prop :=
  -9223372036854775808 ≤ count h ∧ count h < 9223372036854775808

instance (h : Header) : Decidable h.DimInRange := by unfold Header.DimInRange; exact inferInstance

theorem launched_count (h : Header) (hv : h.Valid) (hr : h.DimInRange) :
    launched (toUDim (count h)) = ceilN h.dist h.step := by
  rw [launched_toUDim _ hr.1 hr.2, count_span, span_eq_dist h hv]
  rfl

theorem launchIters_eq_seq (h : Header) (hv : h.Valid) (hs : 0 < h.step) (hr : h.DimInRange) :
    launchIters h = seqIters h := by
  rw [launchIters, launched_count h hv hr, seqIters_closed h hv hs]

end Occa.Loop
