/-
Helper lemmas for C12: the monad and the predicate `Ok` by which the no-trap lemmas walk through a `do` block,
bounds-checked reads, `Suffix`; NUL-free text (`NoNul`); the skip loops in both directions over `Units` (what they cross:
`skipUntil_spec`; that they cross it: `skipUntil_reads`); escape/unescape and the scanners' range `ValUnits`, also in both
directions (`escape_units`, `unescape_valUnits`).
-/
import OccaModel.Lex

namespace Occa.Lex
open Occa.Gen

@[simp] theorem ok_bind {α β : Type} (a : α) (f : α → M β) : (Except.ok a >>= f) = f a := rfl
@[simp] theorem pure_ok {α : Type} (a : α) : (pure a : M α) = .ok a := rfl

/-- `x` returns (no trap) and its result satisfies `P`.  A `do` block is walked through with `Ok.bind` at each step,
    `Ok.ite` at each early return and `Ok.pure` at each exit. -/
def Ok {α : Type} (x : M α) (P : α → Prop) : Prop := ∃ a, x = .ok a ∧ P a

theorem Ok.pure {α : Type} {P : α → Prop} {a : α} (h : P a) : Ok (pure a) P := ⟨a, rfl, h⟩

theorem Ok.bind {α β : Type} {x : M α} {f : α → M β} {P : α → Prop} {Q : β → Prop} (hx : Ok x P)
    (hf : ∀ a, P a → Ok (f a) Q) : Ok (x >>= f) Q := by
  obtain ⟨a, rfl, ha⟩ := hx
  exact hf a ha

theorem Ok.ite {α : Type} {c : Prop} [Decidable c] {x y : M α} {P : α → Prop} (hx : c → Ok x P) (hy : ¬c → Ok y P) :
    Ok (if c then x else y) P := by
  by_cases h : c
  · rw [if_pos h]; exact hx h
  · rw [if_neg h]; exact hy h

theorem Ok.mono {α : Type} {x : M α} {P Q : α → Prop} (hx : Ok x P) (h : ∀ a, P a → Q a) : Ok x Q :=
  hx.imp fun a ha => ⟨ha.1, h a ha.2⟩

theorem Ok.elim {α : Type} {x : M α} {P : α → Prop} {a : α} (h : Ok x P) (e : x = .ok a) : P a := by
  obtain ⟨b, hb, p⟩ := h
  cases hb.symm.trans e
  exact p

@[simp] theorem hd_nil : hd [] = NUL := rfl
@[simp] theorem hd_cons (c : Char) (t : Str) : hd (c :: t) = c := rfl

theorem hd_append {a : Str} (h : a ≠ []) (b : Str) : hd (a ++ b) = hd a := by
  cases a with
  | nil => exact absurd rfl h
  | cons x a => rfl


theorem hd_append_of_all {P : Char → Prop} {a : Str} (b : Str) (ha : ∀ x ∈ a, P x) (hb : P (hd b)) : P (hd (a ++ b)) := by
  cases a with
  | nil => simpa using hb
  | cons x a => simpa using ha x (by simp)

@[simp] theorem rd_cons_one (c : Char) (t : Str) : rd (c :: t) 1 = .ok (hd t) := by
  cases t <;> simp [rd, hd]

@[simp] theorem adv_zero (r : Str) : adv r 0 = .ok r := by simp [adv]
@[simp] theorem adv_cons_one (c : Char) (t : Str) : adv (c :: t) 1 = .ok t := by simp [adv]
@[simp] theorem adv_cons_two (c d : Char) (t : Str) : adv (c :: d :: t) 2 = .ok t := by simp [adv]

theorem adv_append (w r : Str) : adv (w ++ r) w.length = .ok r := by simp [adv]

theorem adv_ok_of_le {r : Str} {k : Nat} (h : k ≤ r.length) : adv r k = .ok (r.drop k) := by
  simp [adv, h]

def Suffix (r' r : Str) : Prop := ∃ w, r = w ++ r'

theorem Suffix.refl (r : Str) : Suffix r r := ⟨[], rfl⟩
theorem Suffix.trans {a b c : Str} (h1 : Suffix a b) (h2 : Suffix b c) : Suffix a c := by
  obtain ⟨w1, rfl⟩ := h1; obtain ⟨w2, rfl⟩ := h2; exact ⟨w2 ++ w1, by simp⟩
theorem Suffix.cons {a b : Str} (c : Char) (h : Suffix a b) : Suffix a (c :: b) := by
  obtain ⟨w, rfl⟩ := h; exact ⟨c :: w, rfl⟩
theorem Suffix.length_le {a b : Str} (h : Suffix a b) : a.length ≤ b.length := by
  obtain ⟨w, rfl⟩ := h; simp
theorem Suffix.drop (r : Str) (k : Nat) : Suffix (r.drop k) r := ⟨r.take k, (List.take_append_drop k r).symm⟩
theorem Suffix.nil (r : Str) : Suffix [] r := ⟨r, by simp⟩

theorem consumed_append (w r : Str) : consumed (w ++ r) r = w := by
  simp [consumed]

theorem consumed_cons_append (a : Char) (t r : Str) : consumed (a :: (t ++ r)) r = a :: t :=
  consumed_append (a :: t) r

/-- text made of plain characters (no backslash, satisfying `P`) and backslash pairs `\x` with `Q x` -/
inductive Units (P Q : Char → Prop) : Str → Prop
  | nil : Units P Q []
  | plain {c : Char} {t : Str} : c ≠ '\\' → P c → Units P Q t → Units P Q (c :: t)
  | pair {x : Char} {t : Str} : Q x → Units P Q t → Units P Q ('\\' :: x :: t)

theorem Units.append {P Q : Char → Prop} {a b : Str} (ha : Units P Q a) (hb : Units P Q b) : Units P Q (a ++ b) := by
  induction ha with
  | nil => exact hb
  | plain h1 h2 _ ih => exact Units.plain h1 h2 ih
  | pair h1 _ ih => exact Units.pair h1 ih

theorem Units.mono {P Q P' Q' : Char → Prop} {a : Str} (ha : Units P Q a)
    (hp : ∀ c, P c → P' c) (hq : ∀ c, Q c → Q' c) : Units P' Q' a := by
  induction ha with
  | nil => exact Units.nil
  | plain h1 h2 _ ih => exact Units.plain h1 (hp _ h2) ih
  | pair h1 _ ih => exact Units.pair (hq _ h1) ih

theorem Units.of_all {P Q : Char → Prop} {w : Str} (h : ∀ x ∈ w, x ≠ '\\' ∧ P x) : Units P Q w := by
  induction w with
  | nil => exact Units.nil
  | cons c t ih =>
    exact Units.plain (h c (by simp)).1 (h c (by simp)).2 (ih (fun x hx => h x (by simp [hx])))

abbrev NoNul (r : Str) : Prop := ∀ c ∈ r, c ≠ NUL

@[simp] theorem skipUntil_nil (stop : Char → Bool) : skipUntil stop [] = .ok [] := rfl

theorem skipUntil_stop {stop : Char → Bool} {c : Char} (t : Str) (hc : c ≠ '\\') (hs : stop c = true) :
    skipUntil stop (c :: t) = .ok (c :: t) := by
  rw [skipUntil.eq_def]; simp [hc, hs]

theorem skipUntil_step {stop : Char → Bool} {c : Char} (t : Str) (hc : c ≠ '\\') (hs : stop c = false) :
    skipUntil stop (c :: t) = skipUntil stop t := by
  rw [skipUntil.eq_def]; simp [hc, hs]

theorem skipUntil_pair {stop : Char → Bool} {x : Char} (t : Str) (hx : x ≠ NUL) :
    skipUntil stop ('\\' :: x :: t) = skipUntil stop t := by
  rw [skipUntil.eq_def]; simp [hx]

/-- where the loop runs to the end nothing is said of the crossed text `w`: it may end in a lone backslash -/
theorem skipUntil_spec (stop : Char → Bool) (r : Str) : ∃ w r', skipUntil stop r = .ok r' ∧ r = w ++ r' ∧
    (r' = [] ∨
      ((∃ c t, r' = c :: t ∧ c ≠ '\\' ∧ stop c = true) ∧
        (NoNul r → Units (fun c => stop c = false) (fun x => x ≠ NUL) w))) := by
  fun_induction skipUntil stop r with
  | case1 => exact ⟨[], [], rfl, rfl, .inl rfl⟩
  | case2 t e he => simp at he
  | case3 d hd' hrd => simp at hrd; subst hrd; simp at hd'
  | case4 d hd' x t' hrd ih =>
    obtain ⟨w, r', h1, rfl, h3⟩ := ih
    have hx : x ≠ NUL := by simp at hrd; subst hrd; simpa using hd'
    exact ⟨'\\' :: x :: w, r', h1, rfl, h3.imp_right fun ⟨hs, hu⟩ =>
      ⟨hs, fun hn => .pair hx (hu fun y hy => hn y (by simp [hy]))⟩⟩
  | case5 t d hd' hrd ih =>
    obtain ⟨w, r', h1, rfl, h3⟩ := ih
    refine ⟨'\\' :: w, r', h1, rfl, h3.imp_right fun ⟨hs, _⟩ => ⟨hs, fun hn => ?_⟩⟩
    -- a backslash before the terminator: in NUL-free text nothing follows, so the loop cannot stop on a character
    obtain ⟨c, t, rfl, -⟩ := hs
    simp at hrd; subst hrd
    cases w with
    | nil => exact absurd (by simpa using hd') (hn c (by simp))
    | cons y w => exact absurd (by simpa using hd') (hn y (by simp))
  | case6 c t hc hs => exact ⟨[], c :: t, rfl, rfl, .inr ⟨⟨c, t, rfl, hc, hs⟩, fun _ => .nil⟩⟩
  | case7 c t hc hs ih =>
    obtain ⟨w, r', h1, rfl, h3⟩ := ih
    exact ⟨c :: w, r', h1, rfl, h3.imp_right fun ⟨hs', hu⟩ =>
      ⟨hs', fun hn => .plain hc (by simpa using hs) (hu fun y hy => hn y (by simp [hy]))⟩⟩

theorem skipUntil_ok (stop : Char → Bool) (r : Str) : ∃ r', skipUntil stop r = .ok r' ∧ Suffix r' r :=
  let ⟨w, r', h, e, _⟩ := skipUntil_spec stop r
  ⟨r', h, w, e⟩

section
variable {stop : Char → Bool} {r r1 : Str} (h : skipUntil stop r = .ok r1)
include h

theorem skipUntil_idem : skipUntil stop r1 = .ok r1 := by
  obtain ⟨_, r', h1, -, h3⟩ := skipUntil_spec stop r
  obtain rfl : r' = r1 := Except.ok.inj (h1.symm.trans h)
  rcases h3 with rfl | ⟨⟨c, t, rfl, hc, hs⟩, -⟩
  · rfl
  · exact skipUntil_stop t hc hs

theorem skipUntil_crossed (hn : NoNul r) (hne : r1 ≠ []) :
    ∃ w, r = w ++ r1 ∧ Units (fun c => stop c = false) (fun x => x ≠ NUL) w := by
  obtain ⟨w, r', h1, e, h3⟩ := skipUntil_spec stop r
  obtain rfl : r' = r1 := Except.ok.inj (h1.symm.trans h)
  exact ⟨w, e, (h3.resolve_left hne).2 hn⟩

end

theorem skipUntil_progress {stop : Char → Bool} {c : Char} (t : Str) (hc : c ≠ '\\') (hs : stop c = false) :
    ∃ r', skipUntil stop (c :: t) = .ok r' ∧ Suffix r' t := by
  rw [skipUntil_step t hc hs]; exact skipUntil_ok stop t

theorem skipUntil_units {stop : Char → Bool} {w : Str} (r : Str)
    (h : Units (fun c => stop c = false) (fun x => x ≠ NUL) w) :
    skipUntil stop (w ++ r) = skipUntil stop r := by
  induction h with
  | nil => rfl
  | plain h1 h2 _ ih => rw [List.cons_append, skipUntil_step _ h1 h2]; exact ih
  | pair h1 _ ih => rw [List.cons_append, List.cons_append, skipUntil_pair _ h1]; exact ih

theorem skipUntil_reads {stop : Char → Bool} {w : Str} {c : Char} (r : Str)
    (hw : Units (fun c => stop c = false) (fun x => x ≠ NUL) w) (hc : c ≠ '\\') (hs : stop c = true) :
    skipUntil stop (w ++ c :: r) = .ok (c :: r) := by
  rw [skipUntil_units _ hw]; exact skipUntil_stop r hc hs

/-- the values the string and char scanners can produce (delimiter `q`): plain characters other than
    backslash and newline (the delimiter itself comes from `\q`) and pairs `\x` with `x ≠ q` -/
def ValUnits (q : Char) (v : Str) : Prop :=
  Units (fun c => c ≠ '\n' ∧ c ≠ NUL) (fun x => x ≠ q ∧ x ≠ NUL) v

theorem mem_escape {q c : Char} : ∀ {v : Str}, c ∈ escape q v → c = '\\' ∨ c ∈ v
  | x :: v, h => by
    unfold escape at h
    split at h
    · next hx =>
      rcases List.mem_cons.1 h with rfl | h
      · exact .inl rfl
      · rcases List.mem_cons.1 h with rfl | h
        · exact .inr (hx ▸ List.mem_cons_self)
        · exact (mem_escape h).imp_right (List.mem_cons_of_mem _)
    · rcases List.mem_cons.1 h with rfl | h
      · exact .inr List.mem_cons_self
      · exact (mem_escape h).imp_right (List.mem_cons_of_mem _)

theorem hd_escape_ne (q : Char) (hq : q ≠ '\\') (hn : q ≠ NUL) (t : Str) : hd (escape q t) ≠ q := by
  cases t with
  | nil => simpa [escape] using hn.symm
  | cons c t =>
    by_cases h : c = q
    · simpa [escape, h] using hq.symm
    · simp [escape, h]

/-- printing a scanner value gives text that the skip loop crosses completely -/
theorem escape_units {q : Char} (hq : q ≠ '\\') (hn : q ≠ NUL) {v : Str} (h : ValUnits q v) :
    Units (fun c => c ≠ q ∧ c ≠ '\n' ∧ c ≠ NUL) (fun x => x ≠ NUL) (escape q v) := by
  induction h with
  | nil => exact Units.nil
  | @plain c t h1 h2 _ ih =>
    by_cases hc : c = q
    · simp only [escape, hc, if_true]; exact Units.pair hn ih
    · simp only [escape, hc, if_false]; exact Units.plain h1 ⟨hc, h2⟩ ih
  | @pair x t h1 _ ih =>
    have e1 : ('\\' : Char) ≠ q := fun e => hq e.symm
    simp only [escape, e1, h1.1, if_false]
    exact Units.pair h1.2 ih

theorem hd_units_ne {q : Char} (hq : q ≠ '\\') (hn : q ≠ NUL) {t : Str}
    (h : Units (fun c => c ≠ q ∧ c ≠ '\n') (fun x => x ≠ NUL) t) : hd t ≠ q := by
  cases h with
  | nil => simpa using hn.symm
  | plain _ h2 _ => simpa using h2.1
  | pair _ _ => simpa using hq.symm

theorem unescape_valUnits {q : Char} (hq : q ≠ '\\') (hn : q ≠ NUL) (hnl : q ≠ '\n') {t : Str} (ht : NoNul t)
    (h : Units (fun c => c ≠ q ∧ c ≠ '\n') (fun x => x ≠ NUL) t) : ValUnits q (unescape q t) := by
  induction h with
  | nil => exact Units.nil
  | @plain c t' h1 h2 _ ih =>
    have : unescape q (c :: t') = c :: unescape q t' := by simp [unescape, h1]
    rw [this]
    exact Units.plain h1 ⟨h2.2, ht c (by simp)⟩ (ih (fun x hx => ht x (by simp [hx])))
  | @pair x t' h1 hu ih =>
    have ih' := ih (fun y hy => ht y (by simp [hy]))
    by_cases hx : x = q
    · subst hx
      have : unescape x ('\\' :: x :: t') = x :: unescape x t' := by simp [unescape, hq]
      rw [this]
      exact Units.plain hq ⟨hnl, hn⟩ ih'
    · have hnext := hd_units_ne hq hn hu
      have : unescape q ('\\' :: x :: t') = '\\' :: x :: unescape q t' := by simp [unescape, hx, hnext]
      rw [this]
      exact Units.pair ⟨hx, h1⟩ ih'

/-- fix F16 is what makes index 0 work -/
theorem unescape_escape {q : Char} (hq : q ≠ '\\') (hn : q ≠ NUL) (v : Str) : unescape q (escape q v) = v := by
  induction v with
  | nil => rfl
  | cons c t ih =>
    by_cases hc : c = q
    · subst hc
      simp [escape, unescape, hq, ih]
    · simp [escape, unescape, hc, hd_escape_ne q hq hn t, ih]

end Occa.Lex
