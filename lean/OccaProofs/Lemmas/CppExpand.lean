/-
The macro-expansion machine (OccaModel/CppExpand.lean).

Fuel monotonicity: a result obtained with `n` units of fuel is obtained with every larger amount.  Hence
"terminates" (∃ n, result ≠ outOfFuel) is a property of the input, two amounts that both suffice give the
same result, and a computation that runs out of fuel for one amount runs out for every smaller one.
With it: one processToken step under the consumer, whatever the two amounts of fuel (`drain_cons`), and a translation
unit on which the expansion runs out of every amount of fuel (finding F63).
-/
import OccaModel.CppExpand

namespace Occa.Cpp

/-- `r'` is what `r` becomes when more fuel is given: the same, unless `r` is `outOfFuel` -/
def Res.le (r r' : Res α) : Prop := r ≠ .outOfFuel → r' = r

theorem Res.le.rfl {r : Res α} : r.le r := fun _ => Eq.refl r

theorem Res.le.ite {c : Prop} [Decidable c] {a a' b b' : Res α} (ha : c → a.le a') (hb : ¬c → b.le b') :
    (if c then a else b).le (if c then a' else b') := by
  by_cases h : c
  · rw [if_pos h, if_pos h]
    exact ha h
  · rw [if_neg h, if_neg h]
    exact hb h

theorem Res.le_add {f : Nat → Res α} (h : ∀ n, (f n).le (f (n + 1))) (n : Nat) : ∀ k, (f n).le (f (n + k))
  | 0 => .rfl
  | k + 1 => fun hn => by
      have e := Res.le_add h n k hn
      exact (h (n + k) (e ▸ hn)).trans e

theorem Res.le_cases {f : Nat → Res α} (h : ∀ n, (f n).le (f (n + 1))) {K : Nat} {a : α} (hk : f K = .ok a) (n : Nat) :
    f n = .outOfFuel ∨ f n = .ok a := by
  rcases Nat.le_total n K with hle | hle
  · obtain ⟨k, rfl⟩ := Nat.exists_eq_add_of_le hle
    cases hn : f n with
    | outOfFuel => exact .inl rfl
    | _ => exact .inr (hn ▸ (Res.le_add h n k (hn ▸ nofun)).symm.trans hk)
  · obtain ⟨k, rfl⟩ := Nat.exists_eq_add_of_le hle
    exact .inr ((Res.le_add h K k (hk ▸ nofun)).trans hk)

/-- The callee with more fuel: either it had run out (then so has the caller), or it answers the same.  Stated as an
    eliminator (conclusion `motive r r'`) because a rule with the callers' `match` in its conclusion would not fire, the
    unifier never unfolds a matcher; `elab_as_elim` finds the two calls in the goal by abstraction. -/
@[elab_as_elim]
theorem Res.le.call {motive : Res α → Res α → Prop} {r r' : Res α} (h : r.le r')
    (ok : ∀ a, motive (.ok a) (.ok a)) (trap : motive .trap .trap) (fuel : motive .outOfFuel r') : motive r r' := by
  cases r with
  | outOfFuel => exact fuel
  | ok a => rw [h nofun]; exact ok a
  | trap => rw [h nofun]; exact trap

structure Mono (vc : XCfg) (n : Nat) : Prop where
  next : ∀ s, (next vc n s).le (next vc (n + 1) s)
  fill : ∀ s, (fill vc n s).le (fill vc (n + 1) s)
  processToken : ∀ t s, (processToken vc n t s).le (processToken vc (n + 1) t s)
  processIdentifier : ∀ t s, (processIdentifier vc n t s).le (processIdentifier vc (n + 1) t s)
  expandMacro : ∀ t m s, (expandMacro vc n t m s).le (expandMacro vc (n + 1) t m s)
  macroExpand : ∀ m s, (macroExpand vc n m s).le (macroExpand vc (n + 1) m s)
  loadArgs : ∀ m s, (loadArgs vc n m s).le (loadArgs vc (n + 1) m s)
  collect : ∀ pc acc s, (collect vc n pc acc s).le (collect vc (n + 1) pc acc s)

/-- Each function calls the others with one unit less, as `match callee .. with | .ok x => .. | e => e`:
    when the call has run out so has the caller, otherwise the call with more fuel gives the same and the
    rest is compared branch by branch. -/
theorem mono_succ (vc : XCfg) (n : Nat) (ih : Mono vc n) : Mono vc (n + 1) := by
  constructor
  · intro s
    simp only [next]
    exact (ih.fill s).call (fun _ => .rfl) .rfl nofun
  · intro s
    unfold fill
    refine .ite (fun _ => .rfl) fun _ => ?_
    cases s.input with
    | nil => exact .rfl
    | cons t rest =>
      dsimp only
      exact (ih.processToken _ _).call (fun _ => ih.fill _) .rfl nofun
  · intro t s
    simp only [processToken]
    exact .ite (fun _ => (ih.processIdentifier _ _).call (fun _ => .rfl) .rfl nofun) fun _ => .rfl
  · intro t s
    simp only [processIdentifier]
    cases (if s.expanding = true then lookup s.table t.tok.text else none) with
    | none => exact .rfl
    | some m =>
      refine .ite (fun _ => .rfl) fun _ => .ite (fun _ => .rfl) fun _ => .ite (fun _ => ih.expandMacro _ _ _) fun _ =>
        .ite (fun _ => .rfl) fun _ => (ih.next _).call (fun x => ?_) .rfl nofun
      obtain ⟨_ | nt, s'⟩ := x
      · exact .rfl
      · exact .ite (fun _ => ih.expandMacro _ _ _) fun _ => .rfl
  · intro t m s
    simp only [expandMacro]
    exact (ih.macroExpand _ _).call (fun _ => .rfl) .rfl nofun
  · intro m s
    simp only [macroExpand]
    exact .ite (fun _ => (ih.loadArgs _ _).call (fun _ => .rfl) .rfl nofun)
      fun _ => (ih.loadArgs _ _).call (fun _ => .rfl) .rfl nofun
  · intro m s
    simp only [loadArgs]
    exact .ite (fun _ => .rfl) fun _ => (ih.collect _ _ _).call (fun _ => .rfl) .rfl nofun
  · intro pc acc s
    unfold collect
    refine (ih.next _).call (fun x => ?_) .rfl nofun
    obtain ⟨_ | t, s'⟩ := x
    · exact .rfl
    · exact .ite (fun _ => ih.collect _ _ _) fun _ => .ite (fun _ => .ite (fun _ => .rfl) fun _ => ih.collect _ _ _)
        fun _ => ih.collect _ _ _
theorem mono_all (vc : XCfg) : ∀ n, Mono vc n
  | 0 => by constructor <;> intros <;> exact fun h => absurd rfl h
  | n + 1 => mono_succ vc n (mono_all vc n)

theorem drain_mono (vc : XCfg) : ∀ (n : Nat) (s : PP) (acc : List Tok), (drain vc n s acc).le (drain vc (n + 1) s acc)
  | 0, s, acc => fun h => absurd rfl h
  | n + 1, s, acc => by
    simp only [drain]
    refine ((mono_all vc n).next _).call (fun x => ?_) .rfl nofun
    obtain ⟨_ | t, s'⟩ := x
    · exact .rfl
    · exact drain_mono vc n _ _

theorem drain_mono_le (vc : XCfg) (s : PP) (acc : List Tok) (r : Res (List Tok × PP)) (hne : r ≠ .outOfFuel)
    (n k : Nat) (h : drain vc n s acc = r) : drain vc (n + k) s acc = r :=
  h ▸ Res.le_add (fun n => drain_mono vc n s acc) n k (h ▸ hne)

theorem drain_det (vc : XCfg) (s : PP) (acc : List Tok) (n m : Nat) (a b : List Tok × PP)
    (h1 : drain vc n s acc = .ok a) (h2 : drain vc m s acc = .ok b) : a = b := by
  rcases Res.le_cases (fun k => drain_mono vc k s acc) h1 m with e | e
  · exact nomatch h2.symm.trans e
  · exact (Res.ok.inj (h2.symm.trans e)).symm

theorem fill_cons (vc : XCfg) (n : Nat) (t : ITok) (s : PP) (ho : s.output = []) :
    fill vc (n + 1) { s with input := t :: s.input } =
      match processToken vc n t s with
      | .ok s' => fill vc n s'
      | .outOfFuel => .outOfFuel
      | .trap => .trap := by
  obtain ⟨inp, out, dis, tbl, ex, er⟩ := s
  subst ho
  rw [fill]
  rfl

theorem next_cons (vc : XCfg) (n : Nat) (t : ITok) (s s1 : PP) (ho : s.output = [])
    (hp : processToken vc n t s = .ok s1) :
    next vc (n + 1 + 1) { s with input := t :: s.input } = next vc (n + 1) s1 := by
  rw [next, next, fill_cons vc n t s ho, hp]

/-- `+ 3`: drain, next and fill take a unit each around processToken -/
theorem drain_cons (vc : XCfg) (K n : Nat) (t : ITok) (s s1 : PP) (acc : List Tok) (R : List Tok × PP)
    (ho : s.output = []) (hp : processToken vc K t s = .ok s1) (hd : drain vc n s1 acc = .ok R) :
    drain vc (n + K + 3) { s with input := t :: s.input } acc = .ok R := by
  have hp' : processToken vc (n + K) t s = .ok s1 := by
    rw [Nat.add_comm, Res.le_add (fun k => (mono_all vc k).processToken t s) K n (hp ▸ nofun), hp]
  have hd' := drain_mono_le vc s1 acc (.ok R) nofun n (K + 2) hd
  rw [drain, next_cons vc _ t s s1 ho hp']
  -- what is left is `next` on `s1`, as in `hd'`, with one unit more for the consumer afterwards
  rw [show n + (K + 2) = n + K + 1 + 1 from rfl, drain] at hd'
  revert hd'
  cases next vc (n + K + 1) s1 with
  | outOfFuel => exact id
  | trap => exact id
  | ok x =>
    obtain ⟨_ | o, s'⟩ := x
    · exact id
    · exact fun h => drain_mono_le vc _ _ (.ok R) nofun _ 1 h

theorem drain_pop (vc : XCfg) (n : Nat) (s : PP) (o : Tok) (acc : List Tok) (R : List Tok × PP) (ho : s.output = [o])
    (hd : drain vc n { s with output := [] } (o :: acc) = .ok R) : drain vc (n + 3) s acc = .ok R := by
  rw [drain, next, fill]
  simp only [ho, List.isEmpty_cons, Bool.not_false, if_true]
  exact drain_mono_le vc _ (o :: acc) (.ok R) nofun n 2 hd

/-! The translation unit of finding F63:

    #define f(x) g(x)
    #define g(x) f(x)
    f(1)
-/

def tId (s : String) : Tok := ⟨.ident, s⟩
def tOp (s : String) : Tok := ⟨.op, s⟩
def tNum (s : String) : Tok := ⟨.num, s⟩

def macroF : Macro := { name := "f", isFn := true, nparams := 1, variadic := false,
                        body := [.raw (tId "g"), .raw (tOp "("), .arg 0, .raw (tOp ")")] }
def macroG : Macro := { name := "g", isFn := true, nparams := 1, variadic := false,
                        body := [.raw (tId "f"), .raw (tOp "("), .arg 0, .raw (tOp ")")] }
def tblFG : List Macro := [macroF, macroG]

/-- the rest of the line after the macro name: `( 1 )`, whose `)` is the last token of the expansion of the macro
    `ending`, then the newline -/
def callTail (ending : String) : List ITok := [⟨tOp "(", []⟩, ⟨tNum "1", []⟩, ⟨tOp ")", [ending]⟩, ⟨nlTok, []⟩]

/-- the two states the machine alternates between -/
def loopG : PP := { input := callTail "f", disabled := ["f"], table := tblFG }     -- about to process `g`
def loopF : PP := { input := callTail "g", disabled := ["g"], table := tblFG }     -- about to process `f`
def startF : PP := { input := [⟨tOp "(", []⟩, ⟨tNum "1", []⟩, ⟨tOp ")", []⟩, ⟨nlTok, []⟩], table := tblFG }

/-! The three steps are runs of the machine on concrete states; only `definedBare` is ever looked at. -/

theorem step_g (vc : XCfg) : processToken vc 12 ⟨tId "g", []⟩ loopG = .ok { loopF with input := ⟨tId "f", []⟩ :: loopF.input } := by
  rcases vc with ⟨a, b⟩
  cases b <;> rfl

theorem step_f (vc : XCfg) : processToken vc 12 ⟨tId "f", []⟩ loopF = .ok { loopG with input := ⟨tId "g", []⟩ :: loopG.input } := by
  rcases vc with ⟨a, b⟩
  cases b <;> rfl

theorem step_start (vc : XCfg) : processToken vc 12 ⟨tId "f", []⟩ startF = .ok { loopG with input := ⟨tId "g", []⟩ :: loopG.input } := by
  rcases vc with ⟨a, b⟩
  cases b <;> rfl

/-- `K` is any amount of fuel that processes `t` to `s'` -/
theorem fill_step (vc : XCfg) (t : ITok) (s s' : PP) (K : Nat) (ho : s.output = [])
    (hk : processToken vc K t s = .ok s') (n : Nat) (h : fill vc n s' = .outOfFuel) :
    fill vc (n + 1) { s with input := t :: s.input } = .outOfFuel := by
  rw [fill_cons vc n t s ho]
  rcases Res.le_cases (fun n => (mono_all vc n).processToken t s) hk n with e | e <;> rw [e]
  exact h

theorem loop_forever (vc : XCfg) : ∀ n,
    fill vc n { loopG with input := ⟨tId "g", []⟩ :: loopG.input } = .outOfFuel ∧
    fill vc n { loopF with input := ⟨tId "f", []⟩ :: loopF.input } = .outOfFuel
  | 0 => ⟨rfl, rfl⟩
  | n + 1 =>
    ⟨fill_step vc _ loopG _ 12 rfl (step_g vc) n (loop_forever vc n).2,
     fill_step vc _ loopF _ 12 rfl (step_f vc) n (loop_forever vc n).1⟩

theorem drain_diverges (vc : XCfg) (s : PP) (acc : List Tok) (h : ∀ n, fill vc n s = .outOfFuel) :
    ∀ n, drain vc n s acc = .outOfFuel
  | 0 | 1 => rfl
  | n + 2 => by rw [drain, next, h n]

theorem expand_fg_diverges (vc : XCfg) (n : Nat) :
    expandLine vc n { table := tblFG } [tId "f", tOp "(", tNum "1", tOp ")"] = .outOfFuel :=
  drain_diverges vc { startF with input := ⟨tId "f", []⟩ :: startF.input } [] (fun
    | 0 => rfl
    | n + 1 => fill_step vc _ startF _ 12 rfl (step_start vc) n (loop_forever vc n).1) n

end Occa.Cpp
