/-
Helper lemmas for C12: the token loop as the relation `Lexes` (no fuel in sight); it returns on every NUL-free text;
separators.
-/
import OccaProofs.Lemmas.LexFrame

namespace Occa.Lex
open Occa.Gen

/-- From `r` the token loop appends the tokens `ts` and adds `n` errors.  Stated for every fuel above `r.length`: each
    `getToken` shortens the text, so a step leaves the fuel above the length of what remains, and the loop's own fuel
    `r.length + 1` is one instance. -/
def Lexes (r : Str) (ts : List Tok) (n : Nat) : Prop :=
  ∀ f, r.length < f → ∀ e a, tokenizeF f r e a = .ok ⟨a.reverse ++ ts, e + n⟩

theorem Lexes.nil : Lexes [] [] 0 := fun f _ e a => by cases f <;> simp [tokenizeF]

theorem Lexes.step {r r' : Str} {tok : Option Tok} {e' : Nat} {ts : List Tok} {n : Nat}
    (hg : getToken r = .ok (tok, e', r')) (hl : r'.length < r.length) (h : Lexes r' ts n) :
    Lexes r (tok.toList ++ ts) (e' + n) := by
  intro f hf e a
  obtain ⟨c, t, rfl⟩ := List.exists_cons_of_ne_nil (List.ne_nil_of_length_pos (Nat.zero_lt_of_lt hl))
  obtain ⟨f, rfl⟩ := Nat.exists_eq_succ_of_ne_zero (Nat.ne_of_gt (Nat.zero_lt_of_lt hf))
  rw [tokenizeF, hg]
  dsimp only
  rw [h f (by omega)]
  cases tok <;> simp [Nat.add_assoc]

theorem Lexes.skip {P X : Str} (hg : getToken (P ++ X) = getToken X) (hP : P ≠ []) (hX : X ≠ []) {ts : List Tok} {n : Nat}
    (h : Lexes X ts n) : Lexes (P ++ X) ts n := by
  intro f hf e a
  have hf' : X.length < f := by rw [List.length_append] at hf; omega
  rw [← h f hf' e a]
  obtain ⟨c, t, hc⟩ := List.exists_cons_of_ne_nil (show P ++ X ≠ [] by simp [hP])
  obtain ⟨d, X', rfl⟩ := List.exists_cons_of_ne_nil hX
  obtain ⟨f, rfl⟩ := Nat.exists_eq_succ_of_ne_zero (Nat.ne_of_gt (Nat.zero_lt_of_lt hf))
  rw [hc] at hg ⊢
  rw [tokenizeF, tokenizeF, hg]

theorem lexes_total (r : Str) (hn : NoNul r) : ∃ ts k, Lexes r ts k := by
  suffices ∀ (n : Nat) (r : Str), r.length ≤ n → NoNul r → ∃ ts k, Lexes r ts k from this _ r (Nat.le_refl _) hn
  intro n
  induction n with
  | zero => intro r h _; rw [List.eq_nil_of_length_eq_zero (Nat.le_zero.mp h)]; exact ⟨_, _, .nil⟩
  | succ n ih =>
    intro r hl hn
    by_cases hr : r = []
    · exact hr ▸ ⟨_, _, .nil⟩
    obtain ⟨⟨tok, e, r'⟩, eg, sg, lg⟩ := getToken_progress r hn hr
    obtain ⟨ts, k, h⟩ := ih r' (by omega) (hn.suffix sg)
    exact ⟨_, _, .step eg lg h⟩

theorem getToken_newline (X : Str) : getToken ('\n' :: X) = .ok (some .newline, 0, X) := by
  have hcl : classifyChar '\n' = .newline := by
    have h1 : '\n' ∉ operatorCharcodes := not_operatorCharcodes (Or.inl (by decide))
    have h2 : '\n' ∉ identifierStart := by decide
    simp [classifyChar, h1, h2]
  rw [getToken_at (by decide) (by decide) (by decide) hcl nofun nofun]
  simp [dispatch]

theorem getToken_skip {c : Char} (hc : IsWs c) (hn : c ≠ '\n') (X : Str) : getToken (c :: X) = getToken X := by
  have : skipWhitespace (c :: X) = skipWhitespace X := by
    unfold skipWhitespace skipFrom
    exact skipUntil_step X (ws_ends_word hc).nb (by simpa using (isWs_iff.mp hc).resolve_left hn)
  simp only [getToken, this]

theorem getToken_nil : getToken [] = .ok (some .newline, 0, []) := rfl

theorem getToken_cont (X : Str) : getToken ('\\' :: '\n' :: X) = getToken X := by
  have : skipWhitespace ('\\' :: '\n' :: X) = skipWhitespace X := by
    unfold skipWhitespace skipFrom
    exact skipUntil_pair X (by decide)
  simp only [getToken, this]

/-- separators: characters of `charcodes::whitespace` and line continuations `\` newline -/
inductive SepWF : Str → Prop
  | nil : SepWF []
  | ws {c : Char} {t : Str} : IsWs c → SepWF t → SepWF (c :: t)
  | cont {t : Str} : SepWF t → SepWF ('\\' :: '\n' :: t)

/-- the newline tokens of a separator that is followed by more text: one per newline that is not part
    of a line continuation -/
def sepMid : Str → List Tok
  | [] => []
  | '\\' :: _ :: t => sepMid t
  | c :: t => if c = '\n' then .newline :: sepMid t else sepMid t

/-- the newline tokens of a separator that ends the source: one per newline, and the end-of-source
    newline when blanks (or a continuation) follow the last newline -/
def sepEnd : Str → List Tok
  | [] => []
  | '\\' :: _ :: t => if t.isEmpty then [.newline] else sepEnd t
  | c :: t => if c = '\n' then .newline :: sepEnd t else if t.isEmpty then [.newline] else sepEnd t

theorem sepMid_newlines (s : Str) : ∀ t ∈ sepMid s, t = .newline := by
  fun_induction sepMid s with
  | case1 => simp
  | case2 _ _ ih => exact ih
  | case3 _ _ ih => simpa using ih
  | case4 _ _ _ _ ih => exact ih

theorem sepEnd_newlines (s : Str) : ∀ t ∈ sepEnd s, t = .newline := by
  fun_induction sepEnd s with
  | case1 => simp
  | case2 => simp
  | case3 _ _ _ ih => exact ih
  | case4 _ _ ih => simpa using ih
  | case5 => simp
  | case6 _ _ _ _ _ ih => exact ih

theorem sepMid_cont (x : Char) (t : Str) : sepMid ('\\' :: x :: t) = sepMid t := by rw [sepMid]
theorem sepMid_ws {c : Char} (hc : c ≠ '\\') (t : Str) :
    sepMid (c :: t) = if c = '\n' then .newline :: sepMid t else sepMid t := by
  rw [sepMid]; intro x t' h; exact absurd h hc
theorem sepEnd_cont (x : Char) (t : Str) : sepEnd ('\\' :: x :: t) = if t.isEmpty then [.newline] else sepEnd t := by
  rw [sepEnd]
theorem sepEnd_ws {c : Char} (hc : c ≠ '\\') (t : Str) :
    sepEnd (c :: t) = if c = '\n' then .newline :: sepEnd t else if t.isEmpty then [.newline] else sepEnd t := by
  rw [sepEnd]; intro x t' h; exact absurd h hc

theorem noNul_sep {sep : Str} (h : SepWF sep) : NoNul sep := by
  induction h with
  | nil => exact fun _ hc => nomatch hc
  | ws hc _ ih => exact noNul_cons (ws_ends_word hc).nn ih
  | cont _ ih => exact noNul_cons (by decide) (noNul_cons (by decide) ih)

theorem Lexes.blank {P : Str} (hg : getToken P = getToken []) (hP : P ≠ []) : Lexes P [.newline] 0 :=
  .step (hg.trans getToken_nil) (List.length_pos_iff.mpr hP) .nil

theorem Lexes.sepMid {sep : Str} (hs : SepWF sep) {R : Str} (hne : R ≠ []) {ts : List Tok} {n : Nat} (h : Lexes R ts n) :
    Lexes (sep ++ R) (sepMid sep ++ ts) n := by
  induction hs with
  | nil => exact h
  | @ws c t hc _ ih =>
    rw [sepMid_ws (ws_ends_word hc).nb]
    by_cases hcn : c = '\n'
    · subst hcn
      simpa using Lexes.step (getToken_newline _) (Nat.lt_succ_self _) ih
    · rw [if_neg hcn]
      exact .skip (P := [c]) (getToken_skip hc hcn _) (by simp) (by simp [hne]) ih
  | @cont t _ ih =>
    rw [sepMid_cont]
    exact .skip (P := ['\\', '\n']) (getToken_cont _) (by simp) (by simp [hne]) ih

theorem Lexes.sepEnd {sep : Str} (hs : SepWF sep) : Lexes sep (sepEnd sep) 0 := by
  induction hs with
  | nil => exact .nil
  | @ws c t hc _ ih =>
    rw [sepEnd_ws (ws_ends_word hc).nb]
    by_cases hcn : c = '\n'
    · subst hcn
      simpa using Lexes.step (getToken_newline _) (Nat.lt_succ_self _) ih
    · rw [if_neg hcn]
      cases t with
      | nil => exact .blank (getToken_skip hc hcn _) (by simp)
      | cons d t => exact .skip (P := [c]) (getToken_skip hc hcn _) (by simp) (by simp) ih
  | @cont t _ ih =>
    rw [sepEnd_cont]
    cases t with
    | nil => exact .blank (getToken_cont _) (by simp)
    | cons d t => exact .skip (P := ['\\', '\n']) (getToken_cont _) (by simp) (by simp) ih

end Occa.Lex
