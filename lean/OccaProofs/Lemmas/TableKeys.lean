/-
That no key occurs twice in a generated table, for the operator tables of the tokenizer (C12) and of the parser (C15).
The kernel compares two numbers in one step and two spellings in hundreds, so the spellings are numbered once, along
the table, and it is the numbers that are compared pair by pair.  Any numbering will do: a spelling that came twice
would bring its number twice.
-/
namespace Occa.TableKeys

def code (s : List Char) : Nat := s.foldl (fun n c => n * 256 + c.toNat) 0

def distinct : List Nat → Bool
  | [] => true
  | a :: l => l.all (a != ·) && distinct l

theorem nodup_of_distinct : ∀ {l : List Nat}, distinct l = true → l.Nodup
  | [], _ => .nil
  | a :: l, h => by
    simp only [distinct, Bool.and_eq_true, List.all_eq_true, bne_iff_ne] at h
    exact List.nodup_cons.2 ⟨fun hm => h.1 a hm rfl, nodup_of_distinct h.2⟩

theorem nodup_of_codes {α : Type} (g : α → Nat) {l : List α} (h : distinct (l.map g) = true) : l.Nodup :=
  List.Pairwise.of_map g (fun _ _ hne e => hne (congrArg g e)) (nodup_of_distinct h)

theorem find?_of_nodup_map {α β : Type} [BEq β] [LawfulBEq β] (f : α → β) :
    ∀ {l : List α}, (l.map f).Nodup → ∀ {a : α}, a ∈ l → l.find? (fun r => f r == f a) = some a
  | b :: l, h, a, ha => by
    rw [List.map_cons, List.nodup_cons] at h
    rw [List.find?_cons]
    rcases List.mem_cons.1 ha with rfl | hm
    · rw [beq_self_eq_true]
    · rw [beq_eq_false_iff_ne.2 fun e : f b = f a => h.1 (e ▸ List.mem_map_of_mem hm)]
      exact find?_of_nodup_map f h.2 hm

end Occa.TableKeys
