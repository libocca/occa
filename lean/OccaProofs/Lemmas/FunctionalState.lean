/-
The state model of C23: views into buffers (`St.read` / `St.write` under `InBounds`), a fresh allocation, element-wise
writes (`mapInto`) as a fold of `List.set`, and from these `array::map` for a known visit list (`mapArr_of_visit`).
-/
import OccaProofs.Lemmas.FunctionalLoops

namespace Occa.Functional

theorem listSetRange_length (xs ys : List Int) (off : Nat) (h : off + ys.length ≤ xs.length) :
    (listSetRange xs off ys).length = xs.length := by
  unfold listSetRange
  simp only [List.length_append, List.length_take, List.length_drop]
  omega

theorem listSetRange_read (xs ys : List Int) (off : Nat) (h : off + ys.length ≤ xs.length) :
    ((listSetRange xs off ys).drop off).take ys.length = ys := by
  unfold listSetRange
  rw [List.append_assoc, List.drop_left' (List.length_take_of_le (by omega)), List.take_left' rfl]

def InBounds (s : St) (a : Arr) : Prop :=
  a.buf < s.bufs.length ∧ a.off + a.len ≤ (s.bufs.getD a.buf []).length

theorem read_length (s : St) (a : Arr) (h : InBounds s a) : (s.read a).length = a.len := by
  unfold St.read
  simp only [List.length_take, List.length_drop]
  have := h.2
  omega

theorem getD_set_self (bufs : List (List Int)) (k : Nat) (v : List Int) (h : k < bufs.length) :
    (bufs.set k v).getD k [] = v := by
  simp [List.getD_eq_getElem?_getD, List.getElem?_set_self h]

theorem getD_set_ne (bufs : List (List Int)) (k j : Nat) (v : List Int) (h : k ≠ j) :
    (bufs.set k v).getD j [] = bufs.getD j [] := by
  simp [List.getD_eq_getElem?_getD, List.getElem?_set_ne h]

theorem read_write_same (s : St) (a : Arr) (ys : List Int) (h : InBounds s a) (hy : ys.length = a.len) :
    (s.write a ys).read a = ys := by
  unfold St.write St.read
  simp only
  rw [getD_set_self _ _ _ h.1, ← hy, List.take_length]
  exact listSetRange_read _ ys a.off (by rw [hy]; exact h.2)

theorem read_write_other (s : St) (a b : Arr) (ys : List Int) (hne : a.buf ≠ b.buf) :
    (s.write a ys).read b = s.read b := by
  unfold St.write St.read
  simp only
  rw [getD_set_ne _ _ _ _ hne]

theorem inBounds_write (s : St) (a b : Arr) (ys : List Int) (ha : InBounds s a) (hy : ys.length = a.len)
    (hb : InBounds s b) : InBounds (s.write a ys) b := by
  unfold InBounds St.write at *
  simp only [List.length_set]
  refine ⟨hb.1, ?_⟩
  by_cases e : a.buf = b.buf
  · rw [← e, getD_set_self _ _ _ ha.1, ← hy, List.take_length, listSetRange_length _ _ _ (by rw [hy]; exact ha.2), e]
    exact hb.2
  · rw [getD_set_ne _ _ _ _ e]
    exact hb.2

/-- element `j` after a sequence of writes `l[i] := g i`: the last write wins, and all writes to `j` store `g j` -/
theorem foldl_set_getElem? (g : Nat → Int) (vis : List Nat) :
    ∀ (l : List Int) (j : Nat),
      (vis.foldl (fun l i => l.set i (g i)) l)[j]? =
        if j ∈ vis then (if j < l.length then some (g j) else none) else l[j]? := by
  induction vis with
  | nil => intro l j; simp
  | cons x t ih =>
    intro l j
    rw [List.foldl_cons, ih, List.length_set, List.getElem?_set]
    by_cases hjx : x = j
    · subst hjx
      simp
    · simp [hjx, Ne.symm hjx]

theorem foldl_set_length (g : Nat → Int) (vis : List Nat) :
    ∀ l : List Int, (vis.foldl (fun l i => l.set i (g i)) l).length = l.length := by
  induction vis with
  | nil => intro l; rfl
  | cons x t ih => intro l; simp only [List.foldl_cons]; rw [ih]; simp

theorem foldl_set_range (g : Nat → Int) (l : List Int) :
    (List.range l.length).foldl (fun l i => l.set i (g i)) l = (List.range l.length).map g := by
  apply List.ext_getElem?
  intro j
  rw [foldl_set_getElem?]
  by_cases hj : j < l.length <;> simp [hj]

theorem mapInto_cons (s : St) (src dst : Arr) (x : Nat) (t : List Nat) (fn : List Int → Nat → Int) :
    mapInto s src dst (x :: t) fn =
      mapInto (if x < dst.len then s.write dst ((s.read dst).set x (fn (s.read src) x)) else s) src dst t fn := rfl

theorem mapInto_read (src dst : Arr) (fn : List Int → Nat → Int) (hne : dst.buf ≠ src.buf) (vis : List Nat) :
    ∀ s : St, InBounds s dst →
      (mapInto s src dst vis fn).read dst = vis.foldl (fun l i => l.set i (fn (s.read src) i)) (s.read dst) ∧
      (mapInto s src dst vis fn).read src = s.read src := by
  induction vis with
  | nil => exact fun _ _ => ⟨rfl, rfl⟩
  | cons x t ih =>
    intro s hb
    have hlen : ((s.read dst).set x (fn (s.read src) x)).length = dst.len := by
      rw [List.length_set]; exact read_length s dst hb
    rw [mapInto_cons, List.foldl_cons]
    split
    · obtain ⟨h1, h2⟩ := ih _ (inBounds_write s dst dst _ hb hlen hb)
      rw [h1, h2, read_write_other s dst src _ hne, read_write_same s dst _ hb hlen]
      exact ⟨rfl, rfl⟩
    · -- a write outside the view changes nothing, in the kernel (guard) as in `List.set`
      rw [List.set_eq_of_length_le (by rw [read_length s dst hb]; omega)]
      exact ih s hb

theorem alloc_props (s : St) (xs : List Int) :
    InBounds (s.alloc xs).1 (s.alloc xs).2 ∧ (s.alloc xs).2.buf = s.bufs.length ∧ (s.alloc xs).2.len = xs.length ∧
    (s.alloc xs).1.read (s.alloc xs).2 = xs ∧
    ∀ a : Arr, a.buf < s.bufs.length → (s.alloc xs).1.read a = s.read a := by
  unfold St.alloc InBounds St.read
  simp only [List.length_append, List.length_cons, List.length_nil]
  have hget : (s.bufs ++ [xs]).getD s.bufs.length [] = xs := by
    simp [List.getD_eq_getElem?_getD]
  refine ⟨⟨by omega, by rw [hget]; omega⟩, trivial, trivial, ?_, ?_⟩
  · rw [hget]; simp
  · intro a ha
    have : (s.bufs ++ [xs]).getD a.buf [] = s.bufs.getD a.buf [] := by
      simp [List.getD_eq_getElem?_getD, List.getElem?_append_left ha]
    rw [this]

theorem mapArr_of_visit (s : St) (src : Arr) (fn : List Int → Nat → Int) (hsrc : src.buf < s.bufs.length)
    (hvis : mapVisit Gen.emptyGuard src.len src.ts src.ti = .ok (forVals 0 src.len 1)) :
    ∃ s' out, mapArr s src fn = .ok (s', out) ∧ out.len = src.len ∧
      s'.read out = (List.range src.len).map (fn (s.read src)) ∧ s'.read src = s.read src := by
  obtain ⟨hb, hbuf, hlen, hread, hkeep⟩ := alloc_props s (List.replicate src.len poison)
  have hv : visit Gen.emptyGuard src = .ok (List.range src.len) := by
    unfold visit
    rw [hvis, forVals_natCast]
    simp only [List.map_map]
    exact congrArg Res.ok (List.map_id _)
  generalize hp : s.alloc (List.replicate src.len poison) = p at *
  obtain ⟨h1, h2⟩ := mapInto_read src p.2 fn (by omega) (List.range src.len) _ hb
  refine ⟨mapInto p.1 src p.2 (List.range src.len) fn, p.2, ?_, by rw [hlen, List.length_replicate], ?_, ?_⟩
  · unfold mapArr mapToArr
    simp only [hp, hv]
  · rw [h1, hkeep src hsrc, hread]
    have := foldl_set_range (fn (s.read src)) (List.replicate src.len poison)
    rwa [List.length_replicate] at this
  · rw [h2, hkeep src hsrc]

end Occa.Functional
