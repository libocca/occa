/-
Helper lemmas for C12: per-kind re-read lemmas — a printed token followed by a separator character is
read back by getToken as exactly that token, leaving the position on the separator.  String and character literals
(and the raw strings of LexRaw) share the treatment of the encoding prefix: `LitPrefix`, `getToken_lit`, `strip_lit`.
-/
import OccaProofs.Lemmas.LexFrame

namespace Occa.Lex
open Occa.Gen

/-- identifiers the tokenizer keeps as identifiers: C identifiers other than the operator words
    (`sizeof`, `new`, …) and the literals `true`, `false` -/
structure IdentWF (w : Str) : Prop where
  start : hd w ∈ identifierStart
  rest : ∀ x ∈ w, x ∈ identifier
  notOp : w ∉ registered
  notTrue : w ≠ ['t', 'r', 'u', 'e']
  notFalse : w ≠ ['f', 'a', 'l', 's', 'e']

theorem IdentWF.word {w : Str} (h : IdentWF w) : Word w := ⟨h.start, h.rest, h.notTrue, h.notFalse⟩

theorem getToken_ident {w : Str} (hw : IdentWF w) {c : Char} (hc : IsWs c) (r : Str) :
    getToken (w ++ c :: r) = .ok (some (.ident w), 0, c :: r) := by
  have he := ws_ends_word hc
  have hk : wordKind w c = .ident := by simp [wordKind, hw.notOp, he.ndq, he.nsq]
  rw [getToken_word hw.word he.nb he.nid, hk]
  obtain ⟨a, t, rfl⟩ := List.exists_cons_of_ne_nil hw.word.ne_nil
  have ha : a ∈ identifierStart := hw.start
  have hg := getIdentifier_word r (fun x hx => hw.rest x (List.mem_cons_of_mem _ hx)) he.nb he.nid ha
  simp only [List.cons_append] at hg
  simp [dispatch, getIdentifierToken, ha, hg]

theorem no_ext_of_ws {sp : Str} {c : Char} (hc : IsWs c) : ∀ sp' ∈ registered, (sp ++ [c]).isPrefixOf sp' = false := by
  intro sp' hm
  cases h : (sp ++ [c]).isPrefixOf sp' with
  | false => rfl
  | true =>
    obtain ⟨t, rfl⟩ := List.isPrefixOf_iff_prefix.mp h
    exact absurd hc (registered_clean hm (c := c) (by simp)).1

theorem startsWith_false_of_sep {p sp : Str} {c : Char} (r : Str) (h : p.isPrefixOf sp = false) (hc : c ∉ p) :
    startsWith p (sp ++ c :: r) = false :=
  Bool.eq_false_iff.mpr fun h' => Bool.eq_false_iff.mp h
    (List.isPrefixOf_iff_prefix.mpr (prefix_of_append_sep (List.isPrefixOf_iff_prefix.mp h') hc))

theorem isPrimitiveAt_op {sp : Str} (hm : sp ∈ registered) {c : Char} (hc : IsWs c) (r : Str) :
    isPrimitiveAt (sp ++ c :: r) = false := by
  obtain ⟨hne, _, ht, hf, hsgn, _⟩ := registered_facts sp hm
  have hl := ws_load hc
  have h1 := startsWith_false_of_sep r ht hl.bool.1
  have h2 := startsWith_false_of_sep r hf hl.bool.2
  have hsa := isSigned_append hne (c :: r)
  refine isPrimitiveAt_of_none ?_
  by_cases hs : isSigned sp = true
  · exact loadF_none_signed _ _ h1 h2 (hsa.trans hs)
  · obtain ⟨hz, hdig⟩ := hsgn.resolve_left hs
    refine loadF_none _ _ _ h1 h2 (hsa.trans (Bool.eq_false_iff.mpr hs)) ?_ fun x hx => ?_
    · rwa [hd_append hne]
    · exact hdig x ((List.takeWhile_sublist _).subset ((takeWhile_append_stop sp r hl.digits.1).1 ▸ hx))

structure OpWF (id : Nat) (sp : Str) : Prop where
  reg : registered[id]? = some sp
  notLine : id ≠ lineCommentId
  notBlock : id ≠ blockCommentId

theorem getOperatorToken_eq {id : Nat} {sp : Str} (h : OpWF id sp) {c : Char} (hc : IsWs c) (r : Str) :
    getOperatorToken (sp ++ c :: r) = .ok (some (.op id), 0, c :: r) := by
  simp [getOperatorToken, longestOp_exact h.reg c r (no_ext_of_ws hc), h.notLine, h.notBlock, adv_append sp (c :: r)]

theorem getToken_op {id : Nat} {sp : Str} (h : OpWF id sp) {c : Char} (hc : IsWs c) (r : Str) :
    getToken (sp ++ c :: r) = .ok (some (.op id), 0, c :: r) := by
  have hm : sp ∈ registered := List.mem_of_getElem? h.reg
  rw [← getOperatorToken_eq h hc r]
  obtain ⟨a, t, rfl⟩ := List.exists_cons_of_ne_nil (registered_nonempty hm)
  by_cases hi : a ∈ identifierStart
  · -- a word operator: the word it begins with is registered too (`sizeof` in `sizeof...`), so
    -- `peekForIdentifier` answers "operator" and `getLongest` then takes the whole spelling
    obtain ⟨_, hclean, -, -, -, hword⟩ := registered_facts _ hm
    have ha : isIdCh a = true := by simpa [isIdCh] using (idStart_facts a hi).1
    have hreg := hword (idStart_wordStart a hi)
    rw [List.takeWhile_cons_of_pos ha] at hreg
    have he := ws_ends_word hc
    obtain ⟨e1, e2⟩ := takeWhile_append_stop (p := isIdCh) t r (by simpa [isIdCh] using he.nid)
    have hb : hd ((t ++ c :: r).dropWhile isIdCh) ≠ '\\' := e2 ▸ hd_append_of_all (P := (· ≠ '\\')) (c :: r)
      (fun y hy => (hclean y (List.mem_cons_of_mem _ ((List.dropWhile_sublist _).subset hy))).2.2.1) he.nb
    rw [List.cons_append, getToken_idStart (x := t ++ c :: r) hi (isPrimitiveAt_op hm hc r) hb, e1]
    simp only [wordKind, List.contains_eq_mem, hreg, decide_true, if_true]
    rfl
  · have hs := Starts.of_registered hm
    have hop : a ∈ operatorCharcodes := mem_operatorCharcodes.mpr ⟨⟨_, hm, rfl⟩, hi⟩
    exact getToken_of_peek hs (peek_op hs (isPrimitiveAt_op hm hc r) (by simp [classifyChar, hi, hop])
      (longestOp_ne_none hm (isPrefixOf_append _ _)))

theorem skipTo_escape {q : Char} (hq : q ≠ '\\') (hn : q ≠ NUL) {v : Str} (h : ValUnits q v) (r : Str) :
    skipTo [q, '\n'] (escape q v ++ q :: r) = .ok (q :: r) :=
  skipUntil_reads r ((escape_units hq hn h).mono (fun c hc => by simp [hc.1, hc.2]) (fun _ h => h)) hq (by simp)

/-- user-defined-literal suffix: empty, or `_` followed by identifier characters -/
def UdfWF (udf : Str) : Prop := udf = [] ∨ ∃ u, udf = '_' :: u ∧ ∀ x ∈ u, x ∈ identifier

theorem getUdf_eq {udf : Str} (h : UdfWF udf) {c : Char} (hc : IsWs c) (r : Str) :
    getUdf (udf ++ c :: r) = .ok (udf, c :: r) := by
  have he := ws_ends_word hc
  rcases h with rfl | ⟨u, rfl, hu⟩
  · simp [getUdf, he.nus]
  · have e := getIdentifier_word r hu he.nb he.nid (a := '_') (by decide)
    simp only [List.cons_append] at e
    simp [getUdf, e]

theorem opener_class : classifyChar '"' = .str 0 ∧ classifyChar '\'' = .chr 0 ∧ classifyChar '/' = .op := by
  have h1 : '"' ∉ operatorCharcodes := not_operatorCharcodes (by simp)
  have h2 : '\'' ∉ operatorCharcodes := not_operatorCharcodes (by simp)
  have h3 : '/' ∈ operatorCharcodes :=
    mem_operatorCharcodes.mpr ⟨⟨_, List.mem_of_getElem? registered_lineComment, rfl⟩, by decide⟩
  have i1 : '"' ∉ identifierStart := by decide
  have i2 : '\'' ∉ identifierStart := by decide
  have i3 : '/' ∉ identifierStart := by decide
  simp [classifyChar, h1, h2, h3, i1, i2, i3]

instance (w : Str) : Decidable (Word w) :=
  decidable_of_iff (hd w ∈ identifierStart ∧ (∀ x ∈ w, x ∈ identifier) ∧ w ≠ ['t', 'r', 'u', 'e'] ∧ w ≠ ['f', 'a', 'l', 's', 'e'])
    ⟨fun ⟨a, b, c, d⟩ => ⟨a, b, c, d⟩, fun ⟨a, b, c, d⟩ => ⟨a, b, c, d⟩⟩

/-- `w` is the encoding prefix of a literal of type `k enc` that opens with the quote `q`: nothing, or a word that
    `peekForIdentifier` takes for the encoding `enc` when `q` follows -/
def LitPrefix (k : Nat → Kind) (q : Char) (enc : Nat) (w : Str) : Prop :=
  (enc = 0 ∧ w = []) ∨ (enc ≠ 0 ∧ Word w ∧ wordKind w q = k enc)

instance (k : Nat → Kind) (q : Char) (enc : Nat) (w : Str) : Decidable (LitPrefix k q enc w) := by
  unfold LitPrefix; infer_instance

/-- the two literal types, each with the quote that opens it -/
inductive Quote : (Nat → Kind) → Char → Prop
  | str : Quote .str '"'
  | chr : Quote .chr '\''

theorem Quote.ends_word {k : Nat → Kind} {q : Char} (hq : Quote k q) : q ≠ '\\' ∧ q ∉ identifier := by
  cases hq <;> decide

section
variable {k : Nat → Kind} {q : Char} {enc : Nat} {w : Str} (hq : Quote k q) (h : LitPrefix k q enc w) (rest : Str)
include hq h

theorem getToken_lit : getToken (w ++ q :: rest) = dispatch (k enc) (w ++ q :: rest) := by
  rcases h with ⟨rfl, rfl⟩ | ⟨_, hw, hk⟩
  · cases hq with
    | str => exact getToken_at (by decide) (by decide) (by decide) opener_class.1 nofun nofun rest
    | chr => exact getToken_at (by decide) (by decide) (by decide) opener_class.2.1 nofun nofun rest
  · rw [getToken_word hw hq.ends_word.1 hq.ends_word.2, hk]

/-- the first step of `getStringToken` and `getCharToken`: the encoding prefix is read as an identifier; `K` is
    the rest of the function, which the `do` block carries in both branches -/
theorem strip_lit {α : Type} (K : Str × Str → M α) :
    (if enc ≠ 0 then getIdentifier (w ++ q :: rest) >>= K else pure ([], w ++ q :: rest) >>= K) = K (w, q :: rest) := by
  rcases h with ⟨rfl, rfl⟩ | ⟨hne, hw, _⟩
  · rfl
  · obtain ⟨a, t, rfl⟩ := List.exists_cons_of_ne_nil hw.ne_nil
    have ha : a ∈ identifierStart := hw.start
    rw [if_pos hne, getIdentifier_word rest (fun x hx => hw.rest x (List.mem_cons_of_mem _ hx)) hq.ends_word.1 hq.ends_word.2 ha]
    rfl

end

theorem getString_body {enc : Nat} (henc : enc &&& encR = 0) {v : Str} (hv : ValUnits '"' v) (rest : Str) :
    getString enc ('"' :: (escape '"' v ++ '"' :: rest)) = .ok (v, true, 0, rest) := by
  have e := skipTo_escape (q := '"') (by decide) (by decide) hv rest
  have hun := unescape_escape (q := '"') (by decide) (by decide) v
  simp [getString, henc, e, consumed_append, hun]

theorem strPrefix_lit : ∀ enc ∈ [0, encu8, encu, encU, encL],
    LitPrefix .str '"' enc (encPrefix enc) ∧ enc &&& encR = 0 := by decide +kernel

theorem chrPrefix_lit : ∀ enc ∈ [0, encu, encU, encL], LitPrefix .chr '\'' enc (charPrefix enc) := by decide +kernel

/-- a string literal (not raw): encoding none/u8/u/U/L, a value from the scanner's range, an optional udf -/
structure StrWF (enc : Nat) (v udf : Str) : Prop where
  enc : enc = 0 ∨ enc ∈ [encu8, encu, encU, encL]
  val : ValUnits '"' v
  udf : UdfWF udf

theorem printTok_str {enc : Nat} (h : enc &&& encR = 0) (v udf : Str) :
    printTok (.str enc v udf) = encPrefix enc ++ '"' :: (escape '"' v ++ '"' :: udf) := by
  simp [printTok, h]

theorem getToken_str {enc : Nat} {v udf : Str} (h : StrWF enc v udf) {c : Char} (hc : IsWs c) (r : Str) :
    getToken (printTok (.str enc v udf) ++ c :: r) = .ok (some (.str enc v udf), 0, c :: r) := by
  obtain ⟨hl, hr0⟩ := strPrefix_lit enc (List.mem_cons.mpr h.enc)
  rw [printTok_str hr0]
  simp only [List.append_assoc, List.cons_append]
  rw [getToken_lit .str hl]
  simp only [dispatch, getStringToken, strip_lit .str hl, ok_bind, hd_cons, getString_body hr0 h.val, getUdf_eq h.udf hc]
  simp

/-- a character literal: encoding none/u/U/L, a value from the scanner's range, an optional udf -/
structure ChrWF (enc : Nat) (v udf : Str) : Prop where
  enc : enc = 0 ∨ enc ∈ [encu, encU, encL]
  val : ValUnits '\'' v
  udf : UdfWF udf

theorem printTok_chr (enc : Nat) (v udf : Str) :
    printTok (.chr enc v udf) = charPrefix enc ++ '\'' :: (escape '\'' v ++ '\'' :: udf) := by
  simp [printTok]

theorem getToken_chr {enc : Nat} {v udf : Str} (h : ChrWF enc v udf) {c : Char} (hc : IsWs c) (r : Str) :
    getToken (printTok (.chr enc v udf) ++ c :: r) = .ok (some (.chr enc v udf), 0, c :: r) := by
  have hl := chrPrefix_lit enc (List.mem_cons.mpr h.enc)
  rw [printTok_chr]
  simp only [List.append_assoc, List.cons_append]
  rw [getToken_lit .chr hl]
  have e := skipTo_escape (q := '\'') (by decide) (by decide) h.val (udf ++ c :: r)
  have hun := unescape_escape (q := '\'') (by decide) (by decide) v
  simp only [dispatch, getCharToken, strip_lit .chr hl, ok_bind, hd_cons, adv_cons_one, e, consumed_append, hun,
    getUdf_eq h.udf hc]
  simp

/-- a line comment: `//` followed by text without a bare newline or a dangling backslash -/
structure LineCommentWF (w : Str) : Prop where
  body : ∃ b, w = '/' :: '/' :: b ∧ Units (fun c => c ≠ '\n' ∧ c ≠ NUL) (fun x => x ≠ NUL) b

/-- a block comment: `/*`, a body in which `*/` does not occur (also not across its end), `*/` -/
structure BlockCommentWF (w : Str) : Prop where
  body : ∃ b, w = '/' :: '*' :: (b ++ ['*', '/']) ∧ hasInfix ['*', '/'] (b ++ ['*']) = false ∧ ∀ x ∈ b, x ≠ NUL

theorem comment_no_ext : ∀ sp ∈ registered, (['/', '/'].isPrefixOf sp = true ∨ ['/', '*'].isPrefixOf sp = true) → sp.length ≤ 2 := by
  decide +kernel

theorem longestOp_comment {id : Nat} {x : Char} (hid : registered[id]? = some ['/', x]) (hx : x = '/' ∨ x = '*')
    (rest : Str) : longestOp ('/' :: x :: rest) = some (id, 2) := by
  refine longestOp_eq hid rest fun sp' hm hp => Nat.le_of_not_lt fun hlt => ?_
  -- a longer match would begin with the comment opener
  have h2 : ['/', x] <+: sp' := List.prefix_of_prefix_length_le ⟨rest, rfl⟩ (List.isPrefixOf_iff_prefix.mp hp) (Nat.le_of_lt hlt)
  have := comment_no_ext sp' hm (by rcases hx with rfl | rfl <;> simp [List.isPrefixOf_iff_prefix.mpr h2])
  exact absurd hlt (Nat.not_lt.mpr this)

theorem comment_ids : longestOp ['/', '/'] = some (lineCommentId, 2) ∧ longestOp ['/', '*'] = some (blockCommentId, 2) :=
  ⟨longestOp_comment registered_lineComment (Or.inl rfl) [], longestOp_comment registered_blockComment (Or.inr rfl) []⟩

theorem comment_frame (x : Char) (hx : x = '/' ∨ x = '*') (rest : Str) :
    getToken ('/' :: x :: rest) = getOperatorToken ('/' :: x :: rest) := by
  have hs : Starts '/' := by decide
  have hp := not_primitive_of_first (a := '/') (x :: rest) (by decide) (by decide)
  have hreg : ['/', x] ∈ registered := by
    rcases hx with rfl | rfl
    · exact List.mem_of_getElem? registered_lineComment
    · exact List.mem_of_getElem? registered_blockComment
  exact getToken_of_peek hs (peek_op hs hp opener_class.2.2 (longestOp_ne_none hreg (isPrefixOf_append _ rest)))

theorem getToken_lineComment {w : Str} (h : LineCommentWF w) (r : Str) :
    getToken (w ++ '\n' :: r) = .ok (some (.comment w), 0, '\n' :: r) := by
  obtain ⟨b, rfl, hb⟩ := h.body
  simp only [List.cons_append]
  rw [comment_frame '/' (Or.inl rfl)]
  have hu : Units (fun c => (c == '\n') = false) (fun x => x ≠ NUL) ('/' :: '/' :: b) :=
    Units.plain (by decide) (by decide) (Units.plain (by decide) (by decide)
      (hb.mono (fun c hc => by simpa using hc.1) (fun _ h => h)))
  have e : skipToChar '\n' ('/' :: '/' :: (b ++ '\n' :: r)) = .ok ('\n' :: r) :=
    skipUntil_reads r hu (by decide) (by decide)
  have hcons := consumed_append ('/' :: '/' :: b) ('\n' :: r)
  simp only [List.cons_append] at hcons
  simp [getOperatorToken, longestOp_comment registered_lineComment (Or.inl rfl), e, hcons]

theorem hasInfix_cons_false {p : Str} {c : Char} {t : Str} (h : hasInfix p (c :: t) = false) :
    p.isPrefixOf (c :: t) = false ∧ hasInfix p t = false := by
  simpa [hasInfix] using h

theorem blockLoop_body (b : Str) (rest : Str) (h : hasInfix ['*', '/'] (b ++ ['*']) = false) :
    blockLoop (b ++ '*' :: '/' :: rest) = .ok rest := by
  induction b with
  | nil => simp [blockLoop]
  | cons x b ih =>
    obtain ⟨h1, h2⟩ := hasInfix_cons_false (by simpa using h)
    rw [List.cons_append, blockLoop]
    by_cases hx : x = '*'
    · subst hx
      have hnext : hd (b ++ '*' :: '/' :: rest) ≠ '/' := by
        cases b with
        | nil => simp
        | cons y b' =>
          intro e
          simp only [List.cons_append, hd_cons] at e
          subst e
          simp [List.isPrefixOf] at h1
      simp only [if_true, rd_cons_one, hnext, if_false]
      exact ih h2
    · simp only [hx, if_false]
      exact ih h2

theorem getToken_blockComment {w : Str} (h : BlockCommentWF w) (r : Str) :
    getToken (w ++ r) = .ok (some (.comment w), 0, r) := by
  obtain ⟨b, rfl, hb, _⟩ := h.body
  simp only [List.cons_append, List.append_assoc]
  rw [comment_frame '*' (Or.inr rfl)]
  have hne : blockCommentId ≠ lineCommentId := by decide
  have hcons := consumed_append ('/' :: '*' :: (b ++ ['*', '/'])) r
  simp only [List.cons_append, List.append_assoc, List.nil_append] at hcons
  simp [getOperatorToken, longestOp_comment registered_blockComment (Or.inr rfl), hne, blockLoop_body b r hb, hcons]

end Occa.Lex
