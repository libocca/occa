/-
Every operation of the model preserves the state invariant `SInv` (with all repairs present), and
what each pool operation does to the memories that stay live (`Preserves`).
-/
import OccaProofs.Lemmas.PoolState

namespace Occa.Pool

/-- every memory live in a pool before is live after, reads back the same bytes, and two bytes are
    the same byte after iff they were before -/
def Preserves (s s' : State) : Prop :=
  ∀ j p p', s.pool j = some p → s'.pool j = some p' → SameContents p p' ∧ SameAliasing p p'

theorem Preserves.of_pools_eq {s s' : State} (h : ∀ j, s'.pool j = s.pool j) : Preserves s s' :=
  lift_of_pools_eq (fun p => ⟨.refl p, .refl p⟩) h

theorem Preserves.refl (s : State) : Preserves s s := .of_pools_eq fun _ => rfl

theorem PoolUpd.preserves {s s' : State} {i : Nat} {p p' : Pool} (u : PoolUpd s s' i (some p'))
    (hp : s.pool i = some p) (hrel : SameContents p p' ∧ SameAliasing p p') : Preserves s s' :=
  u.lift (fun q => ⟨.refl q, .refl q⟩) hp hrel

theorem pool_update {s s' : State} (h : SInv s) {i : Nat} {p p' : Pool} (hp : s.pool i = some p)
    (u : PoolUpd s s' i (some p')) (hnf : s.nextFam ≤ s'.nextFam) (hinv : PInv p')
    (hm : ∀ r' ∈ p'.resv, (r'.fam < s'.nextFam ∧ ∀ m ∈ s.mems, m.slot ≠ r'.slot) ∨
      ∃ r ∈ p.resv, r'.fam = r.fam ∧ r'.slot = r.slot)
    (hdev : DevStep s.dev s'.dev p p') : SInv s' := by
  have key : ∀ r' ∈ p'.resv, r'.fam < s'.nextFam ∧ ∀ m ∈ s.mems, m.slot ≠ r'.slot := by
    intro r' hr'
    rcases hm r' hr' with h1 | ⟨r, hr, hf, hs⟩
    · exact h1
    · rw [hf, hs]
      exact ⟨Nat.lt_of_lt_of_le ((h.pools i p hp).fams r hr) hnf, fun m hm e =>
        findSlot_none.1 (h.cross m hm i p hp) (List.mem_map.2 ⟨r, hr, e.symm⟩)⟩
  refine sinv_poolUpd h (pool_lt hp) u hnf (fun q hq => ?_) hdev.ok (by rw [hp]; exact hdev.bal)
  cases hq
  refine ⟨⟨hinv, fun r hr => (key r hr).1⟩, fun m hm => findSlot_none.2 fun hmem => ?_⟩
  obtain ⟨r', hr', e⟩ := List.mem_map.1 hmem
  exact (key r' hr').2 m hm e.symm

theorem pool_update_same {s : State} (h : SInv s) {i : Nat} {p p' : Pool} (hp : s.pool i = some p)
    (hinv : PInv p') (hsz : p'.size = p.size)
    (hm : ∀ r' ∈ p'.resv, (r'.fam < s.nextFam ∧ ∀ m ∈ s.mems, m.slot ≠ r'.slot) ∨
      ∃ r ∈ p.resv, r'.fam = r.fam ∧ r'.slot = r.slot) : SInv (s.setPool i (some p')) :=
  pool_update h hp (poolUpd_setPool (pool_lt hp) _ _ _) (setPool_nextFam ..).ge hinv
    (by rw [setPool_nextFam]; exact hm) (by rw [setPool_dev]; exact devStep_same h.dev hsz)

/-- the shape the resize, shrink and align steps share -/
theorem poolOp_ok {s : State} (h : SInv s) (i : Nat) (f : Pool → Except Err (Dev × Pool))
    (hf : ∀ p d' p', s.pool i = some p → f p = .ok (d', p') → Repacked p p' ∧ DevStep s.dev d' p p')
    {r : State × Res}
    (hr : r = match s.pool i with
      | none => (s, .badOp)
      | some p =>
        match f p with
        | .ok (d, p1) => ({ s.setPool i (some p1) with dev := d }, .ok)
        | .error .err => (s, .err)
        | .error .trap => (s, .trap)) :
    SInv r.1 ∧ Preserves s r.1 ∧
    ∀ j p p', s.pool j = some p → r.1.pool j = some p' → p'.resv.map (·.slot) = p.resv.map (·.slot) := by
  have same : SInv s ∧ Preserves s s ∧
      ∀ j p p', s.pool j = some p → s.pool j = some p' → p'.resv.map (·.slot) = p.resv.map (·.slot) :=
    ⟨h, .refl s, fun j p p' h1 h2 => by rw [h1] at h2; cases h2; rfl⟩
  subst hr
  cases hp : s.pool i with
  | none => exact same
  | some p =>
    dsimp only
    cases hres : f p with
    | error e => cases e <;> exact same
    | ok dp =>
      obtain ⟨hr, hdev⟩ := hf p dp.1 dp.2 hp hres
      have u := poolUpd_setPool (s := s) (pool_lt hp) (some dp.2) dp.1 (s.setPool i (some dp.2)).nextFam
      exact ⟨pool_update h hp u (setPool_nextFam ..).ge hr.inv (fun r' hr' => .inr (hr.members r' hr')) hdev,
        u.preserves hp hr.packed,
        u.lift (R := fun p p' => p'.resv.map (·.slot) = p.resv.map (·.slot)) (fun _ => rfl) hp hr.slots⟩

theorem step_packing {c : Cfg} (hc : c.Fixed) {s : State} (h : SInv s) {op : Op}
    (hop : (∃ i n, op = .resize i n) ∨ (∃ i, op = .shrink i) ∨ (∃ i a, op = .align i a)) :
    SInv (step c s op).1 ∧ Preserves s (step c s op).1 ∧
    ∀ j p p', s.pool j = some p → (step c s op).1.pool j = some p' →
      p'.resv.map (·.slot) = p.resv.map (·.slot) := by
  have hinv := fun {i p} (hp : s.pool i = some p) => (h.pools i p hp).inv
  rcases hop with ⟨i, n, rfl⟩ | ⟨i, rfl⟩ | ⟨i, a, rfl⟩
  · exact poolOp_ok h i (fun p => p.resize c s.dev n false)
      (fun p _ _ hp hres => resize_repacked hc (hinv hp) h.dev (h.pool_le hp) hres) rfl
  · exact poolOp_ok h i (fun p => p.resize c s.dev p.reserved false)
      (fun p _ _ hp hres => resize_repacked hc (hinv hp) h.dev (h.pool_le hp) hres) rfl
  · exact poolOp_ok h i (fun p => p.setAlignment s.dev a)
      (fun p _ _ hp hres => setAlignment_repacked (hinv hp) h.dev (h.pool_le hp) hres) rfl

theorem slotLive_false_of_not {s : State} {k : Nat} (h : ¬ (k ≥ NSLOT ∨ s.slotLive k = true)) :
    k < NSLOT ∧ s.slotLive k = false := by
  constructor
  · omega
  · cases hl : s.slotLive k with
    | false => rfl
    | true => exact absurd (Or.inr hl) h

/-- the `reserve` step of the harness also fills the new block with its pattern: hence the `readAt` clause -/
theorem step_reserve_ok {c : Cfg} (hc : c.Fixed) {s : State} (h : SInv s) {i k n : Nat} {p : Pool}
    (hp : s.pool i = some p) (hk : k < NSLOT) (hlive : s.slotLive k = false) (hn : 0 < n) :
    (step c s (.reserve i k n)).2 = .ok ∧ SInv (step c s (.reserve i k n)).1 ∧
    Preserves s (step c s (.reserve i k n)).1 ∧
    ∃ p' r, (step c s (.reserve i k n)).1.pool i = some p' ∧ findSlot k p'.resv = some r ∧ r.size = n ∧
      r.fam = s.nextFam ∧ readAt p'.buf r.off r.size = pattern (1000 + s.nextFam) n ∧
      ∀ r' ∈ p'.resv, r'.slot ≠ k → NoShare r r' := by
  have hok := h.pools i p hp
  have hfree := slotLive_false hlive
  obtain ⟨d, p1, hres, hrsv, hdev⟩ :=
    reserve_ok hc hok.inv h.dev (h.pool_le hp) (slot := k) (fam := s.nextFam) hn (hfree.1 i p hp)
  obtain ⟨r, hfr, hrsz, hrfam⟩ := hrsv.new
  have hst : step c s (.reserve i k n) = ({ s.setPool i (some (p1.write r.off (pattern (1000 + s.nextFam) n))) with
      dev := d, nextFam := s.nextFam + 1 }, .ok) := by
    have hbad : ¬ (k ≥ NSLOT ∨ s.slotLive k = true) := by rw [hlive]; simp; exact hk
    simp only [step, hp, if_neg hbad, if_neg (Nat.ne_of_gt hn), hres, hfr]
  rw [hst]
  generalize hpat : pattern (1000 + s.nextFam) n = pat
  have hplen : pat.length = n := by rw [← hpat, length_pattern]
  have hrmem := (findSlot_some hfr).1
  have hrb := hrsv.inv.inBounds hrmem
  have u := poolUpd_setPool (s := s) (pool_lt hp) (some (p1.write r.off pat)) d (s.nextFam + 1)
  -- the new block is the only member of its allocation
  have hns : ∀ r' ∈ p1.resv, r'.slot ≠ k → NoShare r r' := by
    intro r' hr' hne
    apply hrsv.inv.famDisj r hrmem r' hr'
    rcases hrsv.members r' hr' with hnew | ⟨y, hy, hf, _⟩
    · exact absurd hnew.1 hne
    · rw [hrfam, hf]; exact Nat.ne_of_gt (hok.fams y hy)
  refine ⟨rfl, pool_update h hp u (Nat.le_succ _) (write_inv hrsv.inv r.off pat (by omega)) ?_ ⟨hdev.ok, hdev.bal⟩,
    u.preserves hp ⟨?_, hrsv.aliasing⟩, _, r, (u.pool i).trans (if_pos rfl), hfr, hrsz, hrfam, ?_, hns⟩
  · intro r' hr'
    rcases hrsv.members r' hr' with hnew | hold
    · rw [hnew.1, hnew.2]
      exact .inl ⟨Nat.lt_succ_self _, fun m hm => findMem_none hfree.2 m hm⟩
    · exact .inr hold
  · -- filling the new block does not disturb the other memories
    intro k' x hx
    obtain ⟨x', hx', h1, h2, h3⟩ := hrsv.contents k' x hx
    have hx'm := findSlot_some hx'
    refine ⟨x', hx', h1, h2, ?_⟩
    rw [← h3]
    refine write_other hrsv.inv hrmem 0 pat (by omega) (hns x' hx'm.1 ?_)
    rintro rfl
    rw [← hx'm.2, hfree.1 i p hp] at hx; cases hx
  · have := write_reads_back hrsv.inv hrmem 0 pat (by omega)
    rwa [hplen, ← hrsz] at this

theorem step_reserve {c : Cfg} (hc : c.Fixed) {s : State} (h : SInv s) (i k n : Nat) :
    SInv (step c s (.reserve i k n)).1 ∧ Preserves s (step c s (.reserve i k n)).1 := by
  cases hp : s.pool i with
  | none => simp only [step, hp]; exact ⟨h, .refl s⟩
  | some p =>
    by_cases hbad : k ≥ NSLOT ∨ s.slotLive k = true
    · simp only [step, hp, if_pos hbad]; exact ⟨h, .refl s⟩
    by_cases hn : n = 0
    · simp only [step, hp, if_neg hbad, if_pos hn]; exact ⟨h, .refl s⟩
    have hk := slotLive_false_of_not hbad
    obtain ⟨-, hinv, hpres, -⟩ := step_reserve_ok hc h hp hk.1 hk.2 (Nat.pos_of_ne_zero hn)
    exact ⟨hinv, hpres⟩

theorem locateIn_some {i : Nat} {q : Option Pool} {k : Nat} {l : Loc} (h : locateIn i q k = some l) :
    ∃ p r, q = some p ∧ findSlot k p.resv = some r ∧ l = .inPool i p r := by
  unfold locateIn at h
  split at h
  · split at h
    · cases h; exact ⟨_, _, rfl, ‹_›, rfl⟩
    · cases h
  · cases h

theorem locate_cases (s : State) (k : Nat) :
    (∃ i p r, s.locate k = some (.inPool i p r) ∧ s.pool i = some p ∧ findSlot k p.resv = some r) ∨
    (∃ m, s.locate k = some (.inDev m) ∧ findMem k s.mems = some m) ∨
    (s.locate k = none ∧ findMem k s.mems = none) := by
  unfold State.locate
  cases h0 : locateIn 0 s.pool0 k with
  | some l =>
    obtain ⟨p, r, hp, hf, rfl⟩ := locateIn_some h0
    exact .inl ⟨0, p, r, rfl, hp, hf⟩
  | none =>
    cases h1 : locateIn 1 s.pool1 k with
    | some l =>
      obtain ⟨p, r, hp, hf, rfl⟩ := locateIn_some h1
      exact .inl ⟨1, p, r, rfl, hp, hf⟩
    | none =>
      cases findMem k s.mems with
      | some m => exact .inr (.inl ⟨m, rfl, rfl⟩)
      | none => exact .inr (.inr ⟨rfl, rfl⟩)

theorem locate_inPool {s : State} {k i : Nat} {p : Pool} {w : Resv} (h : s.locate k = some (.inPool i p w)) :
    s.pool i = some p ∧ findSlot k p.resv = some w ∧ w ∈ p.resv := by
  rcases locate_cases s k with ⟨i', p', r', hloc, hp, hf⟩ | ⟨m, hloc, _⟩ | hloc
  · rw [hloc] at h
    injection h with h
    injection h with h1 h2 h3
    subst h1; subst h2; subst h3
    exact ⟨hp, hf, (findSlot_some hf).1⟩
  · rw [hloc] at h; injection h with h; cases h
  · rw [hloc.1] at h; cases h

/-- releasing slot `k`: nothing else changes in any pool -/
def ReleaseRel (k : Nat) (s s' : State) : Prop :=
  ∀ j p p', s.pool j = some p → s'.pool j = some p' →
    p'.buf = p.buf ∧ p'.align = p.align ∧ p'.size = p.size ∧
    ∀ k', k' ≠ k → findSlot k' p'.resv = findSlot k' p.resv

theorem ReleaseRel.of_pools_eq {k : Nat} {s s' : State} (h : ∀ j, s'.pool j = s.pool j) : ReleaseRel k s s' :=
  lift_of_pools_eq (fun _ => ⟨rfl, rfl, rfl, fun _ _ => rfl⟩) h

theorem eraseMem_no_slot {k : Nat} {l : List DMem} {m : DMem} (hm : findMem k l = some m)
    (hn : (l.map (·.slot)).Nodup) : ∀ x ∈ eraseMem k l, x.slot ≠ k := by
  rw [((eraseMem_perm hm).map (·.slot)).nodup_iff, List.map_cons, List.nodup_cons] at hn
  exact fun x hx e => hn.1 (List.mem_map.2 ⟨x, hx, e.trans (findMem_some hm).2.symm⟩)

theorem release_inv {c : Cfg} (hc : c.Fixed) {s : State} (h : SInv s) (k : Nat) :
    SInv (s.release c k) ∧ ReleaseRel k s (s.release c k) ∧ ∀ m ∈ (s.release c k).mems, m ∈ s.mems ∧ m.slot ≠ k := by
  rcases locate_cases s k with ⟨i, p, r, hloc, hp, hf⟩ | ⟨m, hloc, hm⟩ | hloc
  · have hok := h.pools i p hp
    have hrs : r.slot = k := (findSlot_some hf).2
    have hst : s.release c k = s.setPool i (some (p.removeRef c r)) := by
      unfold State.release; rw [hloc]
    subst hrs
    rw [hst]
    refine ⟨pool_update_same h hp (removeRef_inv hc.sweepAccumulatesGaps hok.inv hf) rfl
      (fun x hx => .inr ⟨x, (eraseSlot_sublist _ _).subset hx, rfl, rfl⟩), ?_⟩
    refine ⟨(poolUpd_setPool (pool_lt hp) _ _ _).lift (fun _ => ⟨rfl, rfl, rfl, fun _ _ => rfl⟩) hp
      ⟨rfl, rfl, rfl, fun k' hk' => findSlot_eraseSlot_ne hk'.symm _⟩, fun m hm => ?_⟩
    rw [setPool_mems] at hm
    refine ⟨hm, fun e => ?_⟩
    have := h.cross m hm i p hp
    rw [e, hf] at this; cases this
  · have hperm := eraseMem_perm hm
    have hsub := eraseMem_sublist k s.mems
    -- whatever happens to the buffer
    have upd : ∀ bufs' dev', DevOK dev' → dev'.alloc + countedBytes s.bufs = s.dev.alloc + countedBytes bufs' →
        bufs'.Sublist s.bufs → (∀ b ∈ bufs', b.id ≠ m.buf ∨ ∃ y ∈ eraseMem k s.mems, y.buf = m.buf) →
        SInv { s with mems := eraseMem k s.mems, bufs := bufs', dev := dev' } ∧
        ReleaseRel k s { s with mems := eraseMem k s.mems, bufs := bufs', dev := dev' } ∧
        ∀ x ∈ eraseMem k s.mems, x ∈ s.mems ∧ x.slot ≠ k := by
      intro bufs' dev' hd hacc hbs hlive
      refine ⟨sinv_of_pools_eq h (Nat.le_refl _) (pool_congr rfl rfl) hd hacc (h.mems.sublist hbs hsub ?_)
        (fun x hx => h.cross x (hsub.subset hx)),
        .of_pools_eq (pool_congr rfl rfl), fun x hx => ⟨hsub.subset hx, eraseMem_no_slot hm h.mems.memSlots x hx⟩⟩
      intro b hb
      obtain ⟨x, hx, hxb⟩ := h.mems.bufLive b (hbs.subset hb)
      rcases List.mem_cons.1 (hperm.mem_iff.1 hx) with rfl | hx'
      · rcases hlive b hb with hne | ⟨y, hy, hyb⟩
        · exact absurd hxb.symm hne
        · exact ⟨y, hy, hyb.trans hxb⟩
      · exact ⟨x, hx', hxb⟩
    unfold State.release
    rw [hloc]
    simp only []
    split
    · -- other memories still use the buffer
      rename_i hany
      obtain ⟨y, hy, hyb⟩ := List.any_eq_true.1 hany
      exact upd s.bufs s.dev h.dev rfl (List.Sublist.refl _) fun _ _ => .inr ⟨y, hy, by simpa using hyb⟩
    · cases hfb : findBuf m.buf s.bufs with
      | none => exact upd s.bufs s.dev h.dev rfl (List.Sublist.refl _) fun b hb => .inl (findBuf_none hfb b hb)
      | some b =>
        have hb := findBuf_some hfb
        have hbperm := eraseBuf_perm hfb
        have hcb : countedBytes s.bufs = (if b.counted then b.size else 0) + countedBytes (eraseBuf m.buf s.bufs) :=
          countedBytes_perm hbperm
        have hn := h.mems.bufIds
        rw [(hbperm.map (·.id)).nodup_iff, List.map_cons, List.nodup_cons] at hn
        refine upd _ _ ?_ ?_ (eraseBuf_sublist _ _) fun y hy => .inl fun e =>
          hn.1 (List.mem_map.2 ⟨y, hy, by rw [e, hb.2]⟩)
        · split
          · exact h.dev.sub _
          · exact h.dev
        · have hacc := h.account
          cases hcnt : b.counted <;> simp only [hcnt, Bool.false_eq_true, if_false, if_true, Dev.sub_alloc] at hcb ⊢ <;> omega
  · have : s.release c k = s := by unfold State.release; rw [hloc.1]
    rw [this]; exact ⟨h, .of_pools_eq fun _ => rfl, fun m hm => ⟨hm, findMem_none hloc.2 m hm⟩⟩

theorem step_release {c : Cfg} (hc : c.Fixed) {s : State} (h : SInv s) (k : Nat) :
    SInv (step c s (.release k)).1 ∧ ReleaseRel k s (step c s (.release k)).1 := by
  by_cases hl : s.slotLive k = true
  · obtain ⟨hinv, hrel, -⟩ := release_inv hc h k
    simp only [step, if_pos hl]; exact ⟨hinv, hrel⟩
  · simp only [step, if_neg hl]; exact ⟨h, .of_pools_eq fun _ => rfl⟩

theorem sliceBytes_ok {size off : Nat} {cnt : Int} {b : Nat} (h : sliceBytes size off cnt = .ok b) :
    off + b ≤ size := by
  unfold sliceBytes at h
  simp only [] at h
  by_cases h1 : (if cnt = -1 then (size : Int) - off else cnt) < 0
  · rw [if_pos h1] at h; cases h
  · rw [if_neg h1] at h
    by_cases h2 : ¬ ((off : Int) + cnt ≤ size)
    · rw [if_pos h2] at h; cases h
    · rw [if_neg h2] at h
      injection h with hb
      rw [← hb]
      by_cases h3 : cnt = -1
      · rw [if_pos h3] at h1 ⊢; omega
      · rw [if_neg h3] at h1 ⊢; omega

theorem step_slice_pool {c : Cfg} (hc : c.Fixed) {s : State} (h : SInv s) {k j off i bytes : Nat} {cnt : Int}
    {p : Pool} {r x : Resv} (hloc : s.locate j = some (.inPool i p r)) (hp : s.pool i = some p) (hr : r ∈ p.resv)
    (hk : k < NSLOT) (hlive : s.slotLive k = false) (hcnt : -1 ≤ cnt)
    (hsb : sliceBytes r.size off cnt = .ok bytes) (hx : x = ⟨k, r.off + off, bytes, r.fam⟩) :
    step c s (.slice k j off cnt) = (s.setPool i (some (p.addRef c x)), .ok) ∧ off + bytes ≤ r.size ∧
    SInv (s.setPool i (some (p.addRef c x))) ∧ Preserves s (s.setPool i (some (p.addRef c x))) ∧
    findSlot k (p.addRef c x).resv = some x := by
  have hok := h.pools i p hp
  have hfit := sliceBytes_ok hsb
  have hbuf := hok.inv.hasBuf_of_mem hr
  have hfree := slotLive_false hlive
  have hfresh : findSlot x.slot p.resv = none := by rw [hx]; exact hfree.1 i p hp
  have hst : step c s (.slice k j off cnt) = (s.setPool i (some (p.addRef c x)), .ok) := by
    have hbad : ¬ (k ≥ NSLOT ∨ s.slotLive k = true ∨ cnt < -1) := by rw [hlive]; simp; omega
    simp only [step, if_neg hbad, hloc, hsb, slice_ok hbuf, hx]
  have hinv : PInv (p.addRef c x) := by
    refine addRef_inv hc.sweepAccumulatesGaps hok.inv x hfresh ?_ hbuf ?_
    · rw [hx]; exact Nat.le_trans (rup_mono p.align (by show r.off + off + bytes ≤ r.off + r.size; omega)) (hok.inv.bounded r hr)
    · intro y hy hne a ha b hb e
      rw [hx] at hne hb e
      exact hok.inv.famDisj y hy r hr hne a ha (off + b) (by simp only [] at hb; omega) (by simp only [] at e; omega)
  refine ⟨hst, hfit, pool_update_same h hp hinv rfl ?_, (poolUpd_setPool (pool_lt hp) _ _ _).preserves hp
    (addRef_same x hfresh), by rw [← show x.slot = k by rw [hx]]; exact findSlot_insertResv_self hfresh⟩
  intro y hy
  rcases (mem_insertResv _ y _).1 hy with rfl | hy
  · rw [hx]; exact .inl ⟨hok.fams r hr, fun m hm => findMem_none hfree.2 m hm⟩
  · exact .inr ⟨y, hy, rfl, rfl⟩

theorem step_write_pool {c : Cfg} {s : State} {k off len seed i : Nat} {p : Pool} {r : Resv}
    (hloc : s.locate k = some (.inPool i p r)) (hfit : off + len ≤ r.size) :
    step c s (.write k off len seed) = (s.setPool i (some (p.write (r.off + off) (pattern seed len))), .ok) := by
  simp only [step, hloc, if_neg (show ¬ off + len > r.size by omega)]

theorem step_write_pool_err {c : Cfg} {s : State} {k off len seed i : Nat} {p : Pool} {r : Resv}
    (hloc : s.locate k = some (.inPool i p r)) (hfit : r.size < off + len) :
    step c s (.write k off len seed) = (s, .err) := by
  simp only [step, hloc, if_pos (show off + len > r.size by omega)]

theorem pool_write_inv {s : State} (h : SInv s) {i off : Nat} {data : List Byte} {p : Pool} {r : Resv}
    (hp : s.pool i = some p) (hr : r ∈ p.resv) (hfit : off + data.length ≤ r.size) :
    SInv (s.setPool i (some (p.write (r.off + off) data))) := by
  have hinv := (h.pools i p hp).inv
  have hrb := hinv.inBounds hr
  exact pool_update_same h hp (write_inv hinv (r.off + off) data (by omega)) rfl fun y hy => .inr ⟨y, hy, rfl, rfl⟩

theorem sinv_add_mem {s : State} (h : SInv s) {k : Nat} (hk : k < NSLOT) (hlive : s.slotLive k = false)
    (b off n : Nat) : SInv { s with mems := s.mems ++ [⟨k, b, off, n⟩] } := by
  have hfree := slotLive_false hlive
  exact sinv_of_pools_eq h (Nat.le_refl _) (pool_congr rfl rfl) h.dev rfl (h.mems.add_mem hk (findMem_none hfree.2))
    (List.forall_mem_append.2 ⟨h.cross, List.forall_mem_singleton.2 hfree.1⟩)

/-- `device::malloc` and friends: the memory object first, then the buffer it refers to -/
theorem newBuf_inv {s : State} (h : SInv s) {k : Nat} (hk : k < NSLOT) (hlive : s.slotLive k = false)
    (n : Nat) (counted : Bool) (data : List Byte) : SInv (s.newBuf k n counted data) := by
  have h1 := sinv_add_mem h hk hlive s.nextFam 0 n
  refine sinv_of_pools_eq h1 (Nat.le_succ _) (pool_congr rfl rfl) ?_ ?_
    (h1.mems.add_buf rfl ⟨_, List.mem_append_right _ (List.mem_singleton.2 rfl), rfl⟩) h1.cross
  · show DevOK (if counted = true then s.dev.add n else s.dev)
    split
    · exact h.dev.add _
    · exact h.dev
  · show (if counted = true then s.dev.add n else s.dev).alloc + countedBytes s.bufs =
      s.dev.alloc + countedBytes (s.bufs ++ [DBuf.mk s.nextFam n counted data])
    rw [countedBytes_append]
    cases counted <;> simp [countedBytes]; omega

theorem dev_write_inv {s : State} (h : SInv s) (i : Nat) (f : List Byte → List Byte) :
    SInv { s with bufs := setBufData i f s.bufs } := by
  refine sinv_of_pools_eq h (Nat.le_refl _) (pool_congr rfl rfl) h.dev ?_ (h.mems.setBufData i f) h.cross
  show s.dev.alloc + countedBytes s.bufs = s.dev.alloc + countedBytes (setBufData i f s.bufs)
  rw [countedBytes_setBufData]

theorem add_pool_inv {c : Cfg} (hc : c.Fixed) {s : State} (h : SInv s) {i : Nat} (hi : i < 2) (hn : s.pool i = none) :
    SInv (s.setPool i (some { align := c.defaultAlign })) :=
  sinv_poolUpd h hi (poolUpd_setPool hi _ _ _) (setPool_nextFam ..).ge
    (fun q hq => by cases hq; exact ⟨⟨pinv_new hc.defaultAlign_pos, by simp⟩, fun _ _ => rfl⟩)
    (by rw [setPool_dev]; exact h.dev) (by rw [setPool_dev, hn]; rfl)

theorem freePool_inv {s : State} (h : SInv s) (i : Nat) : SInv (s.freePool i) := by
  unfold State.freePool
  cases hp : s.pool i with
  | none => exact h
  | some p =>
    have hf := h.dev.free (h.pools i p hp).inv.size_zero (h.pool_le hp)
    exact sinv_poolUpd h (pool_lt hp) (poolUpd_setPool (pool_lt hp) none (p.free s.dev) _) (setPool_nextFam ..).ge
      (fun q hq => by cases hq) hf.1 (by rw [hp]; exact hf.2)

/-- `freeall` visits the slots in ascending order: before slot `NSLOT - n` is visited no device memory sits below it -/
theorem releaseAllFrom_spec {c : Cfg} (hc : c.Fixed) : ∀ (n : Nat) (s : State), SInv s → n ≤ NSLOT →
    (∀ m ∈ s.mems, NSLOT - n ≤ m.slot) → SInv (releaseAllFrom c s n) ∧ (releaseAllFrom c s n).mems = [] := by
  intro n
  induction n with
  | zero =>
    intro s h _ hlow
    refine ⟨h, List.eq_nil_iff_forall_not_mem.2 fun m hm => ?_⟩
    have := hlow m hm
    have := h.mems.memBelow m hm
    omega
  | succ n ih =>
    intro s h hn hlow
    unfold releaseAllFrom
    by_cases hl : s.slotLive (NSLOT - (n + 1)) = true
    · rw [if_pos hl]
      obtain ⟨hinv, -, hmems⟩ := release_inv hc h (NSLOT - (n + 1))
      refine ih _ hinv (by omega) fun m hm => ?_
      have := hmems m hm
      have := hlow m this.1
      omega
    · rw [if_neg hl]
      refine ih _ h (by omega) fun m hm => ?_
      have h1 := hlow m hm
      have := findMem_none (slotLive_false (Bool.eq_false_iff.2 hl)).2 m hm
      omega

theorem releaseAll_spec {c : Cfg} (hc : c.Fixed) {s : State} (h : SInv s) :
    SInv (releaseAllFrom c s NSLOT) ∧ (releaseAllFrom c s NSLOT).mems = [] :=
  releaseAllFrom_spec hc NSLOT s h (Nat.le_refl _) fun m _ => by omega

/-- the state is unchanged or has got a fresh buffer with one memory object over it, in a free slot -/
def Allocs (s s' : State) : Prop :=
  s' = s ∨ ∃ k n cnt data, k < NSLOT ∧ s.slotLive k = false ∧ s' = s.newBuf k n cnt data

theorem Allocs.ok {s s' : State} (h : SInv s) (a : Allocs s s') : SInv s' ∧ Preserves s s' := by
  rcases a with rfl | ⟨k, n, cnt, data, hk, hl, rfl⟩
  · exact ⟨h, .refl _⟩
  · exact ⟨newBuf_inv h hk hl n cnt data, .of_pools_eq (pool_congr rfl rfl)⟩

/-- the guard that the malloc, mallocsrc, mallochost, wrap and clone steps begin with -/
theorem allocs_guard {s : State} {k : Nat} {f : State × Res}
    (hf : k < NSLOT → s.slotLive k = false → Allocs s f.1) :
    Allocs s (if k ≥ NSLOT ∨ s.slotLive k = true then (s, Res.badOp) else f).1 := by
  split
  · exact .inl rfl
  · rename_i hbad
    exact hf (slotLive_false_of_not hbad).1 (slotLive_false_of_not hbad).2

theorem step_allocs {c : Cfg} (hc : c.Fixed) (s : State) :
    (∀ k n, Allocs s (step c s (.malloc k n)).1) ∧ (∀ k n sd, Allocs s (step c s (.mallocsrc k n sd)).1) ∧
    (∀ k n o sd, Allocs s (step c s (.mallochost k n o sd)).1) ∧ (∀ k n sd, Allocs s (step c s (.wrap k n sd)).1) ∧
    (∀ k j, Allocs s (step c s (.clone k j)).1) := by
  refine ⟨fun k n => ?_, fun k n sd => ?_, fun k n o sd => ?_, fun k n sd => ?_, fun k j => ?_⟩ <;>
    refine allocs_guard fun hk hl => ?_
  · split
    · exact .inl rfl
    · exact .inr ⟨_, _, _, _, hk, hl, rfl⟩
  · split
    · exact .inl rfl
    · exact .inr ⟨_, _, _, _, hk, hl, rfl⟩
  · split
    · exact .inl rfl
    · simp only [hc.hostPtrCounted, if_true]; exact .inr ⟨_, _, _, _, hk, hl, rfl⟩
  · exact .inr ⟨_, _, _, _, hk, hl, rfl⟩
  · split
    · exact .inl rfl
    · split
      · exact .inl rfl
      · exact .inr ⟨_, _, _, _, hk, hl, rfl⟩

theorem step_slice {c : Cfg} (hc : c.Fixed) {s : State} (h : SInv s) (k j off : Nat) (cnt : Int) :
    SInv (step c s (.slice k j off cnt)).1 ∧ Preserves s (step c s (.slice k j off cnt)).1 := by
  by_cases hbad : k ≥ NSLOT ∨ s.slotLive k = true ∨ cnt < -1
  · simp only [step, if_pos hbad]; exact ⟨h, .refl s⟩
  have hk : k < NSLOT ∧ s.slotLive k = false :=
    slotLive_false_of_not (fun hh => hbad (hh.elim Or.inl (fun x => Or.inr (Or.inl x))))
  rcases locate_cases s j with ⟨i, p, r, hloc, hp, hf⟩ | ⟨m, hloc, hm⟩ | hloc
  · cases hsb : sliceBytes r.size off cnt with
    | error e => simp only [step, if_neg hbad, hloc, hsb]; exact ⟨h, .refl s⟩
    | ok bytes =>
      obtain ⟨hst, _, hinv, hpres, _⟩ :=
        step_slice_pool hc h hloc hp (findSlot_some hf).1 hk.1 hk.2 (by omega) hsb rfl
      rw [hst]; exact ⟨hinv, hpres⟩
  · cases hsb : sliceBytes m.size off cnt with
    | error e => simp only [step, if_neg hbad, hloc, hsb]; exact ⟨h, .refl s⟩
    | ok bytes =>
      simp only [step, if_neg hbad, hloc, hsb]
      exact ⟨sinv_add_mem h hk.1 hk.2 _ _ _, .of_pools_eq (pool_congr rfl rfl)⟩
  · simp only [step, if_neg hbad, hloc.1]; exact ⟨h, .refl s⟩

theorem step_write {c : Cfg} {s : State} (h : SInv s) (k off len seed : Nat) :
    SInv (step c s (.write k off len seed)).1 := by
  rcases locate_cases s k with ⟨i, p, r, hloc, hp, hf⟩ | ⟨m, hloc, hm⟩ | hloc
  · rcases Nat.lt_or_ge r.size (off + len) with hfit | hfit
    · rw [step_write_pool_err hloc hfit]; exact h
    · rw [step_write_pool hloc hfit]
      exact pool_write_inv h hp (findSlot_some hf).1 (by rw [length_pattern]; exact hfit)
  · by_cases hfit : off + len > m.size
    · simp only [step, hloc, if_pos hfit]; exact h
    · simp only [step, hloc, if_neg hfit]
      exact dev_write_inv h _ _
  · simp only [step, hloc.1]; exact h

/-- operations after which every memory that was live in a pool is still live with the same
    contents: everything except write, release, pfree, freeall -/
def Op.keepsAll : Op → Bool
  | .write .. => false
  | .release .. => false
  | .pfree .. => false
  | .freeall => false
  | _ => true

theorem step_ok {c : Cfg} (hc : c.Fixed) {s : State} (h : SInv s) (op : Op) :
    SInv (step c s op).1 ∧ (op.keepsAll = true → Preserves s (step c s op).1) := by
  have keep : ∀ {s' : State} {P : Prop}, SInv s' ∧ Preserves s s' → SInv s' ∧ (P → Preserves s s') :=
    fun hs => ⟨hs.1, fun _ => hs.2⟩
  have pack := fun {op : Op} {P : Prop} hop =>
    keep (P := P) ⟨(step_packing hc h (op := op) hop).1, (step_packing hc h hop).2.1⟩
  obtain ⟨hmalloc, hmallocsrc, hmallochost, hwrap, hclone⟩ := step_allocs hc s
  cases op with
  | dev b =>
    by_cases hcond : s.pool0.isNone = true ∧ s.pool1.isNone = true ∧ s.mems.isEmpty = true ∧ s.dev.alloc = 0 ∧ s.dev.maxAlloc = 0
    · simp only [step, if_pos hcond]
      refine ⟨sinv_of_pools_eq h (Nat.le_refl _) (pool_congr rfl rfl) devOK_init ?_ h.mems h.cross,
        fun _ => .of_pools_eq (pool_congr rfl rfl)⟩
      obtain ⟨-, -, -, halloc, -⟩ := hcond
      show (0 : Nat) + countedBytes s.bufs = s.dev.alloc + countedBytes s.bufs
      rw [halloc]
    · simp only [step, if_neg hcond]; exact ⟨h, fun _ => .refl s⟩
  | pool i =>
    by_cases hcond : i < 2 ∧ (s.pool i).isNone = true
    · simp only [step, if_pos hcond]
      have hn : s.pool i = none := Option.isNone_iff_eq_none.1 hcond.2
      refine ⟨add_pool_inv hc h hcond.1 hn, fun _ j p p' h1 h2 => ?_⟩
      rw [pool_setPool hcond.1, if_neg (fun e => by rw [e, hn] at h1; cases h1), h1] at h2
      cases h2; exact ⟨.refl p, .refl p⟩
    · simp only [step, if_neg hcond]; exact ⟨h, fun _ => .refl s⟩
  | pfree i =>
    refine ⟨?_, fun hk => by cases hk⟩
    by_cases hcond : (s.pool i).isSome = true
    · simp only [step, if_pos hcond]; exact freePool_inv h i
    · simp only [step, if_neg hcond]; exact h
  | read k => cases hr : s.readSlot k <;> simp only [step, hr] <;> exact ⟨h, fun _ => .refl s⟩
  | freeall =>
    refine ⟨?_, fun hk => by cases hk⟩
    simp only [step]
    exact freePool_inv (freePool_inv (releaseAll_spec hc h).1 0) 1
  | reserve i k n => exact keep (step_reserve hc h i k n)
  | release k => exact ⟨(step_release hc h k).1, fun hk => by cases hk⟩
  | slice k j off cnt => exact keep (step_slice hc h k j off cnt)
  | resize i n => exact pack (.inl ⟨i, n, rfl⟩)
  | shrink i => exact pack (.inr (.inl ⟨i, rfl⟩))
  | align i a => exact pack (.inr (.inr ⟨i, a, rfl⟩))
  | write k off len seed => exact ⟨step_write h k off len seed, fun hk => by cases hk⟩
  | malloc k n => exact keep ((hmalloc k n).ok h)
  | mallocsrc k n sd => exact keep ((hmallocsrc k n sd).ok h)
  | mallochost k n o sd => exact keep ((hmallochost k n o sd).ok h)
  | wrap k n sd => exact keep ((hwrap k n sd).ok h)
  | clone k j => exact keep ((hclone k j).ok h)

theorem run_inv_from {c : Cfg} (hc : c.Fixed) : ∀ (ops : List Op) (s : State), SInv s →
    SInv (ops.foldl (fun s o => (step c s o).1) s) := by
  intro ops
  induction ops with
  | nil => intro s h; exact h
  | cons o os ih => intro s h; exact ih _ (step_ok hc h o).1

theorem run_inv {c : Cfg} (hc : c.Fixed) (ops : List Op) : SInv (run c ops) :=
  run_inv_from hc ops {} sinv_init

end Occa.Pool
