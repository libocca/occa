/-
First, in one place, what the theorems of C08 / C09 assume of a configuration, a trace and the other processes
(`CfgOK`, `TokFresh`, `FreshOuts`, `CreatedDisjoint`, `Rely`, `EnvOK`) and the other notions their statements use
(`needed`, `runE`).  Then lemmas about the staging discipline (OccaModel/BuildFS.lean): what a step does to the
files map (`applyOp_files`), the discipline read as rules (`Accepted`), the invariant that ties its bookkeeping to
the file system, and the preservation of the invariant and of `Good` by every accepted step, hence along every
accepted trace (`prefix_good`).
-/
import OccaModel.BuildFS

namespace Occa.BuildFS

/-- what the theorems assume about a configuration: distinct temp tokens, producers write correct contents,
    the compiled artefacts are compiled from the right sources -/
structure CfgOK (S : Spec) (c : Config) : Prop where
  toks_inj : ∀ i j, c.toks i = c.toks j → i = j
  v_str : S.valid (c.k "string_source.cpp") c.str = true
  v_raw : S.valid (c.k c.rawBase) c.raw = true
  v_cpp : S.valid (c.k c.cppBase) c.cpp = true
  v_json : S.valid (c.k "build.json") c.json = true
  v_vsrc : S.valid (c.v "findCompilerVendor.cpp") c.vsrc = true
  v_vout : S.valid (c.v "output") c.vout = true
  v_osrc : S.valid (c.o "compilerSupportsOpenMP.cpp") c.osrc = true
  v_oout : S.valid (c.o "output") c.oout = true
  v_ooutNA : S.valid (c.o "output") c.ooutNA = true
  r_kbin : S.recipe (c.k "binary") = some c.cppBase
  r_vbin : S.recipe (c.v "binary") = some "findCompilerVendor.cpp"
  r_vlog : S.recipe (c.v "build.log") = some "findCompilerVendor.cpp"
  r_obin : S.recipe (c.o "binary") = some "compilerSupportsOpenMP.cpp"

/-- a temp name made from one of the configuration's tokens -/
def IsTok (c : Config) (x : Path) : Prop := ∃ i, x.tmp = some (c.toks i)

/-- no file named with one of the configuration's temp tokens is lying around -/
def TokFresh (c : Config) (fs : FS) : Prop := ∀ p, IsTok c p → fs.files p = none

/-- the temp names a step asks the compiler to produce -/
def execOutsOf : Op → List Path
  | .exec _ outs => outs
  | _ => []

/-- the compiler outputs of a trace were not lying around in the initial file system
    (unique temp names: `hash_t::random()`) -/
def FreshOuts (fs0 : FS) (t : Trace) : Prop := ∀ e ∈ t, ∀ o ∈ execOutsOf e.op, fs0.files o = none

/-- the names a step enters into the bookkeeping -/
def created : Op → List Path
  | .creat p => [p]
  | .exec _ outs => outs
  | _ => []

/-- the names the steps of different processes create are different, and none of them is already owned by
    another process ("temp names of different processes are distinct") -/
def CreatedDisjoint (st : AS) (t : Trace) : Prop :=
  ∀ e ∈ t, ∀ p ∈ created e.op,
    (∀ j ts, st p = some (j, ts) → j = e.pid) ∧ (∀ e' ∈ t, e'.pid ≠ e.pid → p ∉ created e'.op)

/-- the artefacts a follow-up build needs in order not to compile anything -/
def needed (c : Config) : List Path :=
  if c.openmp = true then [c.k "binary", c.v "output", c.o "binary", c.o "output"] else [c.k "binary"]

/-- run with interference: before each step of the program the environment transforms the file system
    (`es` = what the other processes do in between, consumed one element per step) -/
def runE (S : Spec) (pid : Nat) {α : Type} : Prog α → List (FS → FS) → FS → Option α × FS × Trace × List (FS → FS)
  | .ret a, es, fs => (some a, fs, [], es)
  | .fail, es, fs => (none, fs, [], es)
  | .act o k, es, fs =>
      let fs1 := (es.headD id) fs
      let r := result fs1 o
      let x := runE S pid (k r) es.tail (applyOp S fs1 o)
      (x.1, x.2.1, ⟨pid, o, r⟩ :: x.2.2.1, x.2.2.2)

/-- what a process relies on: other processes never remove a final-named file and never touch a temp
    name made from one of its tokens -/
def Rely (c : Config) (fs fs1 : FS) : Prop :=
  (∀ q, q.tmp = none → fs.present q = true → fs1.present q = true) ∧
  (∀ q i, q.tmp = some (c.toks i) → fs1.files q = fs.files q)

/-- the interference met along THIS run respects `Rely` (each element of `es` is applied to the state the
    program has reached, so a constant function "the file system now looks like this" is allowed) -/
def EnvOK (S : Spec) (c : Config) {α : Type} : Prog α → List (FS → FS) → FS → Prop
  | .ret _, _, _ => True
  | .fail, _, _ => True
  | .act o k, es, fs =>
      Rely c fs ((es.headD id) fs) ∧
      EnvOK S c (k (result ((es.headD id) fs) o)) es.tail (applyOp S ((es.headD id) fs) o)

@[simp] theorem setFile_files_same (fs : FS) (p : Path) (f : Option File) : (fs.setFile p f).files p = f := by
  simp [FS.setFile]

theorem setFile_files_ne (fs : FS) (p q : Path) (f : Option File) (h : q ≠ p) :
    (fs.setFile p f).files q = fs.files q := by
  simp [FS.setFile, h]

@[simp] theorem setFile_dirs (fs : FS) (p : Path) (f : Option File) : (fs.setFile p f).dirs = fs.dirs := rfl
@[simp] theorem setDir_files (fs : FS) (d : String) (b : Bool) : (fs.setDir d b).files = fs.files := rfl

theorem foldl_setFile_files (g : Path → Option File) (outs : List Path) (fs : FS) (q : Path) :
    (outs.foldl (fun acc o => acc.setFile o (g o)) fs).files q = if q ∈ outs then g q else fs.files q := by
  induction outs generalizing fs with
  | nil => rfl
  | cons o r ih =>
    rw [List.foldl_cons, ih]
    by_cases hr : q ∈ r
    · simp [hr]
    · by_cases hq : q = o
      · subst hq; simp [hr]
      · simp [hr, hq, setFile_files_ne]

def isRmrf : Op → Bool
  | .rmrf _ => true
  | _ => false

/-- the names whose file a step may change -/
def written : Op → List Path
  | .creat p | .append p _ | .close p => [p]
  | .rename a b => [a, b]
  | .exec _ outs => outs
  | _ => []

theorem applyOp_files {S : Spec} {fs : FS} {o : Op} (hr : isRmrf o = false) (q : Path) :
    (applyOp S fs o).files q = fs.files q ∨
      (q ∈ written o ∧ (((applyOp S fs o).files q).isSome = true ∨ ∃ b, o = .rename q b)) := by
  cases o with
  | rmrf d => cases hr
  | statDir | mkdir | fsync | fsyncDir | stat | openRead | run => exact .inl rfl
  | creat p =>
    by_cases h : q = p
    · subst h; exact .inr ⟨.head _, .inl (by simp [applyOp])⟩
    · exact .inl (setFile_files_ne _ _ _ _ h)
  | append p bs | close p =>
    simp only [applyOp]
    split
    · by_cases h : q = p
      · subst h; exact .inr ⟨.head _, .inl (by simp)⟩
      · exact .inl (setFile_files_ne _ _ _ _ h)
    · exact .inl rfl
  | rename a b =>
    simp only [applyOp]
    split
    · by_cases ha : q = a
      · subst ha; exact .inr ⟨.head _, .inr ⟨_, rfl⟩⟩
      · rw [setFile_files_ne _ _ _ _ ha]
        by_cases hb : q = b
        · subst hb; exact .inr ⟨.tail _ (.head _), .inl (by simp)⟩
        · exact .inl (setFile_files_ne _ _ _ _ hb)
    · exact .inl rfl
  | exec src outs =>
    simp only [applyOp]
    split
    · rw [foldl_setFile_files]
      by_cases h : q ∈ outs
      · exact .inr ⟨h, .inl (by simp [h])⟩
      · exact .inl (if_neg h)
    · exact .inl rfl

theorem files_applyOp {S : Spec} {fs : FS} {o : Op} {q : Path} (hr : isRmrf o = false) (hq : q ∉ written o) :
    (applyOp S fs o).files q = fs.files q :=
  (applyOp_files hr q).resolve_right fun h => hq h.1

theorem present_applyOp {S : Spec} {fs : FS} {o : Op} {q : Path} (hr : isRmrf o = false)
    (hq : ∀ a b, o = .rename a b → q ≠ a) (h : fs.present q = true) : (applyOp S fs o).present q = true := by
  rcases applyOp_files (S := S) (fs := fs) hr q with e | ⟨_, e | ⟨b, e⟩⟩
  · unfold FS.present; rw [e]; exact h
  · exact e
  · exact absurd rfl (hq q b e)

theorem isTemp_iff (p : Path) : p.isTemp = true ↔ p.tmp ≠ none := by
  cases h : p.tmp <;> simp [Path.isTemp, h]

theorem not_isTemp_iff (p : Path) : p.isTemp = false ↔ p.tmp = none := by
  cases h : p.tmp <;> simp [Path.isTemp, h]

theorem final_tmp (p : Path) : p.final.tmp = none := rfl
theorem final_dir (p : Path) : p.final.dir = p.dir := rfl
theorem final_base (p : Path) : p.final.base = p.base := rfl

theorem ne_of_temp_final {p q : Path} (hp : p.isTemp = true) (hq : q.tmp = none) : q ≠ p := by
  intro h; subst h; simp [Path.isTemp, hq] at hp

theorem AS.set_same (st : AS) (p : Path) (v : Nat × TS) : (st.set p v) p = some v := by simp [AS.set]
theorem AS.set_ne (st : AS) (p q : Path) (v : Nat × TS) (h : q ≠ p) : (st.set p v) q = st q := by
  simp [AS.set, h]
theorem AS.set_set (st : AS) (p : Path) (v w : Nat × TS) : (st.set p v).set p w = st.set p w := by
  funext q; simp only [AS.set]; split <;> rfl

theorem AS.set_eq_none {st : AS} {p q : Path} {v : Nat × TS} : (st.set p v) q = none ↔ q ≠ p ∧ st q = none := by
  by_cases h : q = p <;> simp [AS.set, h]

/-- the bookkeeping with the entry `v` at every name in `X` (`st.set p v` is the case `X = (· = p)`) -/
def AS.upd (st : AS) (X : Path → Prop) [DecidablePred X] (v : Nat × TS) : AS := fun q => if X q then some v else st q

theorem AS.upd_mem {st : AS} {X : Path → Prop} [DecidablePred X] {v : Nat × TS} {q : Path} (h : X q) : st.upd X v q = some v :=
  if_pos h

theorem AS.upd_set (st : AS) (p : Path) (r : List Path) (v : Nat × TS) :
    (st.set p v).upd (· ∈ r) v = st.upd (· ∈ p :: r) v := by
  funext q
  by_cases hq : q = p <;> simp [AS.upd, AS.set, hq]

/-- the temp name `t` of process `pid` may be renamed onto `p` -/
def Movable (S : Spec) (pid : Nat) (st : AS) (t p : Path) : Prop :=
  (∃ bs, st t = some (pid, .closedW bs) ∧ S.valid p bs = true) ∨ st t = some (pid, .compiled)

theorem Movable.owned {S : Spec} {pid : Nat} {st : AS} {t p : Path} (h : Movable S pid st t p) :
    ∃ ts, st t = some (pid, ts) := by
  rcases h with ⟨bs, h, _⟩ | h <;> exact ⟨_, h⟩

theorem Movable.of_eq {S : Spec} {pid : Nat} {st s : AS} {t p : Path} (h : s t = st t) (hm : Movable S pid st t p) :
    Movable S pid s t p := by
  unfold Movable at *; rw [h]; exact hm

theorem execOuts_spec {S : Spec} {pid : Nat} {src : Path} {outs : List Path} {st st' : AS} :
    execOuts S st pid src outs = some st' ↔
      (∀ o ∈ outs, o.isTemp = true ∧ st o = none ∧ o.dir = src.dir ∧ S.recipe o.final = some src.base) ∧
      outs.Nodup ∧ st' = st.upd (· ∈ outs) (pid, .compiled) := by
  induction outs generalizing st with
  | nil =>
    have : st.upd (· ∈ ([] : List Path)) (pid, .compiled) = st := funext fun q => if_neg List.not_mem_nil
    rw [execOuts, this, Option.some.injEq]
    exact ⟨fun h => ⟨fun _ h => (nomatch h), .nil, h.symm⟩, fun h => h.2.2.symm⟩
  | cons o r ih =>
    rw [execOuts, List.forall_mem_cons, List.nodup_cons]
    split
    · rename_i hc
      simp only [Bool.and_eq_true, decide_eq_true_eq, Option.isNone_iff_eq_none] at hc
      -- the rest is unused after `o` has been entered iff it is unused now and does not contain `o`
      rw [ih, AS.upd_set]
      simp only [AS.set_eq_none]
      constructor
      · intro h
        exact ⟨⟨⟨hc.1.1.1, hc.1.1.2, hc.1.2, hc.2⟩, fun x hx => ⟨(h.1 x hx).1, (h.1 x hx).2.1.2, (h.1 x hx).2.2⟩⟩,
          ⟨fun ho => (h.1 o ho).2.1.1 rfl, h.2.1⟩, h.2.2⟩
      · intro h
        exact ⟨fun x hx => ⟨(h.1.2 x hx).1, ⟨fun e => h.2.1.1 (e ▸ hx), (h.1.2 x hx).2.1⟩, (h.1.2 x hx).2.2⟩, h.2.1.2, h.2.2⟩
    · rename_i hc
      simp only [Bool.and_eq_true, decide_eq_true_eq, Option.isNone_iff_eq_none] at hc
      exact ⟨fun h => (nomatch h), fun h => (hc ⟨⟨⟨h.1.1.1, h.1.1.2.1⟩, h.1.1.2.2.1⟩, h.1.1.2.2.2⟩).elim⟩

/-- `Accepted S st pid o st'`: process `pid` may perform `o` when the bookkeeping is `st`, which becomes `st'` -/
inductive Accepted (S : Spec) (st : AS) (pid : Nat) : Op → AS → Prop
  | statDir (d) : Accepted S st pid (.statDir d) st
  | mkdir (d) : Accepted S st pid (.mkdir d) st
  | fsyncDir (d) : Accepted S st pid (.fsyncDir d) st
  | rmrf (d) : Accepted S st pid (.rmrf d) st
  | fsync {p} : (p.isTemp = true → ownedClosed st pid p = true) → Accepted S st pid (.fsync p) st
  | stat {p} : (p.isTemp = true → owned st pid p = true) → Accepted S st pid (.stat p) st
  | openRead {p} : (p.isTemp = true → ownedClosed st pid p = true) → Accepted S st pid (.openRead p) st
  | run {p} : p.isTemp = false → Accepted S st pid (.run p) st
  | creat {p} : p.isTemp = true → st p = none → Accepted S st pid (.creat p) (st.set p (pid, .opened []))
  | append {p cur} (bs) : st p = some (pid, .opened cur) →
      Accepted S st pid (.append p bs) (st.set p (pid, .opened (cur ++ bs)))
  | close {p cur} : st p = some (pid, .opened cur) → Accepted S st pid (.close p) (st.set p (pid, .closedW cur))
  | rename {a b} : a.isTemp = true → a.final = b → Movable S pid st a b →
      Accepted S st pid (.rename a b) (st.set a (pid, .gone))
  | exec {src outs st'} : src.isTemp = false → execOuts S st pid src outs = some st' →
      Accepted S st pid (.exec src outs) st'

theorem acceptStep_iff {S : Spec} {st st' : AS} {pid : Nat} {o : Op} {r : Bool} :
    acceptStep S st ⟨pid, o, r⟩ = some st' ↔ Accepted S st pid o st' := by
  constructor
  · intro h
    cases o <;> simp only [acceptStep] at h
    case statDir | mkdir | fsyncDir | rmrf => cases h; constructor
    case fsync | stat | openRead =>
      split at h
      · rename_i hc; cases h; constructor; intro ht; simpa [ht] using hc
      · cases h
    case run => split at h <;> cases h; rename_i hc; exact .run (by simpa using hc)
    case creat =>
      split at h <;> cases h
      rename_i hc
      simp only [Bool.and_eq_true, Option.isNone_iff_eq_none] at hc
      exact .creat hc.1 hc.2
    case append p bs =>
      split at h
      · split at h <;> cases h; rename_i o cur hst ho; subst ho; exact .append bs hst
      · cases h
    case close p =>
      split at h
      · split at h <;> cases h; rename_i o cur hst ho; subst ho; exact .close hst
      · cases h
    case rename a b =>
      split at h
      · rename_i hc
        simp only [Bool.and_eq_true, decide_eq_true_eq] at hc
        split at h
        · split at h <;> cases h
          rename_i o bs hst hv
          simp only [Bool.and_eq_true, decide_eq_true_eq] at hv
          obtain ⟨rfl, hv⟩ := hv
          exact .rename hc.1.1 hc.2 (.inl ⟨bs, hst, hv⟩)
        · split at h <;> cases h
          rename_i o hst ho
          subst ho
          exact .rename hc.1.1 hc.2 (.inr hst)
        · cases h
      · cases h
    case exec src outs =>
      split at h
      · rename_i hc; exact .exec (by simpa using hc) h
      · cases h
  · intro h
    cases h with
    | statDir | mkdir | fsyncDir | rmrf => rfl
    | @fsync p hp | @openRead p hp | @stat p hp => cases ht : p.isTemp <;> simp_all [acceptStep]
    | run hp => simp [acceptStep, hp]
    | creat ht hn => simp [acceptStep, ht, hn]
    | append bs hst | close hst => simp [acceptStep, hst]
    | @rename a b ht hfin hm =>
      have hb : b.isTemp = false := hfin ▸ rfl
      rcases hm with ⟨bs, h1, h2⟩ | h1
      · simp [acceptStep, ht, hb, hfin, h1, h2]
      · simp [acceptStep, ht, hb, hfin, h1]
    | exec hs hx => simp [acceptStep, hs, hx]

theorem acceptStep_res (S : Spec) (st : AS) (pid : Nat) (o : Op) (r r' : Bool) :
    acceptStep S st ⟨pid, o, r⟩ = acceptStep S st ⟨pid, o, r'⟩ := by
  cases o <;> rfl

/-- what the discipline's bookkeeping promises about the file behind a temp name
    (the file may have disappeared: `rmrf`, or the rename that consumed it) -/
def TSOk (S : Spec) (p : Path) (ts : TS) (f : Option File) : Prop :=
  match ts with
  | .opened bs => f = none ∨ f = some ⟨bs, false⟩
  | .closedW bs => f = none ∨ f = some ⟨bs, true⟩
  | .compiled => f = none ∨ ∃ b, f = some ⟨b, true⟩ ∧ S.valid p.final b = true
  | .gone => True

/-- `fs0` is the file system the trace started from (it may hold temp-named debris) -/
structure Inv (S : Spec) (fs0 fs : FS) (st : AS) : Prop where
  used : ∀ p o ts, st p = some (o, ts) → p.isTemp = true ∧ TSOk S p ts (fs.files p)
  unused : ∀ p, p.isTemp = true → st p = none → fs.files p = none ∨ fs.files p = fs0.files p

theorem Inv.empty (S : Spec) (fs : FS) : Inv S fs fs AS.empty :=
  ⟨fun p o ts h => by simp [AS.empty] at h, fun _ _ _ => Or.inr rfl⟩

theorem TSOk_none (S : Spec) (p : Path) (ts : TS) : TSOk S p ts none := by
  cases ts <;> simp [TSOk]

section frame
variable {S : Spec} {fs0 fs fs' : FS} {st : AS}

theorem Inv.frame (h : Inv S fs0 fs st) (hfr : ∀ q, q.isTemp = true → fs'.files q = fs.files q ∨ fs'.files q = none) :
    Inv S fs0 fs' st := by
  constructor
  · intro q o ts hq
    obtain ⟨hqt, hok⟩ := h.used q o ts hq
    rcases hfr q hqt with e | e <;> rw [e]
    · exact ⟨hqt, hok⟩
    · exact ⟨hqt, TSOk_none S q ts⟩
  · intro q hq hn
    rcases hfr q hq with e | e <;> rw [e]
    · exact h.unused q hq hn
    · exact Or.inl rfl

theorem Inv.upd (h : Inv S fs0 fs st) {X : Path → Prop} [DecidablePred X] {o : Nat} {ts : TS}
    (hX : ∀ q, X q → q.isTemp = true ∧ TSOk S q ts (fs'.files q))
    (hfr : ∀ q, q.isTemp = true → ¬ X q → fs'.files q = fs.files q) : Inv S fs0 fs' (st.upd X (o, ts)) := by
  constructor
  · intro q o' ts' hq
    unfold AS.upd at hq
    split at hq
    · rename_i hx; cases hq; exact hX q hx
    · rename_i hx
      obtain ⟨hqt, h'⟩ := h.used q o' ts' hq
      exact ⟨hqt, by rwa [hfr q hqt hx]⟩
  · intro q hq hn
    unfold AS.upd at hn
    split at hn
    · cases hn
    · rename_i hx; rw [hfr q hq hx]; exact h.unused q hq hn

theorem Inv.set (h : Inv S fs0 fs st) {p : Path} (hp : p.isTemp = true) {o : Nat} {ts : TS}
    (hfr : ∀ q, q.isTemp = true → q ≠ p → fs'.files q = fs.files q) (hok : TSOk S p ts (fs'.files p)) :
    Inv S fs0 fs' (st.set p (o, ts)) :=
  h.upd (X := (· = p)) (fun _ e => e ▸ ⟨hp, hok⟩) hfr

theorem Good.frame (h : Good S fs) (hfr : ∀ q, q.tmp = none → fs'.files q = fs.files q ∨ fs'.files q = none) :
    Good S fs' := by
  intro q g hq hg
  rcases hfr q hq with e | e <;> rw [e] at hg
  · exact h q g hq hg
  · cases hg

theorem Good.setFile_temp (h : Good S fs) (p : Path) (hp : p.isTemp = true) (f : Option File) :
    Good S (fs.setFile p f) :=
  h.frame fun _ hq => .inl (setFile_files_ne _ _ _ _ (ne_of_temp_final hp hq))

theorem Good.setFile_final (h : Good S fs) (b : Path) (f : File)
    (hc : f.closed = true) (hv : S.valid b f.bytes = true) : Good S (fs.setFile b (some f)) := by
  intro q g hq hg
  by_cases e : q = b
  · subst e
    rw [setFile_files_same] at hg
    cases hg
    exact ⟨hc, hv⟩
  · rw [setFile_files_ne _ _ _ _ e] at hg
    exact h q g hq hg

theorem Movable.file_ok {pid : Nat} {a b : Path} {f : File} (hm : Movable S pid st a b) (hfin : a.final = b)
    (hI : Inv S fs0 fs st) (hfa : fs.files a = some f) : f.closed = true ∧ S.valid b f.bytes = true := by
  rcases hm with ⟨bs, hst, hv⟩ | hst <;> have hok := (hI.used _ _ _ hst).2 <;> rw [hfa] at hok
  · rcases hok with h | h <;> cases h
    exact ⟨rfl, hv⟩
  · rcases hok with h | ⟨bb, h, hv⟩ <;> cases h
    exact ⟨rfl, hfin ▸ hv⟩

end frame

theorem step_preserves {S : Spec} (hS : S.Coherent) {fs0 fs : FS} {st st' : AS} {e : Ev}
    (hI : Inv S fs0 fs st) (hG : Good S fs) (ha : acceptStep S st e = some st')
    (hfresh : ∀ o ∈ execOutsOf e.op, fs0.files o = none) :
    Inv S fs0 (applyOp S fs e.op) st' ∧ Good S (applyOp S fs e.op) := by
  obtain ⟨pid, op, res⟩ := e
  cases acceptStep_iff.1 ha with
  | statDir | fsyncDir | fsync | stat | openRead | run => exact ⟨hI, hG⟩
  | mkdir => exact ⟨⟨hI.used, hI.unused⟩, hG⟩
  | rmrf d =>
    have key : ∀ q, (applyOp S fs (.rmrf d)).files q = fs.files q ∨ (applyOp S fs (.rmrf d)).files q = none := by
      intro q; simp only [applyOp]; split
      · exact .inr rfl
      · exact .inl rfl
    exact ⟨hI.frame fun q _ => key q, hG.frame fun q _ => key q⟩
  | @creat p ht _ =>
    exact ⟨hI.set ht (fun q _ hq => setFile_files_ne _ _ _ _ hq) (.inr (setFile_files_same ..)),
      Good.setFile_temp hG p ht _⟩
  | append _ hst | close hst =>
    -- the file is gone (nothing happens) or holds what the bookkeeping says
    obtain ⟨ht, hok⟩ := hI.used _ _ _ hst
    rcases hok with hn | hs
    · simp only [applyOp, hn]
      exact ⟨hI.set ht (fun _ _ _ => rfl) (hn ▸ .inl rfl), hG⟩
    · simp only [applyOp, hs]
      exact ⟨hI.set ht (fun q _ hq => setFile_files_ne _ _ _ _ hq) (.inr (setFile_files_same ..)),
        Good.setFile_temp hG _ ht _⟩
  | @rename a b hat hfin hm =>
    simp only [applyOp]
    cases hfa : fs.files a with
    | none => exact ⟨hI.set hat (fun _ _ _ => rfl) trivial, hG⟩
    | some f =>
      obtain ⟨hc, hv⟩ := hm.file_ok hfin hI hfa
      have hbn : b.tmp = none := hfin ▸ rfl
      refine ⟨hI.set hat (fun q hq hne => ?_) trivial, Good.setFile_temp (Good.setFile_final hG b f hc hv) a hat _⟩
      rw [setFile_files_ne _ _ _ _ hne, setFile_files_ne _ _ _ _ (ne_of_temp_final hq hbn).symm]
  | @exec src outs _ hsrc hex =>
    obtain ⟨houts, _, rfl⟩ := execOuts_spec.1 hex
    have hsn : src.tmp = none := (not_isTemp_iff src).1 hsrc
    -- at `outs` there is nothing, or what the compiler makes of a correct source
    have key : ∀ q ∈ outs, TSOk S q .compiled ((applyOp S fs (.exec src outs)).files q) := by
      intro q hq
      obtain ⟨hqt, hqn, hqd, hqr⟩ := houts q hq
      simp only [applyOp]
      cases hfs : fs.files src with
      | none => exact .inl ((hI.unused q hqt hqn).elim id fun h => h.trans (hfresh q hq))
      | some f =>
        exact .inr ⟨_, by rw [foldl_setFile_files, if_pos hq], hS src q f.bytes hsn hqr hqd.symm (hG src f hsn hfs).2⟩
    exact ⟨hI.upd (fun q hq => ⟨(houts q hq).1, key q hq⟩) (fun q _ hq => files_applyOp rfl hq),
      hG.frame fun q hq => .inl (files_applyOp rfl fun hqo => by simp [(isTemp_iff q).1 (houts q hqo).1] at hq)⟩

theorem apply_cons (S : Spec) (e : Ev) (t : Trace) (fs : FS) : apply S (e :: t) fs = apply S t (applyOp S fs e.op) := rfl
theorem apply_nil (S : Spec) (fs : FS) : apply S [] fs = fs := rfl
theorem apply_append (S : Spec) (t1 t2 : Trace) (fs : FS) : apply S (t1 ++ t2) fs = apply S t2 (apply S t1 fs) := by
  simp [apply, List.foldl_append]

theorem acceptsFrom_cons {S : Spec} {st st' : AS} {e : Ev} {t : Trace} :
    acceptsFrom S st (e :: t) = some st' ↔ ∃ st1, acceptStep S st e = some st1 ∧ acceptsFrom S st1 t = some st' := by
  simp only [acceptsFrom]
  cases acceptStep S st e <;> simp

theorem acceptsFrom_append {S : Spec} : ∀ (t1 t2 : Trace) (st : AS),
    acceptsFrom S st (t1 ++ t2) = (acceptsFrom S st t1).bind (fun st' => acceptsFrom S st' t2) := by
  intro t1
  induction t1 with
  | nil => intro t2 st; simp [acceptsFrom]
  | cons e t ih =>
    intro t2 st
    simp only [List.cons_append, acceptsFrom]
    cases acceptStep S st e with
    | none => simp
    | some st' => simp [ih]

theorem trace_preserves {S : Spec} (hS : S.Coherent) (fs0 : FS) :
    ∀ (t : Trace) (fs : FS) (st st' : AS), Inv S fs0 fs st → Good S fs → acceptsFrom S st t = some st' →
      FreshOuts fs0 t → Inv S fs0 (apply S t fs) st' ∧ Good S (apply S t fs) := by
  intro t
  induction t with
  | nil => intro fs st st' hI hG ha _; cases ha; exact ⟨hI, hG⟩
  | cons e t ih =>
    intro fs st st' hI hG ha hf
    obtain ⟨st1, hstep, ha⟩ := acceptsFrom_cons.1 ha
    obtain ⟨hI1, hG1⟩ := step_preserves hS hI hG hstep (hf e (List.mem_cons_self ..))
    exact ih _ _ _ hI1 hG1 ha (fun e' he' => hf e' (List.mem_cons_of_mem _ he'))

/-- cut an accepted trace anywhere: every final-named file is complete and correct, whatever number of
    processes the steps belong to -/
theorem prefix_good {S : Spec} (hS : S.Coherent) {fs0 : FS} {t1 t2 : Trace} (hG : Good S fs0)
    (ha : accepts S (t1 ++ t2) = true) (hf : FreshOuts fs0 (t1 ++ t2)) : Good S (apply S t1 fs0) := by
  unfold accepts at ha
  rw [acceptsFrom_append] at ha
  cases h1 : acceptsFrom S AS.empty t1 with
  | none => rw [h1] at ha; cases ha
  | some st1 =>
    exact (trace_preserves hS fs0 t1 fs0 AS.empty st1 (Inv.empty S fs0) hG h1
      (fun e he => hf e (List.mem_append_left _ he))).2

theorem noRmrf_cons (e : Ev) (t : Trace) : noRmrf (e :: t) = (!isRmrf e.op && noRmrf t) := by
  obtain ⟨_, o, _⟩ := e
  cases o <;> rfl

theorem step_keeps_finals {S : Spec} {st st' : AS} {e : Ev} {fs : FS} (ha : acceptStep S st e = some st')
    (hr : isRmrf e.op = false) {p : Path} (hp : p.tmp = none) (h : fs.present p = true) :
    (applyOp S fs e.op).present p = true := by
  refine present_applyOp hr (fun a b he => ?_) h
  obtain ⟨pid, o, r⟩ := e
  subst he
  cases acceptStep_iff.1 ha with
  | rename hat _ _ => exact ne_of_temp_final hat hp

theorem Prog.pure_bind {α β : Type} (a : α) (f : α → Prog β) : pure a >>= f = f a := rfl

theorem Prog.bind_ret {α : Type} (m : Prog α) : m >>= Prog.ret = m := by
  induction m with
  | ret a => rfl
  | fail => rfl
  | act o k ih => exact congrArg (Prog.act o) (funext ih)

theorem run_isTrace {S : Spec} {pid : Nat} {α : Type} (m : Prog α) (fs : FS) : IsTrace pid m (run S pid m fs).2.2 := by
  induction m generalizing fs with
  | ret a => exact IsTrace.nil _
  | fail => exact IsTrace.nil _
  | act o k ih =>
    simp only [run]
    exact IsTrace.act o k _ _ (ih _ _)

theorem run_apply {S : Spec} {pid : Nat} {α : Type} (m : Prog α) (fs : FS) : (run S pid m fs).2.1 = apply S (run S pid m fs).2.2 fs := by
  induction m generalizing fs with
  | ret a => rfl
  | fail => rfl
  | act o k ih =>
    simp only [run, apply_cons]
    exact ih _ _

end Occa.BuildFS
