/-
Lemmas about the association lists of the trie's specification (OccaModel/Trie.lean).  `specAdd` and
`specRemove` are each described twice, through `lookup` with no hypothesis (what the specification
means: `lookup_specAdd`, `lookup_specRemove`) and through the position function `idxOf` (core's
`List.findIdx?`, `idxOf_eq_findIdx?`) on lists with distinct keys (`NodupKeys`; what the representation invariant is stated in: `idxOf_append_new`,
`idxOf_map_update`, `idxOf_eraseIdx`); neither description gives the other.  `specRun` on histories that
end in an `add` or consist of `add`s.  Core Lean only.
-/
import OccaModel.Trie

namespace Occa.Trie
variable {α V : Type} [DecidableEq α]

/-- position of the first entry with key `k` -/
def idxOf (k : List α) : List (List α × V) → Option Nat
  | [] => none
  | (k', _) :: r => if k = k' then some 0 else (idxOf k r).map (· + 1)

def NodupKeys (M : List (List α × V)) : Prop := (M.map (·.1)).Nodup

theorem idxOf_eq_findIdx? (k : List α) (M : List (List α × V)) :
    idxOf k M = M.findIdx? fun e => k = e.1 := by
  induction M with
  | nil => rfl
  | cons e r ih => simp only [idxOf, List.findIdx?_cons, ih, decide_eq_true_eq]

theorem idxOf_getElem {k : List α} {M : List (List α × V)} {i : Nat} (h : idxOf k M = some i) :
    ∃ v, M[i]? = some (k, v) := by
  obtain ⟨hi, hk, _⟩ := List.findIdx?_eq_some_iff_getElem.mp (idxOf_eq_findIdx? k M ▸ h)
  exact ⟨M[i].2, by rw [List.getElem?_eq_getElem hi, of_decide_eq_true hk]⟩

theorem idxOf_lt {k : List α} {M : List (List α × V)} {i : Nat} (h : idxOf k M = some i) : i < M.length := by
  obtain ⟨v, hv⟩ := idxOf_getElem h
  exact (List.getElem?_eq_some_iff.mp hv).1

theorem idxOf_isSome_iff {k : List α} {M : List (List α × V)} : (idxOf k M).isSome ↔ k ∈ M.map (·.1) := by
  simp only [idxOf_eq_findIdx?, List.findIdx?_isSome, List.any_eq_true, decide_eq_true_eq, List.mem_map]
  exact ⟨fun ⟨e, he, h⟩ => ⟨e, he, h.symm⟩, fun ⟨e, he, h⟩ => ⟨e, he, h.symm⟩⟩

theorem idxOf_eq_none_iff {k : List α} {M : List (List α × V)} : idxOf k M = none ↔ k ∉ M.map (·.1) := by
  rw [← idxOf_isSome_iff]; cases idxOf k M <;> simp

theorem lookup_eq_idxOf (k : List α) (M : List (List α × V)) :
    lookup k M = (idxOf k M).bind fun i => (M.map (·.2))[i]? := by
  induction M with
  | nil => rfl
  | cons e r ih =>
    simp only [lookup, idxOf, ih]
    split
    · rfl
    · cases idxOf k r <;> rfl

theorem lookup_isSome_eq (k : List α) (M : List (List α × V)) : (lookup k M).isSome = (idxOf k M).isSome := by
  rw [lookup_eq_idxOf]
  cases h : idxOf k M with
  | none => rfl
  | some i => simpa using idxOf_lt h

theorem lookup_eq_none_iff {k : List α} {M : List (List α × V)} : lookup k M = none ↔ k ∉ M.map (·.1) := by
  rw [← idxOf_isSome_iff, ← lookup_isSome_eq]; cases lookup k M <;> simp

omit [DecidableEq α] in
theorem nodupKeys_cons {e : List α × V} {r : List (List α × V)} :
    NodupKeys (e :: r) ↔ e.1 ∉ r.map (·.1) ∧ NodupKeys r := List.nodup_cons

theorem lookup_map_update (M : List (List α × V)) (k k' : List α) (v : V) :
    lookup k' (M.map fun e => if e.1 = k then (k, v) else e) =
      if k' = k then (lookup k M).map fun _ => v else lookup k' M := by
  induction M with
  | nil => simp [lookup]
  | cons e r ih =>
    simp only [List.map_cons, lookup, ih]
    by_cases h1 : k = e.1
    · subst h1; by_cases h2 : k' = e.1 <;> simp [h2]
    · by_cases h2 : k' = k <;> simp [h1, Ne.symm h1, h2]

theorem lookup_specAdd (M : List (List α × V)) (k k' : List α) (v : V) :
    lookup k' (specAdd M k v) = if k' = k then some v else lookup k' M := by
  unfold specAdd
  split
  · next h =>
    obtain ⟨x, hx⟩ := Option.isSome_iff_exists.mp h
    rw [lookup_map_update, hx]; rfl
  · next h =>
    induction M with
    | nil => rfl
    | cons e r ih =>
      simp only [lookup, List.cons_append] at h ⊢
      split at h
      · cases h rfl
      · next h1 => rw [ih h]; by_cases h2 : k' = k <;> simp [h1, h2]

theorem specAdd_absent {k : List α} {M : List (List α × V)} (h : idxOf k M = none) (v : V) :
    specAdd M k v = M ++ [(k, v)] := by
  unfold specAdd; rw [lookup_isSome_eq, h]; rfl

theorem specAdd_present {k : List α} {M : List (List α × V)} {i : Nat} (h : idxOf k M = some i) (v : V) :
    specAdd M k v = M.map fun e => if e.1 = k then (k, v) else e := by
  unfold specAdd; rw [lookup_isSome_eq, h]; rfl

theorem idxOf_append_new {k k' : List α} {v : V} {M : List (List α × V)} (hk : idxOf k M = none) :
    idxOf k' (M ++ [(k, v)]) = if k' = k then some M.length else idxOf k' M := by
  rw [idxOf_eq_findIdx?, List.findIdx?_append, ← idxOf_eq_findIdx?, List.findIdx?_singleton]
  by_cases h : k' = k
  · simp [h, hk]
  · simp [h]

theorem idxOf_map_update {k k' : List α} {v : V} {M : List (List α × V)} :
    idxOf k' (M.map fun e => if e.1 = k then (k, v) else e) = idxOf k' M := by
  rw [idxOf_eq_findIdx?, List.findIdx?_map, idxOf_eq_findIdx?]
  congr 1
  funext e
  simp only [Function.comp]
  split <;> simp [*]

theorem keys_map_update {k : List α} {v : V} {M : List (List α × V)} :
    (M.map fun e => if e.1 = k then (k, v) else e).map (·.1) = M.map (·.1) := by
  rw [List.map_map]
  apply List.map_congr_left
  intro e _
  simp only [Function.comp]
  split
  · next h => exact h.symm
  · rfl

theorem values_map_update {k : List α} {v : V} {M : List (List α × V)} {i : Nat}
    (hn : NodupKeys M) (hi : idxOf k M = some i) :
    (M.map fun e => if e.1 = k then (k, v) else e).map (·.2) = (M.map (·.2)).set i v := by
  induction M generalizing i with
  | nil => cases hi
  | cons e r ih =>
    rw [nodupKeys_cons] at hn
    simp only [idxOf] at hi
    split at hi
    · next h =>
      -- no other entry has key `k`
      cases hi; subst h
      have : ∀ e' ∈ r, ¬ e'.1 = e.1 := fun e' he' h => hn.1 (h ▸ List.mem_map_of_mem he')
      simp only [List.map_cons, if_true, List.set_cons_zero]
      rw [List.map_congr_left fun e' he' => if_neg (this e' he'), List.map_id']
    · next h =>
      obtain ⟨j, hj, rfl⟩ := Option.map_eq_some_iff.mp hi
      simp only [List.map_cons, Ne.symm h, if_false, List.set_cons_succ, ih hn.2 hj]

theorem nodupKeys_specAdd {M : List (List α × V)} (hn : NodupKeys M) (k : List α) (v : V) :
    NodupKeys (specAdd M k v) := by
  unfold specAdd NodupKeys
  split
  · rw [keys_map_update]; exact hn
  · next h =>
    rw [Option.not_isSome_iff_eq_none, lookup_eq_none_iff] at h
    rw [List.map_append, List.nodup_append]
    refine ⟨hn, by simp, fun a ha b hb e => ?_⟩
    rw [List.map_singleton, List.mem_singleton] at hb
    subst hb e; exact h ha

/-- `lookup` and `find` are the same search of an association list at two types; `g` is either, given by its
    two equations -/
theorem assoc_filter_ne {κ γ : Type} [DecidableEq κ] (g : κ → List (κ × γ) → Option γ) (hnil : ∀ a, g a [] = none)
    (hcons : ∀ a p r, g a (p :: r) = if a = p.1 then some p.2 else g a r) (a a' : κ) (l : List (κ × γ)) :
    g a' (l.filter fun p => p.1 ≠ a) = if a' = a then none else g a' l := by
  induction l with
  | nil => rw [List.filter_nil, hnil, ite_self]
  | cons p r ih =>
    by_cases h1 : p.1 = a
    · rw [List.filter_cons_of_neg (by simpa using h1), ih, hcons]
      subst h1; split <;> simp [*]
    · rw [List.filter_cons_of_pos (by simpa using h1), hcons, hcons, ih]
      by_cases h2 : a' = p.1
      · simp [h2, h1]
      · simp [h2]

theorem lookup_specRemove (M : List (List α × V)) (k k' : List α) :
    lookup k' (specRemove M k) = if k' = k then none else lookup k' M :=
  assoc_filter_ne (fun k M => lookup k M) (fun _ => rfl) (fun _ _ _ => rfl) k k' M

theorem specRemove_of_absent {k : List α} {M : List (List α × V)} (h : idxOf k M = none) : specRemove M k = M := by
  rw [idxOf_eq_none_iff] at h
  apply List.filter_eq_self.mpr
  intro e he
  simpa using fun (heq : e.1 = k) => h (heq ▸ List.mem_map_of_mem he)

theorem specRemove_eq_eraseIdx {k : List α} {M : List (List α × V)} {i : Nat}
    (hn : NodupKeys M) (hi : idxOf k M = some i) : specRemove M k = M.eraseIdx i := by
  induction M generalizing i with
  | nil => cases hi
  | cons e r ih =>
    rw [nodupKeys_cons] at hn
    simp only [idxOf] at hi
    split at hi
    · next h =>
      cases hi; subst h
      exact (List.filter_cons_of_neg (by simp)).trans (specRemove_of_absent (idxOf_eq_none_iff.mpr hn.1))
    · next h =>
      obtain ⟨j, hj, rfl⟩ := Option.map_eq_some_iff.mp hi
      exact (List.filter_cons_of_pos (by simpa using Ne.symm h)).trans (congrArg _ (ih hn.2 hj))

/-- what `decrementIndex` does to one index -/
def decIdx (vi i : Nat) : Nat := if i > vi then i - 1 else i

theorem decIdx_succ (j a : Nat) : decIdx (j + 1) (a + 1) = decIdx j a + 1 := by
  unfold decIdx
  by_cases h : a > j
  · rw [if_pos h, if_pos (Nat.succ_lt_succ h), Nat.add_sub_cancel, Nat.sub_add_cancel (Nat.zero_lt_of_lt h)]
  · rw [if_neg h, if_neg fun h' => h (Nat.lt_of_succ_lt_succ h')]

theorem idxOf_eraseIdx {k k' : List α} {M : List (List α × V)} {i : Nat}
    (hn : NodupKeys M) (hi : idxOf k M = some i) :
    idxOf k' (M.eraseIdx i) = if k' = k then none else (idxOf k' M).map (decIdx i) := by
  induction M generalizing i with
  | nil => cases hi
  | cons e r ih =>
    rw [nodupKeys_cons] at hn
    simp only [idxOf] at hi ⊢
    split at hi
    · next h =>
      cases hi; subst h
      rw [List.eraseIdx_cons_zero]
      split
      · next h1 => rw [h1, idxOf_eq_none_iff.mpr hn.1]
      · cases idxOf k' r <;> rfl
    · next h =>
      obtain ⟨j, hj, rfl⟩ := Option.map_eq_some_iff.mp hi
      rw [List.eraseIdx_cons_succ, idxOf, ih hn.2 hj]
      by_cases h2 : k' = k
      · rw [if_pos h2, if_pos h2, h2, if_neg h]; rfl
      · rw [if_neg h2, if_neg h2]
        split
        · rfl
        · rw [Option.map_map, Option.map_map]
          exact congrArg (Option.map · _) (funext fun a => (decIdx_succ j a).symm)

theorem map_eraseIdx {β γ : Type} (f : β → γ) (l : List β) (i : Nat) :
    (l.eraseIdx i).map f = (l.map f).eraseIdx i := by
  induction l generalizing i with
  | nil => rfl
  | cons a r ih => cases i <;> simp [ih]

set_option linter.unusedSectionVars false in
theorem nodupKeys_eraseIdx {M : List (List α × V)} (hn : NodupKeys M) (i : Nat) : NodupKeys (M.eraseIdx i) := by
  unfold NodupKeys at hn ⊢
  exact List.Nodup.sublist ((List.eraseIdx_sublist M i).map _) hn

theorem specRun_append_add (M : List (List α × V)) (ops : List (Op α V)) (k : List α) (v : V) :
    specRun M (ops ++ [.add k v]) = specAdd (specRun M ops) k v := by
  induction ops generalizing M with
  | nil => rfl
  | cons op ops ih => exact ih _

theorem specRun_add_table (table M : List (List α × V)) (hn : ((M ++ table).map (·.1)).Nodup) :
    specRun M (table.map fun e => Op.add e.1 e.2) = M ++ table := by
  induction table generalizing M with
  | nil => exact (List.append_nil M).symm
  | cons e r ih =>
    have hk : idxOf e.1 M = none := idxOf_eq_none_iff.mpr fun hm =>
      (List.nodup_append.mp (List.map_append ▸ hn)).2.2 _ hm _ List.mem_cons_self rfl
    show specRun (specAdd M e.1 e.2) _ = _
    rw [specAdd_absent hk, ih _ (by rwa [List.append_assoc]), List.append_assoc]
    rfl

end Occa.Trie
