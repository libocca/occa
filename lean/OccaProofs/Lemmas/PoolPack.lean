/-
resize / setAlignment of the pool: they preserve the invariant `PInv`, the contents and the aliasing of every live
memory (`Repacked`; resize with all repairs present, `Cfg.Fixed`) and make a `DevStep`.
-/
import OccaProofs.Lemmas.PoolInv
import OccaProofs.Lemmas.PoolDev

namespace Occa.Pool
open Finset

theorem forall2_findSlot {R : Resv → Resv → Prop} {l l' : List Resv} (h : List.Forall₂ R l l')
    (hs : ∀ x y, R x y → y.slot = x.slot) {k : Nat} {r : Resv} (hr : findSlot k l = some r) :
    ∃ r', findSlot k l' = some r' ∧ R r r' := by
  induction h with
  | nil => simp [findSlot] at hr
  | @cons x y xs ys hxy _ ih =>
    unfold findSlot at hr ⊢
    rw [hs x y hxy]
    split at hr
    · rename_i hk
      cases hr
      rw [if_pos hk]
      exact ⟨y, rfl, hxy⟩
    · rename_i hk
      rw [if_neg hk]
      exact ih hr

theorem forall2_map_slot {R : Resv → Resv → Prop} {l l' : List Resv} (h : List.Forall₂ R l l')
    (hs : ∀ x y, R x y → y.slot = x.slot) : l'.map (·.slot) = l.map (·.slot) := by
  induction h with
  | nil => rfl
  | cons hxy _ ih => simp [hs _ _ hxy, ih]

/-- the sweep moves the memories without mixing them -/
structure PackedFrom (p p' : Pool) : Prop where
  contents : SameContents p p'
  aliasing : SameAliasing p p'
  famDisj : ∀ r ∈ p'.resv, ∀ r' ∈ p'.resv, r.fam ≠ r'.fam → NoShare r r'
  nodup : (p'.resv.map (·.slot)).Nodup
  buflen : p'.buf.length = p'.size

theorem packed_of_sweep {p : Pool} (h : PInv p) {a : Nat} (ha : 0 < a) {st : Nat → Nat} (hst : BlockStart a st)
    {m : Resv} {ms : List Resv} (hl : p.resv = m :: ms) (newSize : Nat)
    (hfit : (sweep a st m ms).total ≤ newSize) (p' : Pool)
    (hresv : p'.resv = (sweep a st m ms).resv)
    (hbuf : p'.buf = applyCopies p.buf (sweep a st m ms).copies (zeros newSize))
    (hsize : p'.size = newSize) : PackedFrom p p' := by
  have hsort : OffSorted (m :: ms) := hl ▸ h.sorted
  have spec := sweep_swept ha hst m ms hsort
  have hin : ∀ c ∈ (sweep a st m ms).copies,
      c.dst + c.len ≤ (zeros newSize).length ∧ c.src + c.len ≤ p.buf.length := by
    intro c hc
    rw [length_zeros, h.buflen]
    refine ⟨Nat.le_trans (spec.bound c hc) hfit, ?_⟩
    exact spec.srcBound p.size (fun x hx => h.inBounds (hl ▸ hx)) c hc
  have hslot : ∀ x y, Moved (sweep a st m ms).copies x y → y.slot = x.slot := fun _ _ hm => hm.slot_eq
  have hmoved : List.Forall₂ (Moved (sweep a st m ms).copies) p.resv p'.resv := by
    rw [hl, hresv]; exact spec.moved
  refine {
    contents := ?contents
    aliasing := ?aliasing
    famDisj := ?famDisj
    nodup := by rw [forall2_map_slot hmoved hslot]; exact h.nodup
    buflen := by rw [hbuf, (applyCopies_spec _ _ _ spec.ordered hin).1, length_zeros, hsize] }
  case contents =>
    intro k r hr
    obtain ⟨r', hr', hm⟩ := forall2_findSlot hmoved hslot hr
    refine ⟨r', hr', hm.size_eq, hm.fam_eq, ?_⟩
    rw [hbuf]
    exact moved_reads_same spec.ordered hin hm
  case aliasing =>
    intro k₁ k₂ r₁ r₂ r₁' r₂' h1 h2 h1' h2' i j hi hj
    obtain ⟨x₁, hx₁, hm₁⟩ := forall2_findSlot hmoved hslot h1
    obtain ⟨x₂, hx₂, hm₂⟩ := forall2_findSlot hmoved hslot h2
    rw [hx₁] at h1'; rw [hx₂] at h2'; cases h1'; cases h2'
    exact moved_same_position spec.ordered hm₁ hm₂ i j hi hj
  case famDisj =>
    intro r hr r' hr' hne
    obtain ⟨x, hx, hmx⟩ := forall2_mem_right hmoved r hr
    obtain ⟨x', hx', hmx'⟩ := forall2_mem_right hmoved r' hr'
    have hne' : x.fam ≠ x'.fam := by rw [← hmx.fam_eq, ← hmx'.fam_eq]; exact hne
    have hold := h.famDisj x hx x' hx' hne'
    intro i hi j hj e
    have hi' : i < x.size := by rw [← hmx.size_eq]; exact hi
    have hj' : j < x'.size := by rw [← hmx'.size_eq]; exact hj
    exact hold i hi' j hj' ((moved_same_position spec.ordered hmx hmx' i j hi' hj').1 e)

/-- `p'` holds the memories of `p`, each with its slot, allocation and bytes (what resize, shrinkToFit
    and setAlignment have in common) -/
structure Repacked (p p' : Pool) : Prop where
  inv : PInv p'
  packed : SameContents p p' ∧ SameAliasing p p'
  slots : p'.resv.map (·.slot) = p.resv.map (·.slot)
  members : ∀ r' ∈ p'.resv, ∃ r ∈ p.resv, r'.fam = r.fam ∧ r'.slot = r.slot

theorem Repacked.refl {p : Pool} (h : PInv p) : Repacked p p :=
  ⟨h, ⟨.refl p, .refl p⟩, rfl, fun r hr => ⟨r, hr, rfl, rfl⟩⟩

/-- the pool that the block sweep leaves, with the alignment and the block start as variables
    (resize: the pool's alignment, blocks on aligned spans; setAlignment: the new alignment, raw blocks) -/
theorem repacked_of_sweep {p : Pool} (h : PInv p) {a : Nat} (ha : 0 < a) {st : Nat → Nat} (hst : BlockStart a st)
    {m : Resv} {ms : List Resv} (hl : p.resv = m :: ms) {newSize : Nat}
    (hfit : (sweep a st m ms).total ≤ newSize) {p' : Pool}
    (hp' : p' = { p with align := a, resv := (sweep a st m ms).resv,
                         buf := applyCopies p.buf (sweep a st m ms).copies (zeros newSize), size := newSize,
                         reserved := (sweep a st m ms).total }) :
    Repacked p p' ∧ ∀ r ∈ p'.resv, r.off + r.size ≤ p'.reserved := by
  have pk := packed_of_sweep h ha hst hl newSize hfit p' (by rw [hp']) (by rw [hp']) (by rw [hp'])
  subst hp'
  have hsort : OffSorted (m :: ms) := hl ▸ h.sorted
  have spec := sweep_swept ha hst m ms hsort
  refine ⟨{
    inv := {
      apos := ha
      sorted := spec.sorted
      bounded := fun r hr => Nat.le_trans (rup_le_of_dvd ha spec.dvd (spec.below r hr)) hfit
      buflen := pk.buflen
      reserved_eq := spec.layout.symm
      famDisj := pk.famDisj
      nodup := pk.nodup
      hasBuf := .inl (h.hasBuf_of_cons hl) }
    packed := ⟨pk.contents, pk.aliasing⟩
    slots := hl ▸ forall2_map_slot spec.moved (fun _ _ hm => hm.slot_eq)
    members := fun r' hr' => ?_ }, spec.below⟩
  obtain ⟨x, hx, hm⟩ := forall2_mem_right spec.moved r' hr'
  exact ⟨x, hl ▸ hx, hm.fam_eq, hm.slot_eq⟩

/-- what a resize that really re-allocates establishes -/
structure Resized (p p' : Pool) (bytes : Nat) : Prop where
  inv : PInv p'
  packed : SameContents p p' ∧ SameAliasing p p'
  align : p'.align = p.align
  size : p'.size = rup p.align bytes
  reserved : p'.reserved = p.reserved
  hasBuf : p'.hasBuf = true
  below : ∀ r ∈ p'.resv, r.off + r.size ≤ p'.reserved
  slots : p'.resv.map (·.slot) = p.resv.map (·.slot)
  members : ∀ r' ∈ p'.resv, ∃ r ∈ p.resv, r'.fam = r.fam ∧ r'.slot = r.slot

/-- every outcome in one statement: `Pool.resize` is unfolded once -/
theorem resize_total {c : Cfg} {d : Dev} {p : Pool} (bytes : Nat) (pack : Bool) :
    (bytes < p.reserved → p.resize c d bytes pack = .error .err) ∧
    (p.reserved ≤ bytes → PInv p → ∃ d' p', p.resize c d bytes pack = .ok (d', p') ∧
      (c.Fixed → DevOK d → p.size ≤ d.alloc → DevStep d d' p p' ∧
        ((p.size = bytes ∧ pack = false ∧ p' = p ∧ d' = d) ∨
          (¬ (p.size = bytes ∧ pack = false) ∧ Resized p p' bytes)))) := by
  unfold Pool.resize
  refine ⟨fun hlt => if_pos (Nat.not_le.2 hlt), fun hge h => ?_⟩
  rw [if_neg (not_not_intro hge)]
  by_cases hearly : p.size = bytes ∧ pack = false
  · rw [if_pos hearly]
    exact ⟨d, p, rfl, fun _ hd _ => ⟨devStep_same hd rfl, .inl ⟨hearly.1, hearly.2, rfl, rfl⟩⟩⟩
  rw [if_neg hearly]
  have hab := le_rup h.apos bytes
  split
  · rename_i hl
    exact ⟨_, _, rfl, fun _ hd hle => ⟨devStep_free_add hd h.size_zero hle rfl, .inr ⟨hearly, {
      inv := .of_nil h.apos hl (by rw [h.reserved_eq, hl, measure_nil]) (length_zeros _) (.inl rfl)
      packed := same_of_nil hl _
      align := rfl, size := rfl, reserved := rfl, hasBuf := rfl
      below := fun r hr => by rw [show _ = p.resv from rfl, hl] at hr; cases hr
      slots := rfl
      members := fun r hr => ⟨r, hr, rfl, rfl⟩ }⟩⟩⟩
  · rename_i m ms hl
    rw [if_neg (by simp [h.hasBuf_of_cons hl])]
    refine ⟨_, _, rfl, fun hc hd hle => ?_⟩
    rw [show resizeStart c p.align = rdn p.align from if_pos hc.resizeBlocksAligned]
    have htot : (sweep p.align (rdn p.align) m ms).total = p.reserved := by
      rw [sweep_total_eq_old_measure h.apos m ms (hl ▸ h.sorted), h.reserved_eq, hl]
    obtain ⟨hr, hbelow⟩ := repacked_of_sweep h h.apos (blockStart_rdn h.apos) hl
      (newSize := rup p.align bytes) (by omega) rfl
    exact ⟨devStep_realloc hd hle rfl, .inr ⟨hearly,
      { hr with align := rfl, size := rfl, reserved := htot, hasBuf := h.hasBuf_of_cons hl, below := hbelow }⟩⟩

theorem resize_succeeds {c : Cfg} {d : Dev} {p : Pool} (h : PInv p) {bytes : Nat} (pack : Bool)
    (hle : p.reserved ≤ bytes) : ∃ dp, p.resize c d bytes pack = .ok dp :=
  have ⟨_, _, he, _⟩ := (resize_total (c := c) (d := d) bytes pack).2 hle h
  ⟨_, he⟩

theorem resize_err_is_err {c : Cfg} {d : Dev} {p : Pool} (h : PInv p) {bytes : Nat} {pack : Bool}
    {e : Err} (he : p.resize c d bytes pack = .error e) : e = .err := by
  rcases Nat.lt_or_ge bytes p.reserved with hlt | hge
  · rw [(resize_total bytes pack).1 hlt] at he; cases he; rfl
  · obtain ⟨_, _, he', _⟩ := (resize_total (c := c) (d := d) bytes pack).2 hge h
    rw [he'] at he; cases he

theorem resize_repacked {c : Cfg} (hc : c.Fixed) {d d' : Dev} {p p' : Pool} (h : PInv p) (hd : DevOK d)
    (hle : p.size ≤ d.alloc) {bytes : Nat} {pack : Bool} (hres : p.resize c d bytes pack = .ok (d', p')) :
    Repacked p p' ∧ DevStep d d' p p' := by
  rcases Nat.lt_or_ge bytes p.reserved with hlt | hge
  · rw [(resize_total bytes pack).1 hlt] at hres; cases hres
  obtain ⟨_, _, he, hok⟩ := (resize_total (c := c) (d := d) bytes pack).2 hge h
  rw [he] at hres; cases hres
  obtain ⟨hdev, ⟨-, -, rfl, -⟩ | ⟨-, hr⟩⟩ := hok hc hd hle
  · exact ⟨.refl h, hdev⟩
  · exact ⟨{ hr with }, hdev⟩

structure Realigned (p p' : Pool) (na : Nat) : Prop where
  inv : PInv p'
  packed : SameContents p p' ∧ SameAliasing p p'
  align : p'.align = na
  slots : p'.resv.map (·.slot) = p.resv.map (·.slot)
  members : ∀ r' ∈ p'.resv, ∃ r ∈ p.resv, r'.fam = r.fam ∧ r'.slot = r.slot
  size : p.resv = [] → p'.size = p.size

/-- every outcome in one statement: `Pool.setAlignment` is unfolded once -/
theorem setAlignment_total {d : Dev} {p : Pool} (h : PInv p) (na : Nat) :
    (na = 0 ∧ p.setAlignment d na = .error .err) ∨
    (0 < na ∧ ∃ d' p', p.setAlignment d na = .ok (d', p') ∧
      (DevOK d → p.size ≤ d.alloc → Realigned p p' na ∧ DevStep d d' p p')) := by
  unfold Pool.setAlignment
  by_cases hna : na = 0
  · exact .inl ⟨hna, if_pos hna⟩
  have hna' : 0 < na := Nat.pos_of_ne_zero hna
  refine .inr ⟨hna', ?_⟩
  rw [if_neg hna]
  have same := Repacked.refl h
  by_cases hsame : p.align = na
  · rw [if_pos hsame]
    exact ⟨d, p, rfl, fun hd _ => ⟨{ same with align := hsame, size := fun _ => rfl }, devStep_same hd rfl⟩⟩
  rw [if_neg hsame]
  split
  · rename_i hnil
    have hinv := PInv.of_nil (p := { p with align := na }) hna' hnil (by rw [h.reserved_eq, hnil, measure_nil]) h.buflen
      (h.hasBuf.imp_right (·.2))
    exact ⟨_, _, rfl, fun hd _ => ⟨{ same with inv := hinv, align := rfl, size := fun _ => rfl }, devStep_same hd rfl⟩⟩
  · rename_i m ms hl
    rw [if_neg (by simp [h.hasBuf_of_cons hl])]
    obtain ⟨hr, _⟩ := repacked_of_sweep h hna' blockStart_id hl (Nat.le_refl _) rfl
    exact ⟨_, _, rfl, fun hd hle => ⟨{ hr with align := rfl, size := fun hn => by rw [hl] at hn; cases hn },
      devStep_realloc hd hle rfl⟩⟩

theorem setAlignment_err {d : Dev} {p : Pool} (h : PInv p) {na : Nat} {e : Err}
    (he : p.setAlignment d na = .error e) : e = .err ∧ na = 0 := by
  rcases setAlignment_total (d := d) h na with ⟨h0, he'⟩ | ⟨_, _, _, he', _⟩ <;> rw [he'] at he <;> cases he
  exact ⟨rfl, h0⟩

theorem setAlignment_repacked {d d' : Dev} {p p' : Pool} (h : PInv p) (hd : DevOK d) (hle : p.size ≤ d.alloc)
    {na : Nat} (hres : p.setAlignment d na = .ok (d', p')) : Repacked p p' ∧ DevStep d d' p p' := by
  rcases setAlignment_total (d := d) h na with ⟨_, he⟩ | ⟨_, _, _, he, hok⟩ <;> rw [he] at hres <;> cases hres
  have hr := hok hd hle
  exact ⟨{ hr.1 with }, hr.2⟩

end Occa.Pool
