/-
The pointer-level ring code of gc.tpp (`Links`, `RingP.addRef`, `RingP.removeRef` of OccaModel/Gc.lean)
refines the list operations `Ring.add` / `Ring.remove` that the handle model uses.

`WF L r l`: the entries of ring `r` in ring order (from `head`, following `rightRingEntry`) are exactly
the list `l`: `head` is the first element, no entry occurs twice, consecutive entries are linked both
ways and the last one is linked back to the first.
-/
import OccaProofs.Lemmas.GcList

namespace Occa.Gc.RingRefine
open Occa.Gc

variable {α : Type} [DecidableEq α]

/-- a doubly linked path `a → t₁ → … → tₙ → z` -/
def Chain (L : Links α) : α → List α → α → Prop
  | a, [], z => L.right a = z ∧ L.left z = a
  | a, x :: t, z => L.right a = x ∧ L.left x = a ∧ Chain L x t z

/-- a closed cycle through the entries of the list -/
def Cyc (L : Links α) : List α → Prop
  | [] => True
  | h :: t => Chain L h t h

def WF (L : Links α) (r : RingP α) (l : List α) : Prop :=
  r.head = l.head? ∧ l.Nodup ∧ Cyc L l

/-- an entry that is in no ring (after the `ringEntry_t` constructor, or after `removeRef`) -/
def Unlinked (L : Links α) (e : α) : Prop := L.left e = e ∧ L.right e = e

section
omit [DecidableEq α]

theorem chain_append (L : Links α) (t1 : List α) : ∀ (a x : α) (t2 : List α) (z : α),
    Chain L a (t1 ++ x :: t2) z ↔ Chain L a t1 x ∧ Chain L x t2 z := by
  induction t1 with
  | nil => exact fun a x t2 z => and_assoc.symm
  | cons y t1 ih =>
    intro a x t2 z
    simp only [List.cons_append, Chain, ih, and_assoc]

theorem chain_congr {L L' : Links α} {t : List α} : ∀ {a z : α},
    (∀ y ∈ a :: t, L'.right y = L.right y) → (∀ y ∈ t ++ [z], L'.left y = L.left y) →
    Chain L a t z → Chain L' a t z := by
  induction t with
  | nil => exact fun hr hl h => ⟨(hr _ (.head _)).trans h.1, (hl _ (.head _)).trans h.2⟩
  | cons x t ih =>
    exact fun hr hl h => ⟨(hr _ (.head _)).trans h.1, (hl _ (.head _)).trans h.2.1,
      ih (fun y hy => hr y (.tail _ hy)) (fun y hy => hl y (.tail _ hy)) h.2.2⟩

theorem chain_right_mem {L : Links α} {t : List α} : ∀ {a z : α}, Chain L a t z →
    ∀ e ∈ a :: t, L.right e ∈ t ++ [z] := by
  induction t with
  | nil => exact fun h => List.forall_mem_cons.mpr ⟨h.1 ▸ .head _, nofun⟩
  | cons x t ih =>
    exact fun h => List.forall_mem_cons.mpr ⟨h.1 ▸ .head _, fun e he => .tail _ (ih h.2.2 e he)⟩

theorem chain_left_mem {L : Links α} {t : List α} : ∀ {a z : α}, Chain L a t z →
    ∀ e ∈ t ++ [z], L.left e ∈ a :: t := by
  induction t with
  | nil => exact fun h => List.forall_mem_cons.mpr ⟨h.2 ▸ .head _, nofun⟩
  | cons x t ih =>
    exact fun h => List.forall_mem_cons.mpr ⟨h.2.1 ▸ .head _, fun e he => .tail _ (ih h.2.2 e he)⟩

theorem mem_snoc {x h : α} {t : List α} : x ∈ t ++ [h] ↔ x ∈ h :: t :=
  (List.perm_append_singleton h t).mem_iff

theorem cyc_rotate (L : Links α) (l1 l2 : List α) (h : Cyc L (l1 ++ l2)) : Cyc L (l2 ++ l1) := by
  cases l1 with
  | nil => rwa [List.append_nil]
  | cons x t1 =>
    cases l2 with
    | nil => rwa [List.append_nil] at h
    | cons y t2 => exact (chain_append L t2 y x t1 y).mpr ((chain_append L t1 x y t2 x).mp h).symm

theorem walk_chain (L : Links α) (t : List α) : ∀ (a z : α), Chain L a t z →
    L.walk (t.length + 1) a = a :: t := by
  induction t with
  | nil => exact fun _ _ _ => rfl
  | cons x t ih => exact fun a z h => congrArg (a :: ·) (h.1 ▸ ih x z h.2.2)

/-- the rings of different objects live in one link space: an operation on one ring does not disturb
    another ring whose entries are different -/
theorem WF_frame {L L' : Links α} {r2 : RingP α} {l2 : List α} (hw : WF L r2 l2)
    (hf : ∀ x ∈ l2, L'.left x = L.left x ∧ L'.right x = L.right x) : WF L' r2 l2 := by
  refine ⟨hw.1, hw.2.1, ?_⟩
  cases l2 with
  | nil => trivial
  | cons h t =>
    exact chain_congr (fun y hy => (hf y hy).2)
      (fun y hy => (hf y (mem_snoc.mp hy)).1) hw.2.2

theorem needsFree_iff {L : Links α} {r : RingP α} {l : List α} (hw : WF L r l) :
    r.needsFree = true ↔ (l = [] ∧ r.useRefs = true) := by
  obtain ⟨hh, _, _⟩ := hw
  unfold RingP.needsFree
  cases l with
  | nil => simp [hh]
  | cons h t => simp [hh]

end

theorem WF.neighbours {L : Links α} {r : RingP α} {l : List α} {e : α} (hw : WF L r l) (he : e ∈ l) :
    L.left e ∈ l ∧ L.right e ∈ l := by
  cases l with
  | nil => cases he
  | cons h t =>
    exact ⟨chain_left_mem hw.2.2 e (mem_snoc.mpr he), mem_snoc.mp (chain_right_mem hw.2.2 e he)⟩

/-- redirecting the end of a chain from `z` to `z'`: of the links the chain rests on, only the `right` link
    of its last entry `L.left z` changes -/
theorem chain_retarget {L L' : Links α} {z z' : α} {t : List α} : ∀ {a : α}, (a :: t).Nodup →
    Chain L a t z → (∀ y ∈ a :: t, L'.right y = if y = L.left z then z' else L.right y) →
    (∀ y ∈ t, L'.left y = L.left y) → L'.left z' = L.left z → Chain L' a t z' := by
  induction t with
  | nil => exact fun _ h hr _ hz => ⟨by rw [hr _ (.head _), h.2, if_pos rfl], hz.trans h.2⟩
  | cons x t ih =>
    intro a hn h hr hl hz
    have ha : a ≠ L.left z :=
      fun e => (List.nodup_cons.mp hn).1 (e ▸ chain_left_mem h.2.2 z (List.mem_append_right t (.head _)))
    exact ⟨by rw [hr a (.head _), if_neg ha, h.1], (hl x (.head _)).trans h.2.1,
      ih (List.nodup_cons.mp hn).2 h.2.2 (fun y hy => hr y (.tail _ hy))
        (fun y hy => hl y (.tail _ hy)) hz⟩

theorem unlink_right (L : Links α) (e : α) (hne : L.left e ≠ e) (y : α) :
    (L.unlink e).right y = if y = e then e else if y = L.left e then L.right e else L.right y := by
  simp only [Links.unlink, hne, ne_eq, not_false_eq_true, if_true, upd_apply]

theorem unlink_left (L : Links α) (e : α) (hne : L.left e ≠ e) (y : α) :
    (L.unlink e).left y = if y = e then e else if y = L.right e then L.left e else L.left y := by
  simp only [Links.unlink, hne, ne_eq, not_false_eq_true, if_true, upd_apply, if_neg (Ne.symm hne)]

theorem unlink_unlinked (L : Links α) (e : α) : Unlinked (L.unlink e) e :=
  ⟨upd_same _ e e, upd_same _ e e⟩

theorem unlink_eq_self {L : Links α} {e : α} (hu : Unlinked L e) : L.unlink e = L := by
  have (f : α → α) (h : f e = e) : upd f e e = f :=
    funext fun y => ite_eq_right_iff.mpr fun x => by rw [x, h]
  simp only [Links.unlink, hu.1, ne_eq, not_true, if_false, this _ hu.1, this _ hu.2]

theorem unlink_frame (L : Links α) (e y : α) (h1 : y ≠ e) (h2 : y ≠ L.left e) (h3 : y ≠ L.right e) :
    (L.unlink e).left y = L.left y ∧ (L.unlink e).right y = L.right y := by
  by_cases hne : L.left e = e
  · simp [Links.unlink, hne, upd_apply, h1]
  · rw [unlink_left L e hne, unlink_right L e hne]
    simp [h1, h2, h3]

theorem unlink_head {L : Links α} {e : α} {s : List α} (hn : (e :: s).Nodup) (hc : Chain L e s e) :
    Cyc (L.unlink e) s := by
  cases s with
  | nil => trivial
  | cons x u =>
    obtain ⟨hes, hs⟩ := List.nodup_cons.mp hn
    have he : ∀ y ∈ x :: u, y ≠ e := fun y hy => ne_of_mem_of_not_mem hy hes
    have hle : L.left e ≠ e := he _ (chain_left_mem hc.2.2 e (by simp))
    refine chain_retarget hs hc.2.2 (fun y hy => ?_) (fun y hy => ?_) ?_
    · rw [unlink_right L e hle, if_neg (he y hy), hc.1]
    · rw [unlink_left L e hle, if_neg (he y (.tail _ hy)), hc.1,
        if_neg (ne_of_mem_of_not_mem hy (List.nodup_cons.mp hs).1)]
    · rw [unlink_left L e hle, if_neg (he x (.head _)), hc.1, if_pos rfl]

theorem unlink_cyc {L : Links α} {e : α} {l1 l2 : List α} (hn : (l1 ++ e :: l2).Nodup)
    (hc : Cyc L (l1 ++ e :: l2)) : Cyc (L.unlink e) (l1 ++ l2) :=
  cyc_rotate _ l2 l1 (unlink_head (List.perm_append_comm.nodup_iff.mp hn) (cyc_rotate L l1 (e :: l2) hc))

theorem removeRef_some {L : Links α} {r : RingP α} {h : α} (hh : r.head = some h) (e : α) :
    RingP.removeRef L r e = (L.unlink e,
      if h = e then { r with head := if L.left h ≠ e then some (L.left h) else none } else r) := by
  rw [RingP.removeRef, hh]
  exact (apply_ite (Prod.mk (L.unlink e)) _ _ _).symm

theorem remove_head (e z : α) (u : List α) : Ring.remove (e :: (u ++ [z])) e = z :: u := by
  simp only [Ring.remove, if_true, List.getLast?_concat, List.dropLast_concat]

theorem remove_mid {h e : α} {t1 : List α} (l2 : List α) (he : e ∉ h :: t1) :
    Ring.remove (h :: t1 ++ e :: l2) e = h :: (t1 ++ l2) := by
  simp only [Ring.remove, List.cons_append, if_neg (List.ne_of_not_mem_cons he).symm,
    List.erase_append_right _ (List.not_mem_of_not_mem_cons he), List.erase_cons_head]

theorem removeRef_member {L : Links α} {r : RingP α} {l : List α} {e : α} (hw : WF L r l) (he : e ∈ l) :
    WF (RingP.removeRef L r e).1 (RingP.removeRef L r e).2 (Ring.remove l e)
      ∧ Unlinked (RingP.removeRef L r e).1 e
      ∧ (RingP.removeRef L r e).2.useRefs = r.useRefs := by
  obtain ⟨hh, hn, hc⟩ := hw
  obtain ⟨l1, l2, rfl, hne⟩ := List.eq_append_cons_of_mem he
  have hcyc := unlink_cyc hn hc
  have hnr := Ring.nodup_remove hn e
  cases l1 with
  | cons h t1 =>
    rw [remove_mid l2 hne] at hnr ⊢
    rw [removeRef_some hh, if_neg (List.ne_of_not_mem_cons hne).symm]
    exact ⟨⟨hh, hnr, hcyc⟩, unlink_unlinked L e, rfl⟩
  | nil =>
    -- the head goes: the old tail `L.left e` becomes the head
    rw [List.nil_append] at *
    rw [removeRef_some hh, if_pos rfl]
    rcases List.eq_nil_or_concat l2 with rfl | ⟨u, z, h2⟩
    · rw [if_neg (not_not_intro hc.2), show Ring.remove [e] e = [] from if_pos rfl]
      exact ⟨⟨rfl, .nil, trivial⟩, unlink_unlinked L e, rfl⟩
    · rw [List.concat_eq_append] at h2; subst h2
      have hz : L.left e = z := ((chain_append L u e z [] e).mp hc).2.2
      have hze : z ≠ e := ne_of_mem_of_not_mem (List.mem_append_right u (.head _)) (List.nodup_cons.mp hn).1
      rw [remove_head] at hnr ⊢
      rw [hz, if_pos hze]
      exact ⟨⟨rfl, hnr, cyc_rotate _ u [z] hcyc⟩, unlink_unlinked L e, rfl⟩

theorem removeRef_nonmember {L : Links α} {r : RingP α} {l : List α} {e : α} (hw : WF L r l) (he : e ∉ l)
    (hu : Unlinked L e) :
    WF (RingP.removeRef L r e).1 (RingP.removeRef L r e).2 l ∧ Ring.remove l e = l := by
  refine ⟨?_, Ring.remove_of_not_mem he⟩
  cases l with
  | nil =>
    have hh : r.head = none := hw.1
    simpa only [RingP.removeRef, hh] using hw
  | cons h t =>
    rw [removeRef_some hw.1, unlink_eq_self hu, if_neg (List.ne_of_not_mem_cons he).symm]
    exact hw

theorem other_ring_removeRef {L : Links α} {r r2 : RingP α} {l l2 : List α} {e : α} (hw : WF L r l)
    (he : e ∈ l) (hw2 : WF L r2 l2) (hd : ∀ x ∈ l2, x ∉ l) : WF (RingP.removeRef L r e).1 r2 l2 := by
  obtain ⟨hl, hr⟩ := hw.neighbours he
  cases l with
  | nil => cases he
  | cons h t =>
    rw [removeRef_some hw.1]
    exact WF_frame hw2 fun x hx => unlink_frame L e x (ne_of_mem_of_not_mem he (hd x hx)).symm
      (ne_of_mem_of_not_mem hl (hd x hx)).symm (ne_of_mem_of_not_mem hr (hd x hx)).symm

/-- the link state after `entry->left = tail; tail->right = entry; head->left = entry; entry->right = head` -/
def linkIn (L : Links α) (h e : α) : Links α :=
  let tail := L.left h
  let L : Links α := ⟨upd L.left e tail, L.right⟩
  let L : Links α := ⟨L.left, upd L.right tail e⟩
  let L : Links α := ⟨upd L.left h e, L.right⟩
  ⟨L.left, upd L.right e h⟩

theorem linkIn_right (L : Links α) (h e y : α) :
    (linkIn L h e).right y = if y = e then h else if y = L.left h then e else L.right y := rfl

theorem linkIn_left (L : Links α) (h e y : α) :
    (linkIn L h e).left y = if y = h then e else if y = e then L.left h else L.left y := rfl

theorem linkIn_cyc {L : Links α} {h e : α} {t : List α} (hn : (h :: t).Nodup) (he : e ∉ h :: t)
    (hc : Chain L h t h) : Chain (linkIn L h e) h (t ++ [e]) h := by
  have hne : ∀ y ∈ h :: t, y ≠ e := fun y hy => ne_of_mem_of_not_mem hy he
  refine (chain_append _ t h e [] h).mpr
    ⟨chain_retarget hn hc (fun y hy => ?_) (fun y hy => ?_) ?_, ?_, ?_⟩
  · rw [linkIn_right, if_neg (hne y hy)]
  · rw [linkIn_left, if_neg (ne_of_mem_of_not_mem hy (List.nodup_cons.mp hn).1),
      if_neg (hne y (.tail _ hy))]
  · rw [linkIn_left, if_neg (hne h (.head _)).symm, if_pos rfl]
  · rw [linkIn_right, if_pos rfl]
  · rw [linkIn_left, if_pos rfl]

theorem addRef_none {L : Links α} {r : RingP α} {e : α} (hu : Unlinked L e) (hh : r.head = none) :
    RingP.addRef L r e = (L, { r with head := some e }) := by
  unfold RingP.addRef
  simp only [hh, unlink_eq_self hu]
  rfl

theorem addRef_some {L : Links α} {r : RingP α} {h e : α} (hu : Unlinked L e) (hh : r.head = some h)
    (hne : h ≠ e) : RingP.addRef L r e = (linkIn L h e, r) := by
  unfold RingP.addRef
  simp only [hh, unlink_eq_self hu, Option.some.injEq, hne, if_false]
  rfl

theorem addRef_fresh {L : Links α} {r : RingP α} {l : List α} {e : α} (hw : WF L r l) (he : e ∉ l)
    (hu : Unlinked L e) :
    WF (RingP.addRef L r e).1 (RingP.addRef L r e).2 (l ++ [e]) ∧ Ring.add l e = l ++ [e]
      ∧ (RingP.addRef L r e).2.useRefs = r.useRefs := by
  obtain ⟨hh, hn, hc⟩ := hw
  have hadd := Ring.add_of_not_mem he
  have hnd : (l ++ [e]).Nodup := hadd ▸ Ring.nodup_add hn e
  cases l with
  | nil =>
    rw [addRef_none hu hh]
    exact ⟨⟨rfl, hnd, hu.2, hu.1⟩, hadd, rfl⟩
  | cons h t =>
    rw [addRef_some hu hh (List.ne_of_not_mem_cons he).symm]
    exact ⟨⟨hh, hnd, linkIn_cyc hn he hc⟩, hadd, rfl⟩

theorem addRef_head {L : Links α} {r : RingP α} {l : List α} {e : α} (hw : WF L r l)
    (he : l.head? = some e) : RingP.addRef L r e = (L, r) ∧ Ring.add l e = l := by
  obtain ⟨hh, _, _⟩ := hw
  constructor
  · unfold RingP.addRef; rw [hh, he]; simp
  · unfold Ring.add; simp [he]

theorem other_ring_addRef {L : Links α} {r r2 : RingP α} {l l2 : List α} {e : α} (hw : WF L r l)
    (hu : Unlinked L e) (hw2 : WF L r2 l2) (hd : ∀ x ∈ l2, x ∉ l) (he2 : e ∉ l2) :
    WF (RingP.addRef L r e).1 r2 l2 := by
  cases l with
  | nil => rw [addRef_none hu hw.1]; exact hw2
  | cons h t =>
    by_cases hhe : h = e
    · rw [(addRef_head hw (congrArg some hhe)).1]; exact hw2
    · rw [addRef_some hu hw.1 hhe]
      refine WF_frame hw2 fun x hx => ?_
      have hx' := hd x hx
      simp only [linkIn_left, linkIn_right, if_neg (List.ne_of_not_mem_cons hx'),
        if_neg (ne_of_mem_of_not_mem hx he2),
        if_neg (ne_of_mem_of_not_mem (hw.neighbours (.head _)).1 hx').symm, and_self]

end Occa.Gc.RingRefine
