/-
Lemmas about the sorted association lists that model `std::map<std::string, json>`:
`insert` / `lookup` / `erase` behave like a finite map, keep the list sorted, and a sorted list is
determined by its lookups (the map is canonical: insertion order is not observable).
-/
import OccaModel.Json

namespace Occa.Json

theorem keyLt_iff (a b : Bytes) : keyLt a b = true ↔ a < b := by simp [keyLt]

def AllGt (k : Bytes) (l : Obj) : Prop := ∀ p ∈ l, k < p.1

/-- the std::map invariant: keys strictly increasing -/
def Sorted : Obj → Prop
  | [] => True
  | (k, _) :: r => AllGt k r ∧ Sorted r

theorem sorted_nil : Sorted [] := trivial

theorem allGt_of_lt {k k' : Bytes} {l : Obj} (h : k < k') (hl : AllGt k' l) : AllGt k l :=
  fun p hp => List.lt_trans h (hl p hp)

theorem allGt_cons_of_lt {k k' : Bytes} {v' : Json} {r : Obj} (h : k < k') (hr : AllGt k' r) :
    AllGt k ((k', v') :: r) :=
  List.forall_mem_cons.mpr ⟨h, allGt_of_lt h hr⟩

theorem keysSorted_iff (l : Obj) : keysSorted l = true ↔ Sorted l := by
  induction l with
  | nil => simp [keysSorted, Sorted]
  | cons p r ih =>
    obtain ⟨k, v⟩ := p
    cases r with
    | nil => simp [keysSorted, Sorted, AllGt]
    | cons q r' =>
      simp only [keysSorted, Bool.and_eq_true, keyLt_iff, ih]
      exact ⟨fun ⟨h1, h2⟩ => ⟨allGt_cons_of_lt h1 h2.1, h2⟩, fun ⟨h1, h2⟩ => ⟨h1 q (by simp), h2⟩⟩

theorem lookup_cons_eq (k : Bytes) (v : Json) (r : Obj) : lookup k ((k, v) :: r) = some v := by simp [lookup]

theorem lookup_cons_ne {k k' : Bytes} (h : k ≠ k') (v : Json) (r : Obj) : lookup k ((k', v) :: r) = lookup k r := by
  simp [lookup, h]

theorem lookup_none_of_allGt {k : Bytes} {l : Obj} (h : AllGt k l) : lookup k l = none := by
  induction l with
  | nil => rfl
  | cons p r ih =>
    obtain ⟨h1, hr⟩ := List.forall_mem_cons.mp h
    rw [lookup_cons_ne (Std.ne_of_lt h1), ih hr]

theorem mem_of_lookup {k : Bytes} {v : Json} {l : Obj} (h : lookup k l = some v) : (k, v) ∈ l := by
  induction l with
  | nil => cases h
  | cons p r ih =>
    obtain ⟨k', v'⟩ := p
    by_cases hk : k = k'
    · subst hk; rw [lookup_cons_eq] at h; cases h; exact List.mem_cons_self
    · rw [lookup_cons_ne hk] at h; exact List.mem_cons_of_mem _ (ih h)

theorem insert_cons_eq (k : Bytes) (v v' : Json) (r : Obj) : insert k v ((k, v') :: r) = (k, v) :: r := by
  simp [insert]

theorem insert_cons_lt {k k' : Bytes} (h : k < k') (v v' : Json) (r : Obj) :
    insert k v ((k', v') :: r) = (k, v) :: (k', v') :: r := by
  simp [insert, Std.ne_of_lt h, (keyLt_iff k k').mpr h]

theorem insert_cons_gt {k k' : Bytes} (h : k' < k) (v v' : Json) (r : Obj) :
    insert k v ((k', v') :: r) = (k', v') :: insert k v r := by
  have h2 : keyLt k k' = false := Bool.eq_false_iff.mpr fun hh => List.lt_asymm h ((keyLt_iff k k').mp hh)
  simp [insert, (Std.ne_of_lt h).symm, h2]

theorem lookup_insert (k2 k : Bytes) (v : Json) (l : Obj) :
    lookup k2 (insert k v l) = if k2 = k then some v else lookup k2 l := by
  induction l with
  | nil => rfl
  | cons p r ih =>
    obtain ⟨k', v'⟩ := p
    unfold insert
    by_cases hk : k = k'
    · rw [if_pos hk, hk]; unfold lookup; split <;> rfl
    · rw [if_neg hk]
      cases keyLt k k'
      · show lookup k2 ((k', v') :: insert k v r) = _
        unfold lookup
        rw [ih]
        by_cases h2 : k2 = k
        · rw [if_pos h2, if_neg (h2 ▸ hk), if_pos h2]
        · rw [if_neg h2, if_neg h2]
      · rfl

theorem mem_insert {k : Bytes} {v : Json} {l : Obj} {p : Bytes × Json} (hp : p ∈ insert k v l) :
    p = (k, v) ∨ p ∈ l := by
  induction l with
  | nil => exact Or.inl (List.mem_singleton.mp hp)
  | cons q r ih =>
    simp only [insert] at hp
    split at hp
    · exact (List.mem_cons.mp hp).imp_right (List.mem_cons_of_mem _)
    · split at hp
      · exact List.mem_cons.mp hp
      · rcases List.mem_cons.mp hp with hp | hp
        · exact Or.inr (hp ▸ List.mem_cons_self)
        · exact (ih hp).imp_right (List.mem_cons_of_mem _)

theorem sorted_insert (k : Bytes) (v : Json) {l : Obj} (hl : Sorted l) : Sorted (insert k v l) := by
  induction l with
  | nil => exact ⟨fun _ hp => (nomatch hp), trivial⟩
  | cons p r ih =>
    obtain ⟨k', v'⟩ := p
    obtain ⟨hg, hr⟩ := hl
    rcases Std.lt_trichotomy k k' with h1 | h1 | h1
    · rw [insert_cons_lt h1]; exact ⟨allGt_cons_of_lt h1 hg, hg, hr⟩
    · subst h1; rw [insert_cons_eq]; exact ⟨hg, hr⟩
    · rw [insert_cons_gt h1]
      refine ⟨fun p hp => ?_, ih hr⟩
      rcases mem_insert hp with hp | hp
      · rw [hp]; exact h1
      · exact hg p hp

/-- this is how the parser rebuilds a dumped object, member by member -/
theorem insert_append {k : Bytes} (v : Json) {l : Obj} (h : ∀ p ∈ l, p.1 < k) : insert k v l = l ++ [(k, v)] := by
  induction l with
  | nil => rfl
  | cons p r ih =>
    obtain ⟨h1, hr⟩ := List.forall_mem_cons.mp h
    rw [insert_cons_gt h1, ih hr]
    rfl

theorem length_insert (k : Bytes) (v : Json) {l : Obj} (hl : Sorted l) :
    (insert k v l).length = if (lookup k l).isSome then l.length else l.length + 1 := by
  induction l with
  | nil => rfl
  | cons p r ih =>
    obtain ⟨k', v'⟩ := p
    obtain ⟨hg, hr⟩ := hl
    rcases Std.lt_trichotomy k k' with h1 | h1 | h1
    · rw [insert_cons_lt h1, lookup_none_of_allGt (allGt_cons_of_lt h1 hg)]; rfl
    · subst h1; rw [insert_cons_eq, lookup_cons_eq]; rfl
    · rw [insert_cons_gt h1, lookup_cons_ne (Std.ne_of_lt h1).symm, List.length_cons, ih hr]
      split <;> rfl

theorem lookup_erase_ne {k k2 : Bytes} (h : k2 ≠ k) (l : Obj) : lookup k2 (erase k l) = lookup k2 l := by
  induction l with
  | nil => rfl
  | cons p r ih =>
    simp only [erase]
    split
    · next h1 => rw [lookup_cons_ne (h1 ▸ h)]
    · simp only [lookup, ih]

theorem mem_erase {k : Bytes} {l : Obj} {p : Bytes × Json} (hp : p ∈ erase k l) : p ∈ l := by
  induction l with
  | nil => exact hp
  | cons q r ih =>
    simp only [erase] at hp
    split at hp
    · exact List.mem_cons_of_mem _ hp
    · exact (List.mem_cons.mp hp).elim (· ▸ List.mem_cons_self) fun h => List.mem_cons_of_mem _ (ih h)

theorem sorted_erase (k : Bytes) {l : Obj} (hl : Sorted l) : Sorted (erase k l) := by
  induction l with
  | nil => exact trivial
  | cons p r ih =>
    simp only [erase]
    split
    · exact hl.2
    · exact ⟨fun p hp => hl.1 p (mem_erase hp), ih hl.2⟩

theorem lookup_erase_self (k : Bytes) {l : Obj} (hl : Sorted l) : lookup k (erase k l) = none := by
  induction l with
  | nil => rfl
  | cons p r ih =>
    simp only [erase]
    split
    · next h1 => exact lookup_none_of_allGt (h1 ▸ hl.1)
    · next h1 => rw [lookup_cons_ne h1]; exact ih hl.2

theorem sorted_ext {a b : Obj} (ha : Sorted a) (hb : Sorted b) (h : ∀ k, lookup k a = lookup k b) : a = b := by
  induction a generalizing b with
  | nil =>
    cases b with
    | nil => rfl
    | cons q r => have := h q.1; rw [lookup_cons_eq] at this; cases this
  | cons p r ih =>
    obtain ⟨k, v⟩ := p
    cases b with
    | nil => have := h k; rw [lookup_cons_eq] at this; cases this
    | cons q r2 =>
      obtain ⟨k2, v2⟩ := q
      -- the smaller of two different heads would be missing from the other list
      have hk : k = k2 := by
        rcases Std.lt_trichotomy k k2 with hlt | heq | hgt
        · have := h k
          rw [lookup_cons_eq, lookup_none_of_allGt (allGt_cons_of_lt hlt hb.1)] at this
          cases this
        · exact heq
        · have := h k2
          rw [lookup_cons_eq, lookup_none_of_allGt (allGt_cons_of_lt hgt ha.1)] at this
          cases this
      subst hk
      have hv := h k
      rw [lookup_cons_eq, lookup_cons_eq] at hv
      cases hv
      congr 1
      refine ih ha.2 hb.2 fun k' => ?_
      by_cases hk' : k' = k
      · rw [hk', lookup_none_of_allGt ha.1, lookup_none_of_allGt hb.1]
      · have := h k'
        rwa [lookup_cons_ne hk', lookup_cons_ne hk'] at this

end Occa.Json
