/-
The block sweep of resize()/setAlignment() (`sweepGo`, `sweep`, `applyCopies`): every reservation is
moved rigidly together with the block copy that contains it, the block copies are ordered and
pairwise disjoint in the old and in the new buffer, so every reservation reads back the same
bytes and two byte positions coincide after packing iff they coincided before; the sweep's total is
the union measure of the layout it produces and, for aligned block starts, of the layout it consumes.
`Swept` is the contract the pool operations use.
-/
import OccaProofs.Lemmas.PoolMeasure
import Mathlib.Data.List.Forall2

namespace Occa.Pool
open Finset

/-- `m'` is `m` moved together with one of the block copies -/
def Moved (cps : List Copy) (m m' : Resv) : Prop :=
  m'.slot = m.slot ∧ m'.size = m.size ∧ m'.fam = m.fam ∧
  ∃ c ∈ cps, c.src ≤ m.off ∧ m.off + m.size ≤ c.src + c.len ∧ m'.off = c.dst + (m.off - c.src)

theorem Moved.slot_eq {cps : List Copy} {m m' : Resv} (h : Moved cps m m') : m'.slot = m.slot := h.1
theorem Moved.size_eq {cps : List Copy} {m m' : Resv} (h : Moved cps m m') : m'.size = m.size := h.2.1
theorem Moved.fam_eq {cps : List Copy} {m m' : Resv} (h : Moved cps m m') : m'.fam = m.fam := h.2.2.1

theorem Moved.mono {cps cps' : List Copy} {m m' : Resv} (h : Moved cps m m') (hs : ∀ c ∈ cps, c ∈ cps') :
    Moved cps' m m' := by
  obtain ⟨h1, h2, h3, c, hc, h4⟩ := h
  exact ⟨h1, h2, h3, c, hs c hc, h4⟩

/-- block copies go left to right, in both buffers, without overlap -/
def CopiesOrdered (cps : List Copy) : Prop :=
  cps.Pairwise (fun c c' => c.src + c.len ≤ c'.src ∧ c.dst + c.len ≤ c'.dst)

/-- What the sweep needs of the block-start function (`id`, or `rdn a` after F06b): it rounds down, monotonically, and
    rounding down the distance from an earlier block start does not pass `x`'s own block start.  The last clause is what
    makes the aligned spans of a packed block fill it from its first unit (`y = x`) without a hole. -/
structure BlockStart (a : Nat) (st : Nat → Nat) : Prop where
  le : ∀ x, st x ≤ x
  mono : ∀ x y, x ≤ y → st x ≤ st y
  align : ∀ y x, st y ≤ st x → rdn a (x - st y) ≤ st x - st y

theorem blockStart_id {a : Nat} : BlockStart a id := ⟨fun _ => Nat.le_refl _, fun _ _ h => h, fun _ _ _ => rdn_le a _⟩

theorem blockStart_rdn {a : Nat} (ha : 0 < a) : BlockStart a (rdn a) :=
  ⟨rdn_le a, fun _ _ h => rdn_mono a h, fun y x h =>
    Nat.le_of_eq (rdn_sub_of_dvd ha (rdn_dvd a y) (Nat.le_trans h (rdn_le a x)))⟩

theorem BlockStart.first {a : Nat} {st : Nat → Nat} (h : BlockStart a st) (x : Nat) : rdn a (x - st x) = 0 :=
  Nat.le_zero.1 (Nat.sub_self (st x) ▸ h.align x x (Nat.le_refl _))

structure GoSpec (lo hi offset : Nat) (ms : List Resv) (r : SweepOut) : Prop where
  head : ∃ c0 rest, r.copies = c0 :: rest ∧ c0.dst = offset ∧ c0.src = lo ∧ hi - lo ≤ c0.len
  lower : ∀ c ∈ r.copies, lo ≤ c.src ∧ offset ≤ c.dst
  ordered : CopiesOrdered r.copies
  bound : ∀ c ∈ r.copies, c.dst + c.len ≤ offset + r.total
  moved : List.Forall₂ (Moved r.copies) ms r.resv

/-- What the block loop guarantees for any block-start function.  The clauses are one induction: `ordered` for a
    new block needs `lower` of the tail; `moved` for the head reservation needs `head` of the tail (the copy it travels
    in is complete only at the end of its block); `sorted` needs `above` (the tail's new offsets lie at or above the
    head's); `dvd`, `srcBound` and `layout` (the aligned spans of the new reservations fill the blocks placed so far; `y` is
    the reservation that opened the current block) ride along. -/
structure GoAll (a : Nat) (st : Nat → Nat) (lo hi offset : Nat) (ms : List Resv) (r : SweepOut) : Prop
    extends GoSpec lo hi offset ms r where
  dvd : a ∣ r.total
  sorted : OffSorted r.resv
  above : ∀ b, lo ≤ b → b ≤ hi → (∀ m ∈ ms, b ≤ m.off) → ∀ x ∈ r.resv, offset + (b - lo) ≤ x.off
  srcBound : ∀ B, hi ≤ B → (∀ m ∈ ms, m.off + m.size ≤ B) → ∀ c ∈ r.copies, c.src + c.len ≤ B
  layout : ∀ y, lo = st y → a ∣ offset →
    spanU a r.resv ∪ Ico offset (offset + rup a (hi - lo)) = Ico offset (offset + r.total)

theorem sweepGo_all {a : Nat} (ha : 0 < a) {st : Nat → Nat} (hst : BlockStart a st) (ms : List Resv) (lo hi offset : Nat)
    (hlh : lo ≤ hi) (hlow : ∀ m ∈ ms, lo ≤ st m.off) (hsort : OffSorted ms) :
    GoAll a st lo hi offset ms (sweepGo a st lo hi offset ms) := by
  have hcur : ∀ {lo hi B}, lo ≤ hi → hi ≤ B → lo + (hi - lo) ≤ B := fun h1 h2 => by rw [Nat.add_sub_cancel' h1]; exact h2
  fun_induction sweepGo a st lo hi offset ms with
  | case1 lo hi offset =>
    exact {
      head := ⟨_, [], rfl, rfl, rfl, Nat.le_refl _⟩
      lower := fun c hc => by cases List.mem_singleton.1 hc; exact ⟨Nat.le_refl _, Nat.le_refl _⟩
      ordered := List.pairwise_singleton _ _
      bound := fun c hc => by cases List.mem_singleton.1 hc; exact Nat.add_le_add_left (le_rup ha _) _
      moved := .nil
      dvd := rup_dvd a _
      sorted := .nil
      above := fun _ _ _ _ _ hx => nomatch hx
      srcBound := fun B hB _ => List.forall_mem_singleton.2 (hcur hlh hB)
      layout := fun _ _ _ => Finset.empty_union _ }
  | case2 lo hi offset m ms hnew r ih =>
    have hmle := (List.pairwise_cons.1 hsort).1
    have hlom := hlow m List.mem_cons_self
    have hstm := hst.le m.off
    have hrec := ih (Nat.le_trans hstm (Nat.le_add_right _ _)) (fun x hx => hst.mono _ _ (hmle x hx))
      (List.pairwise_cons.1 hsort).2
    obtain ⟨c0, rest, hc0, hd0, hs0, hl0⟩ := hrec.head
    have hrup := le_rup ha (hi - lo)
    have hab := hrec.above m.off hstm (Nat.le_add_right _ _) hmle
    have key : ∀ b, b ≤ hi → offset + (b - lo) ≤ offset + rup a (hi - lo) + (m.off - st m.off) := fun b hbh =>
      Nat.le_trans (Nat.add_le_add_left (Nat.le_trans (Nat.sub_le_sub_right hbh lo) hrup) offset) (Nat.le_add_right _ _)
    refine {
      head := ⟨_, _, rfl, rfl, rfl, Nat.le_refl _⟩
      lower := ?lower
      ordered := List.pairwise_cons.2 ⟨?ordered, hrec.ordered⟩
      bound := ?bound
      moved := .cons ?moved (hrec.moved.imp fun _ _ h => h.mono fun c hc => List.mem_cons_of_mem _ hc)
      dvd := Nat.dvd_add (rup_dvd a _) hrec.dvd
      sorted := List.pairwise_cons.2 ⟨hab, hrec.sorted⟩
      above := fun b _ hbh _ => List.forall_mem_cons.2 ⟨key b hbh, fun x hx => Nat.le_trans (key b hbh) (hab x hx)⟩
      srcBound := fun B hB hms => List.forall_mem_cons.2 ⟨hcur hlh hB, hrec.srcBound B (hms m List.mem_cons_self)
        fun x hx => hms x (List.mem_cons_of_mem _ hx)⟩
      layout := ?layout }
    case lower =>
      intro c hc
      rcases List.mem_cons.1 hc with rfl | hc
      · exact ⟨Nat.le_refl _, Nat.le_refl _⟩
      · have := hrec.lower c hc
        exact ⟨Nat.le_trans hlom this.1, Nat.le_trans (Nat.le_add_right _ _) this.2⟩
    case ordered =>
      intro c hc
      have := hrec.lower c hc
      show lo + (hi - lo) ≤ c.src ∧ offset + (hi - lo) ≤ c.dst
      omega
    case bound =>
      intro c hc
      show c.dst + c.len ≤ offset + (rup a (hi - lo) + r.total)
      rcases List.mem_cons.1 hc with rfl | hc
      · exact Nat.add_le_add_left (Nat.le_trans hrup (Nat.le_add_right _ _)) _
      · exact Nat.add_assoc .. ▸ hrec.bound c hc
    case moved =>
      refine ⟨rfl, rfl, rfl, c0, List.mem_cons_of_mem _ (hc0 ▸ List.mem_cons_self), ?_⟩
      rw [hd0, hs0]
      exact ⟨hstm, Nat.sub_le_iff_le_add'.1 hl0, rfl⟩
    case layout =>
      intro _ _ hoff
      have hoff' : a ∣ offset + rup a (hi - lo) := Nat.dvd_add hoff (rup_dvd a _)
      have hsp : span a { m with off := offset + rup a (hi - lo) + (m.off - st m.off) } =
          Ico (offset + rup a (hi - lo)) (offset + rup a (hi - lo) + rup a (m.off + m.size - st m.off)) := by
        show Ico (rdn a (offset + rup a (hi - lo) + (m.off - st m.off)))
          (rup a (offset + rup a (hi - lo) + (m.off - st m.off) + m.size)) = _
        rw [rdn_add_of_dvd ha hoff', hst.first, Nat.add_assoc (offset + rup a (hi - lo)),
          rup_add_of_dvd ha hoff', Nat.sub_add_comm hstm, Nat.add_zero]
      show (span a _ ∪ spanU a _) ∪ _ = Ico offset (offset + (rup a (hi - lo) + r.total))
      rw [hsp, Finset.union_comm (Ico _ _) (spanU a _), hrec.layout m.off rfl hoff', Finset.union_comm,
        Ico_union_Ico_eq_Ico (Nat.le_add_right _ _) (Nat.le_add_right _ _), Nat.add_assoc]
  | case3 lo hi offset m ms hjoin r ih =>
    have hmle := (List.pairwise_cons.1 hsort).1
    have hlom := hlow m List.mem_cons_self
    have hlm := Nat.le_trans hlom (hst.le m.off)
    have hrec := ih (Nat.le_trans hlh (Nat.le_max_left _ _))
      (fun x hx => Nat.le_trans hlom (hst.mono _ _ (hmle x hx))) (List.pairwise_cons.1 hsort).2
    obtain ⟨c0, rest, hc0, hd0, hs0, hl0⟩ := hrec.head
    have hab := hrec.above m.off hlm (Nat.le_trans (Nat.le_add_right _ _) (Nat.le_max_right _ _)) hmle
    refine {
      head := ⟨c0, rest, hc0, hd0, hs0, Nat.le_trans (Nat.sub_le_sub_right (Nat.le_max_left _ _) _) hl0⟩
      lower := hrec.lower
      ordered := hrec.ordered
      bound := hrec.bound
      moved := .cons ?moved hrec.moved
      dvd := hrec.dvd
      sorted := List.pairwise_cons.2 ⟨hab, hrec.sorted⟩
      above := fun b _ _ hb => ?above
      srcBound := fun B hB hms => hrec.srcBound B (Nat.max_le.2 ⟨hB, hms m List.mem_cons_self⟩)
        fun x hx => hms x (List.mem_cons_of_mem _ hx)
      layout := ?layout }
    case moved =>
      refine ⟨rfl, rfl, rfl, c0, hc0 ▸ List.mem_cons_self, ?_⟩
      rw [hd0, hs0]
      exact ⟨hlm, Nat.sub_le_iff_le_add'.1 (Nat.le_trans (Nat.sub_le_sub_right (Nat.le_max_right _ _) _) hl0), rfl⟩
    case above =>
      have key : offset + (b - lo) ≤ offset + (m.off - lo) :=
        Nat.add_le_add_left (Nat.sub_le_sub_right (hb m List.mem_cons_self) lo) offset
      exact List.forall_mem_cons.2 ⟨key, fun x hx => Nat.le_trans key (hab x hx)⟩
    case layout =>
      intro y hy hoff
      subst hy
      have hj : rdn a (offset + (m.off - st y)) ≤ offset + (hi - st y) := by
        rw [rdn_add_of_dvd ha hoff]
        exact Nat.add_le_add_left
          (Nat.le_trans (hst.align y m.off hlom) (Nat.sub_le_sub_right (Nat.le_of_not_lt hjoin) _)) _
      have hsp : span a { m with off := offset + (m.off - st y) } =
          Ico (rdn a (offset + (m.off - st y))) (offset + rup a (m.off + m.size - st y)) := by
        show Ico (rdn a (offset + (m.off - st y))) (rup a (offset + (m.off - st y) + m.size)) = _
        rw [Nat.add_assoc offset, rup_add_of_dvd ha hoff, Nat.sub_add_comm hlm]
      have hlo : offset ≤ rdn a (offset + (m.off - st y)) := by
        rw [rdn_add_of_dvd ha hoff]; exact Nat.le_add_right _ _
      have hAB : Ico (rdn a (offset + (m.off - st y))) (offset + rup a (m.off + m.size - st y)) ∪
          Ico offset (offset + rup a (hi - st y)) =
          Ico offset (offset + max (rup a (hi - st y)) (rup a (m.off + m.size - st y))) := by
        rw [Finset.union_comm, Ico_union_Ico' (Nat.le_trans hj (Nat.add_le_add_left (le_rup ha _) _))
          (Nat.le_add_right _ _), min_eq_left hlo, Nat.add_max_add_left]
      show (span a _ ∪ spanU a _) ∪ _ = _
      rw [← hrec.layout y rfl hoff, hsp, ← Nat.sub_max_sub_right, rup_max, Finset.union_comm (Ico _ _) (spanU a _),
        Finset.union_assoc, hAB]

structure SweepSpec (l : List Resv) (r : SweepOut) : Prop where
  ordered : CopiesOrdered r.copies
  bound : ∀ c ∈ r.copies, c.dst + c.len ≤ r.total
  moved : List.Forall₂ (Moved r.copies) l r.resv

theorem sweep_eq_sweepGo (a : Nat) {st : Nat → Nat} (m : Resv) (ms : List Resv) (h : st m.off ≤ m.off) :
    sweep a st m ms = sweepGo a st (st m.off) (st m.off) 0 (m :: ms) := by
  rw [sweepGo, if_neg (Nat.lt_irrefl _), Nat.max_eq_right (by omega)]
  rfl

theorem OffSorted.head_le {m : Resv} {ms : List Resv} (h : OffSorted (m :: ms)) : ∀ x ∈ m :: ms, m.off ≤ x.off := by
  intro x hx
  rcases List.mem_cons.1 hx with rfl | hx
  · exact Nat.le_refl _
  · exact (List.pairwise_cons.1 h).1 x hx

theorem forall2_mem_right {α β : Type} {R : α → β → Prop} {l : List α} {l' : List β} (h : List.Forall₂ R l l') :
    ∀ y ∈ l', ∃ x ∈ l, R x y := by
  induction h with
  | nil => intro y hy; simp at hy
  | cons hxy _ ih =>
    intro y hy
    rcases List.mem_cons.1 hy with rfl | hy
    · exact ⟨_, List.mem_cons_self, hxy⟩
    · obtain ⟨x, hx, hr⟩ := ih y hy
      exact ⟨x, List.mem_cons_of_mem _ hx, hr⟩

structure Swept (a : Nat) (st : Nat → Nat) (l : List Resv) (r : SweepOut) : Prop extends SweepSpec l r where
  dvd : a ∣ r.total
  sorted : OffSorted r.resv
  srcBound : ∀ B, (∀ m ∈ l, m.off + m.size ≤ B) → ∀ c ∈ r.copies, c.src + c.len ≤ B
  below : ∀ x ∈ r.resv, x.off + x.size ≤ r.total
  /-- C04: `total` is the union measure of the packed layout -/
  layout : measure a r.resv = r.total

theorem sweep_swept {a : Nat} (ha : 0 < a) {st : Nat → Nat} (hst : BlockStart a st) (m : Resv) (ms : List Resv)
    (hsort : OffSorted (m :: ms)) : Swept a st (m :: ms) (sweep a st m ms) := by
  rw [sweep_eq_sweepGo a m ms (hst.le _)]
  have g := sweepGo_all ha hst (m :: ms) (st m.off) (st m.off) 0 (Nat.le_refl _)
    (fun x hx => hst.mono _ _ (hsort.head_le x hx)) hsort
  have hb : ∀ c ∈ (sweepGo a st (st m.off) (st m.off) 0 (m :: ms)).copies,
      c.dst + c.len ≤ (sweepGo a st (st m.off) (st m.off) 0 (m :: ms)).total :=
    fun c hc => Nat.le_trans (g.bound c hc) (Nat.le_of_eq (Nat.zero_add _))
  refine {
    ordered := g.ordered
    bound := hb
    moved := g.moved
    dvd := g.dvd
    sorted := g.sorted
    srcBound := fun B hB =>
      g.srcBound B (Nat.le_trans (hst.le _) (Nat.le_trans (Nat.le_add_right _ _) (hB m List.mem_cons_self))) hB
    below := ?below
    layout := ?layout }
  case below =>
    intro x hx
    obtain ⟨y, _, _, hsz, _, c, hc, h1, h2, h3⟩ := forall2_mem_right g.moved x hx
    have := hb c hc
    omega
  case layout =>
    have hU := g.layout m.off rfl (Nat.dvd_zero a)
    rw [Nat.sub_self, rup_zero ha, Ico_self, union_empty, Nat.zero_add] at hU
    rw [measure, hU, Nat.card_Ico, Nat.sub_zero]

theorem applyCopies_cons (old : List Byte) (c : Copy) (cs : List Copy) (init : List Byte) :
    applyCopies old (c :: cs) init = applyCopies old cs (memcpy init c.dst old c.src c.len) := rfl

theorem applyCopies_spec (old : List Byte) :
    ∀ (cps : List Copy) (init : List Byte), CopiesOrdered cps →
      (∀ c ∈ cps, c.dst + c.len ≤ init.length ∧ c.src + c.len ≤ old.length) →
      (applyCopies old cps init).length = init.length ∧
      (∀ j, (∀ c ∈ cps, j < c.dst) → (applyCopies old cps init)[j]? = init[j]?) ∧
      ∀ c ∈ cps, ∀ i, i < c.len → (applyCopies old cps init)[c.dst + i]? = old[c.src + i]? := by
  intro cps
  induction cps with
  | nil => exact fun _ _ _ => ⟨rfl, fun _ _ => rfl, fun c hc => nomatch hc⟩
  | cons c0 cs ih =>
    intro init hord h
    have hc0 := h c0 List.mem_cons_self
    have hl := length_memcpy init c0.dst old c0.src c0.len hc0.1 hc0.2
    have hord' := List.pairwise_cons.1 hord
    obtain ⟨ih1, ih2, ih3⟩ := ih (memcpy init c0.dst old c0.src c0.len) hord'.2
      fun x hx => hl ▸ h x (List.mem_cons_of_mem _ hx)
    have get := getElem?_memcpy init c0.dst old c0.src c0.len hc0.1 hc0.2
    refine ⟨ih1.trans hl, fun j hj => ?_, fun c hc i hi => ?_⟩
    · rw [applyCopies_cons, ih2 j fun x hx => hj x (List.mem_cons_of_mem _ hx), get,
        if_neg (by have := hj c0 List.mem_cons_self; omega)]
    · rcases List.mem_cons.1 hc with rfl | hc
      · -- the later copies lie above this one
        rw [applyCopies_cons, ih2 _ fun x hx => by have := (hord'.1 x hx).2; omega, get, if_pos ⟨by omega, by omega⟩]
        congr 1; omega
      · exact ih3 c hc i hi

theorem copies_trichotomy {cps : List Copy} (hord : CopiesOrdered cps) :
    ∀ c ∈ cps, ∀ c' ∈ cps, c = c' ∨ (c.src + c.len ≤ c'.src ∧ c.dst + c.len ≤ c'.dst) ∨
      (c'.src + c'.len ≤ c.src ∧ c'.dst + c'.len ≤ c.dst) := by
  induction cps with
  | nil => intro c hc; simp at hc
  | cons x xs ih =>
    have hord' := List.pairwise_cons.1 hord
    intro c hc c' hc'
    rcases List.mem_cons.1 hc with h1 | h1
    · rcases List.mem_cons.1 hc' with h2 | h2
      · exact Or.inl (h1.trans h2.symm)
      · exact Or.inr (Or.inl (h1 ▸ hord'.1 c' h2))
    · rcases List.mem_cons.1 hc' with h2 | h2
      · exact Or.inr (Or.inr (h2 ▸ hord'.1 c h1))
      · exact ih hord'.2 c h1 c' h2

theorem Moved.shift {cps : List Copy} {m m' : Resv} (h : Moved cps m m') :
    ∃ c ∈ cps, ∃ t, m.off = c.src + t ∧ m'.off = c.dst + t ∧ t + m.size ≤ c.len := by
  obtain ⟨-, -, -, c, hc, h1, h2, h3⟩ := h
  exact ⟨c, hc, m.off - c.src, by omega, by omega, by omega⟩

theorem moved_reads_same {old : List Byte} {cps : List Copy} {init : List Byte} {m m' : Resv}
    (hord : CopiesOrdered cps)
    (hin : ∀ c ∈ cps, c.dst + c.len ≤ init.length ∧ c.src + c.len ≤ old.length)
    (hm : Moved cps m m') :
    readAt (applyCopies old cps init) m'.off m'.size = readAt old m.off m.size := by
  obtain ⟨c, hc, t, h1, h2, h3⟩ := hm.shift
  rw [hm.size_eq, h1, h2]
  apply readAt_eq_of_forall
  intro i hi
  rw [Nat.add_assoc, Nat.add_assoc]
  exact (applyCopies_spec old cps init hord hin).2.2 c hc (t + i) (by omega)

theorem moved_same_position {cps : List Copy} {m₁ m₁' m₂ m₂' : Resv} (hord : CopiesOrdered cps)
    (h₁ : Moved cps m₁ m₁') (h₂ : Moved cps m₂ m₂') (i j : Nat) (hi : i < m₁.size) (hj : j < m₂.size) :
    m₁'.off + i = m₂'.off + j ↔ m₁.off + i = m₂.off + j := by
  obtain ⟨c₁, hc₁, t₁, a1, a2, a3⟩ := h₁.shift
  obtain ⟨c₂, hc₂, t₂, b1, b2, b3⟩ := h₂.shift
  rw [a1, a2, b1, b2]
  clear a1 a2 b1 b2 h₁ h₂
  -- in one block both sides say `t₁ + i = t₂ + j`; in different blocks both are false
  rcases copies_trichotomy hord c₁ hc₁ c₂ hc₂ with rfl | h | h <;> omega

theorem sweepGo_oldLayout {a : Nat} (ha : 0 < a) (ms : List Resv) (lo hi offset : Nat) (hlo : a ∣ lo) (hlh : lo ≤ hi)
    (hlow : ∀ m ∈ ms, lo ≤ rdn a m.off) (hsort : OffSorted ms) :
    (spanU a ms ∪ Ico lo (rup a hi)).card = (sweepGo a (rdn a) lo hi offset ms).total := by
  fun_induction sweepGo a (rdn a) lo hi offset ms with
  | case1 lo hi offset =>
    rw [spanU, Finset.empty_union, Nat.card_Ico, rup_sub_of_dvd ha hlo hlh]
  | case2 lo hi offset m ms hnew r ih =>
    have hmle := (List.pairwise_cons.1 hsort).1
    have hrm := rdn_le a m.off
    have hrec := ih (rdn_dvd a _) (Nat.le_trans hrm (Nat.le_add_right _ _)) (fun x hx => rdn_mono a (hmle x hx))
      (List.pairwise_cons.1 hsort).2
    have hge : rup a hi ≤ rdn a m.off := rup_le_of_dvd ha (rdn_dvd a _) (Nat.le_of_lt hnew)
    have hdisj : Disjoint (spanU a ms ∪ Ico (rdn a m.off) (rup a (m.off + m.size))) (Ico lo (rup a hi)) := by
      rw [Finset.disjoint_left]
      intro p h1 h2
      have := (mem_Ico.1 h2).2
      have hp : p < rdn a m.off := Nat.lt_of_lt_of_le this hge
      rcases mem_union.1 h1 with h1 | h1
      · exact Nat.not_le.2 hp (lower_of_sorted hsort (mem_union_right _ h1))
      · exact Nat.not_le.2 hp (mem_Ico.1 h1).1
    show (span a m ∪ spanU a ms ∪ Ico lo (rup a hi)).card = rup a (hi - lo) + (sweepGo a (rdn a) _ _ _ ms).total
    rw [Finset.union_comm (span a m), span, card_union_of_disjoint hdisj, hrec, Nat.card_Ico, rup_sub_of_dvd ha hlo hlh,
      Nat.add_comm]
  | case3 lo hi offset m ms hjoin r ih =>
    have hmle := (List.pairwise_cons.1 hsort).1
    have hlom := hlow m List.mem_cons_self
    have hrec := ih hlo (Nat.le_trans hlh (Nat.le_max_left _ _))
      (fun x hx => Nat.le_trans hlom (rdn_mono a (hmle x hx))) (List.pairwise_cons.1 hsort).2
    have hse := span_start_le_end ha m
    have hr1 := le_rup ha hi
    have hAB : span a m ∪ Ico lo (rup a hi) = Ico lo (max (rup a hi) (rup a (m.off + m.size))) := by
      rw [span, Finset.union_comm, Ico_union_Ico' (Nat.le_trans (Nat.le_of_not_lt hjoin) hr1) (Nat.le_trans hlom hse),
        min_eq_left hlom]
    show (span a m ∪ spanU a ms ∪ Ico lo (rup a hi)).card = _
    rw [← hrec, rup_max, Finset.union_comm (span a m) (spanU a ms), Finset.union_assoc, hAB]

theorem sweep_total_eq_old_measure {a : Nat} (ha : 0 < a) (m : Resv) (ms : List Resv)
    (hsort : OffSorted (m :: ms)) : (sweep a (rdn a) m ms).total = measure a (m :: ms) := by
  have h := sweepGo_oldLayout ha (m :: ms) (rdn a m.off) (rdn a m.off) 0 (rdn_dvd a _) (Nat.le_refl _)
    (fun x hx => rdn_mono a (hsort.head_le x hx)) hsort
  rw [rup_of_dvd ha (rdn_dvd a _), Ico_self, union_empty, ← sweep_eq_sweepGo a m ms (rdn_le a _)] at h
  exact h.symm

/-- Read off the sweep, whose total is visibly a sum of `rup`s; `OffSorted` is what the sweep needs, the fact holds
    for any list. -/
theorem measure_dvd {a : Nat} (ha : 0 < a) {l : List Resv} (hs : OffSorted l) : a ∣ measure a l := by
  cases l with
  | nil => rw [measure_nil]; exact Nat.dvd_zero a
  | cons m ms =>
    rw [← sweep_total_eq_old_measure ha m ms hs]
    exact (sweep_swept ha (blockStart_rdn ha) m ms hs).dvd

end Occa.Pool
