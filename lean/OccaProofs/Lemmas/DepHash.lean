/-
Helper lemmas for C07: the include expansion, the dependency scan, the chain of keys followed by
device::applyDependencyHash, the invariant of reachable caches, and (last) `foldResolve`, the chaining
as it was before the repair of F11.
-/
import OccaModel.DepHash
import OccaProofs.Lemmas.CacheKey

namespace Occa.DepHash
open Occa.CacheKeyBase Occa.CacheKey

variable {κ σ δ β : Type}

theorem expand_mem (incl : String → List String) (fs : FS) (n : Nat) (ps : List String) :
    ∀ x, expand incl fs n ps = some x → ∀ p t, (p, t) ∈ x →
      fs p = some t ∧ (p ∈ ps ∨ ∃ t', p ∈ incl t') := by
  fun_induction expand incl fs n ps with
  | case1 => intro x h p t hm; cases h; cases hm
  | case2 | case3 | case5 => nofun
  | case4 n q ps t0 hfs a b hb ha iha ihb =>
    intro x h p t hm
    cases h
    rcases List.mem_cons.mp hm with e | hm
    · cases e; exact ⟨hfs, Or.inl List.mem_cons_self⟩
    · rcases List.mem_append.mp hm with m | m
      · exact ⟨(iha a ha p t m).1, Or.inr ((iha a ha p t m).2.elim (fun h => ⟨t0, h⟩) id)⟩
      · exact ⟨(ihb b hb p t m).1, (ihb b hb p t m).2.imp_left (List.mem_cons_of_mem _)⟩

theorem expand_congr (incl : String → List String) (fs fs' : FS) (n : Nat) (ps : List String) :
    ∀ x, expand incl fs' n ps = some x → (∀ p t, (p, t) ∈ x → fs p = some t) →
      expand incl fs n ps = some x := by
  fun_induction expand incl fs' n ps with
  | case1 => intro x h _; cases h; rw [expand]
  | case2 | case3 | case5 => nofun
  | case4 n q ps t0 hfs a b hb ha iha ihb =>
    intro x h hx
    cases h
    simp only [expand, hx q t0 List.mem_cons_self,
      iha a ha fun p t m => hx p t (List.mem_cons_of_mem _ (List.mem_append_left _ m)),
      ihb b hb fun p t m => hx p t (List.mem_cons_of_mem _ (List.mem_append_right _ m))]

theorem lookup_map_of_functional {γ : Type} (f : String → γ) (p t : String) :
    ∀ (x : List (String × String)), (∀ t', (p, t') ∈ x → t' = t) → (p, t) ∈ x →
      (x.map fun pt => (pt.1, f pt.2)).lookup p = some (f t)
  | (q, u) :: r, hf, h => by
    rw [List.map_cons, lookup_cons_eq]
    by_cases e : p = q
    · rw [if_pos e, hf u (e ▸ List.mem_cons_self)]
    · rw [if_neg e]
      have hm : (p, t) ∈ r := (List.mem_cons.mp h).resolve_left fun e' => e (Prod.mk.inj e').1
      exact lookup_map_of_functional f p t r (fun t' m => hf t' (List.mem_cons_of_mem _ m)) hm

theorem mem_depsOf (e : DEnv κ σ δ) (fs' : FS) (n : Nat) (ps : List String) (x : List (String × String))
    (hx : expand e.incl fs' n ps = some x) (p t : String) (hm : (p, t) ∈ x) :
    (p, e.H (e.raw t)) ∈ depsOf e x := by
  apply mem_of_lookup_eq_some
  rw [depsOf, lookup_mkMap]
  refine lookup_map_of_functional (fun s => e.H (e.raw s)) p t x (fun t' hm' => ?_) hm
  have h2 := (expand_mem e.incl fs' n ps x hx p t' hm').1
  rw [(expand_mem e.incl fs' n ps x hx p t hm).1] at h2
  exact (Option.some.inj h2).symm

/-- "no collisions" for the dependency chain: those of the key construction, and distinct keys
    get distinct cache directories -/
structure DEnv.Inj (e : DEnv κ σ δ) (W : J → Prop) : Prop where
  env : e.toEnv.Inj W
  dir : Function.Injective e.dir

/-- `DEnv.Inj` relative to a set of keys, see `Env.InjOn` -/
structure DEnv.InjOn (e : DEnv κ σ δ) (V : κ → Prop) (W : J → Prop) : Prop where
  env : e.toEnv.InjOn V W
  dir : ∀ a b, V a → V b → e.dir a = e.dir b → a = b

theorem DEnv.Inj.on {e : DEnv κ σ δ} {W : J → Prop} (hi : e.Inj W) : e.InjOn (fun _ => True) W :=
  ⟨hi.env.on, fun _ _ _ _ h => hi.dir h⟩

/-- The shape of the regenerated description of applyDependencyHash that the model and the proofs
    rest on.  The proofs use `render` (all 256 bits) and `sep` (the labels of a chain object differ
    from a label that every base key carries).  `comb`, `iterative` and `guard` are used by no proof:
    `nextKey` and `resolve` are written for that shape (the hash of ONE labelled object per step, a
    loop with the visited-directory guard); these fields stop the build when the description no
    longer says so. -/
structure ChainShape : Prop where
  comb : Gen.chainComb = Comb.labelled
  render : Gen.chainRender = Render.full
  iterative : Gen.chainIterative = true
  guard : Gen.chainVisitedGuard = true
  sep : (Gen.setupParts.any fun lp =>
          lp.2.1 == KeyPart.deviceHash && lp.1 != Gen.chainHashLabel && lp.1 != Gen.chainDepsLabel) = true

theorem chainShape : ChainShape := by
  constructor <;> decide

/-- the object hashed for the next key of the chain -/
def chainObj (e : DEnv κ σ δ) (K : κ) (cur : List (String × κ)) : J :=
  mkObj [(Gen.chainHashLabel, render e.toEnv Gen.chainRender K),
         (Gen.chainDepsLabel,
          J.obj (mkMap (cur.map fun ph => (ph.1, render e.toEnv Gen.chainRender ph.2))))]

theorem nextKey_eq (e : DEnv κ σ δ) (K : κ) (cur : List (String × κ)) :
    nextKey e K cur = e.H (e.enc (chainObj e K cur)) := rfl

/-- the keys applyDependencyHash can reach from the base key of a configuration, with the
    number of steps -/
inductive ChainN (e : DEnv κ σ δ) (W : J → Prop) (c : Config) : Nat → κ → Prop
  | base : ChainN e W c 0 (baseKey e.toEnv c)
  | next {n : Nat} {K : κ} (cur : List (String × κ)) (hw : W (chainObj e K cur)) :
      ChainN e W c n K → ChainN e W c (n + 1) (nextKey e K cur)

theorem chain_render_full (e : DEnv κ σ δ) : render e.toEnv Gen.chainRender = e.full := by
  rw [chainShape.render]; rfl

section
variable (e : DEnv κ σ δ) {V : κ → Prop} {W : J → Prop} (hi : e.InjOn V W)
include hi

/-- a base key object carries a label (that of the device hash) that the chain objects do not have -/
theorem nextKey_ne_base (c : Config) (o : Config.Ok e.toEnv W c) (K : κ) (cur : List (String × κ))
    (hw : W (chainObj e K cur)) : nextKey e K cur ≠ baseKey e.toEnv c := by
  intro h
  obtain ⟨⟨l, q, g⟩, hlp, hp⟩ := List.any_eq_true.mp chainShape.sep
  simp only [Bool.and_eq_true, bne_iff_ne, ne_eq, beq_iff_eq] at hp
  obtain ⟨⟨rfl, hp2⟩, hp3⟩ := hp
  have h2 := lookup_of_mkObj_eq (hi.env.enc _ _ hw o.key (hi.env.H h)) l
  rw [lookup_partList _ _ hlp, lookup_cons_eq, lookup_cons_eq, if_neg hp2, if_neg hp3] at h2
  cases h2

theorem ChainN.mem {c : Config} {n : Nat} {K : κ} (h : ChainN e W c n K) : V K := by
  cases h <;> exact hi.env.hashV _

theorem nextKey_inj {K K' : κ} (hK : V K) (hK' : V K') {cur cur' : List (String × κ)}
    (hw : W (chainObj e K cur)) (hw' : W (chainObj e K' cur'))
    (h : nextKey e K cur = nextKey e K' cur') : K = K' := by
  have h2 := lookup_of_mkObj_eq (hi.env.enc _ _ hw hw' (hi.env.H h)) Gen.chainHashLabel
  simp only [lookup_cons_eq, chain_render_full] at h2
  exact hi.env.full _ _ hK hK' (Option.some.inj h2)

theorem chain_unique {c c' : Config} (o : Config.Ok e.toEnv W c) (o' : Config.Ok e.toEnv W c')
    {n : Nat} {K : κ} (h1 : ChainN e W c n K) :
    ∀ {m : Nat}, ChainN e W c' m K → n = m ∧ baseKey e.toEnv c = baseKey e.toEnv c' := by
  induction h1 with
  | base =>
    intro m h2
    generalize hk : baseKey e.toEnv c = K' at h2
    cases h2 with
    | base => exact ⟨rfl, rfl⟩
    | next cur hw h2' => exact absurd hk.symm (nextKey_ne_base e hi c o _ cur hw)
  | next cur hw h1' ih =>
    intro m h2
    generalize hk : nextKey e _ cur = K' at h2
    cases h2 with
    | base => exact absurd hk (nextKey_ne_base e hi c' o' _ cur hw)
    | next cur' hw' h2' =>
      cases nextKey_inj e hi (h1'.mem e hi) (h2'.mem e hi) hw hw' hk
      exact ⟨congrArg (· + 1) (ih h2').1, (ih h2').2⟩

end

/-- what C07 asks of the outcome `o` of building `c` under the files `fs`: a binary that is run, found
    or compiled, is the compiler's for `c` and the present expansion; a rejection means there is no
    expansion; the key resolution did not fail -/
def Current (e : DEnv κ σ δ) (compile : String × List (Option J) → List (String × String) → β)
    (fs : FS) (c : Config) (o : Outcome β) : Prop :=
  (∀ b, (o = .hit b ∨ o = .miss b) →
      ∃ x, expand e.incl fs e.depth (e.incl c.src) = some x ∧ b = compile c.view x) ∧
  (o = .parseError → expand e.incl fs e.depth (e.incl c.src) = Option.none) ∧
  o ≠ .chainError

section
variable {e : DEnv κ σ δ} {compile : String × List (Option J) → List (String × String) → β} {fs : FS}
  {c : Config}

theorem current_hit {x : List (String × String)} (hx : expand e.incl fs e.depth (e.incl c.src) = some x) :
    Current e compile fs c (.hit (compile c.view x)) :=
  ⟨fun _ hb => ⟨x, hx, (Outcome.hit.inj (hb.resolve_right nofun)).symm⟩, nofun, nofun⟩

theorem current_miss {x : List (String × String)} (hx : expand e.incl fs e.depth (e.incl c.src) = some x) :
    Current e compile fs c (.miss (compile c.view x)) :=
  ⟨fun _ hb => ⟨x, hx, (Outcome.miss.inj (hb.resolve_left nofun)).symm⟩, nofun, nofun⟩

theorem current_parseError (hx : expand e.incl fs e.depth (e.incl c.src) = Option.none) :
    Current e compile fs c .parseError :=
  ⟨nofun, fun _ => hx, nofun⟩

end

variable [DecidableEq κ]

theorem scanDeps_unchanged (e : DEnv κ σ δ) (fs : FS) (deps : List (String × κ)) :
    (scanDeps e fs deps).2 = false →
      ∀ p h, (p, h) ∈ deps → ∃ txt, fs p = some txt ∧ e.H (e.raw txt) = h := by
  fun_induction scanDeps e fs deps with
  | case1 => nofun
  | case2 q hq t r txt hfs ih =>
    intro hs p h hm
    simp only [Bool.or_eq_false_iff, decide_eq_false_iff_not, ne_eq, Decidable.not_not] at hs
    rcases List.mem_cons.mp hm with e' | m
    · cases e'; exact ⟨txt, hfs, hs.2⟩
    · exact ih hs.1 p h m
  | case3 => nofun

theorem scanDeps_paths (e : DEnv κ σ δ) (fs : FS) (deps : List (String × κ)) :
    ∀ ph ∈ (scanDeps e fs deps).1, ∃ h, (ph.1, h) ∈ deps := by
  fun_induction scanDeps e fs deps with
  | case1 => nofun
  | case2 q hq t r txt hfs ih =>
    intro ph hm
    rcases List.mem_cons.mp hm with e' | m
    · exact ⟨hq, e' ▸ List.mem_cons_self⟩
    · exact (ih ph m).imp fun _ => List.mem_cons_of_mem _
  | case3 q hq t r hfs ih => exact fun ph hm => (ih ph hm).imp fun _ => List.mem_cons_of_mem _

/-- the idea of C07: an expansion all of whose recorded hashes the scan finds unchanged is the
    expansion under the present files -/
theorem expand_of_scan_unchanged (e : DEnv κ σ δ) {V : κ → Prop} {W : J → Prop} (hi : e.InjOn V W)
    (fs fs' : FS) (n : Nat) (ps : List String) (x : List (String × String))
    (hx : expand e.incl fs' n ps = some x) (hs : (scanDeps e fs (depsOf e x)).2 = false) :
    expand e.incl fs n ps = some x :=
  expand_congr e.incl fs fs' n ps x hx fun p t hm => by
    obtain ⟨txt, hfs, hh⟩ := scanDeps_unchanged e fs _ hs p _ (mem_depsOf e fs' n ps x hx p t hm)
    rw [hfs, hi.env.raw (hi.env.H hh)]

variable [DecidableEq δ]

/-- every chain object that can arise while resolving against this cache under this file system
    lies in `W` -/
def CacheW (e : DEnv κ σ δ) (W : J → Prop) (fs : FS) (cache : Cache κ δ β) : Prop :=
  ∀ d ent K, cache.lookup d = some ent → W (chainObj e K (scanDeps e fs ent.deps).1)

theorem cacheW_all {e : DEnv κ σ δ} {fs : FS} {cache : Cache κ δ β} : CacheW e (fun _ => True) fs cache :=
  fun _ _ _ _ => trivial

theorem resolve_none (e : DEnv κ σ δ) (fs : FS) {cache : Cache κ δ β} (n : Nat) (vis : List δ) {K : κ}
    (hl : cache.lookup (e.dir K) = Option.none) : resolve e fs cache (n + 1) vis K = .found K := by
  rw [resolve, hl]

theorem resolve_some (e : DEnv κ σ δ) (fs : FS) {cache : Cache κ δ β} (n : Nat) (vis : List δ) {K : κ}
    {ent : Entry κ β} (hl : cache.lookup (e.dir K) = some ent) :
    resolve e fs cache (n + 1) vis K =
      if (scanDeps e fs ent.deps).2 = false then .found K
      else if e.dir K ∈ vis then .cycle K
      else resolve e fs cache n (e.dir K :: vis) (nextKey e K (scanDeps e fs ent.deps).1) := by
  rw [resolve, hl]

/-- the bound holds whatever the hash function: the visited directories are distinct directories
    of the cache -/
theorem resolve_fuel (e : DEnv κ σ δ) (fs : FS) (cache : Cache κ δ β) (fuel : Nat) (vis : List δ) (K : κ) :
    vis.Nodup → (∀ d ∈ vis, d ∈ cache.map (·.1)) →
      cache.length + 1 ≤ fuel + vis.length → resolve e fs cache fuel vis K ≠ .outOfFuel := by
  fun_induction resolve e fs cache fuel vis K with
  | case1 vis K =>
    intro hnd hsub hlen
    have := List.Nodup.length_le_of_subset hnd hsub
    rw [List.length_map] at this
    omega
  | case2 | case3 | case4 => exact fun _ _ _ => nofun
  | case5 n vis K ent hl r hs hv ih =>
    intro hnd hsub hlen
    refine ih (List.nodup_cons.mpr ⟨hv, hnd⟩) (fun d hd => ?_) (by rw [List.length_cons]; omega)
    rcases List.mem_cons.mp hd with rfl | m
    · exact List.mem_map_of_mem (f := (·.1)) (mem_of_lookup_eq_some hl)
    · exact hsub d m

theorem resolve_found_spec (e : DEnv κ σ δ) (fs : FS) (cache : Cache κ δ β) (fuel : Nat) (vis : List δ)
    (K : κ) {K' : κ} : resolve e fs cache fuel vis K = .found K' →
      ∀ ent, cache.lookup (e.dir K') = some ent → (scanDeps e fs ent.deps).2 = false := by
  fun_induction resolve e fs cache fuel vis K with
  | case1 | case4 => nofun
  | case2 n vis K hl => intro h ent he; cases h; rw [hl] at he; cases he
  | case3 n vis K ent hl r hs => intro h ent' he; cases h; rw [hl] at he; cases he; exact hs
  | case5 n vis K ent hl r hs hv ih => exact ih

/-- every cache entry was compiled for some configuration, under a key of that configuration's
    chain, from the expansion whose files and hashes it records -/
def Inv (e : DEnv κ σ δ) (W : J → Prop) (compile : String × List (Option J) → List (String × String) → β)
    (cache : Cache κ δ β) : Prop :=
  ∀ d ent, cache.lookup d = some ent →
    ∃ (c' : Config) (n : Nat) (K : κ) (fs' : FS) (x : List (String × String)),
      Config.Ok e.toEnv W c' ∧
      ChainN e W c' n K ∧ e.dir K = d ∧ expand e.incl fs' e.depth (e.incl c'.src) = some x ∧
      ent.deps = depsOf e x ∧ ent.bin = compile c'.view x

theorem build_of_found (e : DEnv κ σ δ) (compile : String × List (Option J) → List (String × String) → β)
    (fs : FS) (cache : Cache κ δ β) (c : Config) {K : κ}
    (hres : resolve e fs cache (cache.length + 1) [] (baseKey e.toEnv c) = .found K) :
    build e compile fs cache c =
      match cache.lookup (e.dir K) with
      | some ent => (cache, .hit ent.bin, some K)
      | Option.none =>
        match expand e.incl fs e.depth (e.incl c.src) with
        | Option.none => (cache, .parseError, some K)
        | some x => ((e.dir K, { deps := depsOf e x, bin := compile c.view x }) :: cache,
            .miss (compile c.view x), some K) := by
  unfold build
  rw [hres]
  rfl

theorem found_of_hit (e : DEnv κ σ δ) (compile : String × List (Option J) → List (String × String) → β)
    (fs : FS) (cache : Cache κ δ β) (c : Config) {b : β} (h : (build e compile fs cache c).2.1 = .hit b) :
    ∃ K ent, resolve e fs cache (cache.length + 1) [] (baseKey e.toEnv c) = .found K ∧
      cache.lookup (e.dir K) = some ent ∧ ent.bin = b := by
  cases hres : resolve e fs cache (cache.length + 1) [] (baseKey e.toEnv c) with
  | outOfFuel | cycle =>
    unfold build at h
    rw [hres] at h
    cases h
  | found K =>
    rw [build_of_found e compile fs cache c hres] at h
    split at h
    · next ent hl => exact ⟨K, ent, rfl, hl, Outcome.hit.inj h⟩
    · split at h <;> cases h

section
variable (e : DEnv κ σ δ) {V : κ → Prop} {W : J → Prop} (hi : e.InjOn V W)
  (compile : String × List (Option J) → List (String × String) → β)
include hi

/-- started on the chain of a configuration, the loop stays on it, and without collisions it
    never comes back to a directory it left: the directories it left belong to earlier keys of the
    chain, and a key occurs on a chain only once -/
theorem resolve_on_chain (fs : FS) (cache : Cache κ δ β) (hcw : CacheW e W fs cache) (c : Config)
    (o : Config.Ok e.toEnv W c) (fuel : Nat) (vis : List δ) (K : κ) :
    ∀ i, ChainN e W c i K → (∀ d ∈ vis, ∃ j K'', j < i ∧ ChainN e W c j K'' ∧ e.dir K'' = d) →
      (∀ K', resolve e fs cache fuel vis K = .found K' → ∃ j, ChainN e W c j K') ∧
      ∀ K', resolve e fs cache fuel vis K ≠ .cycle K' := by
  fun_induction resolve e fs cache fuel vis K with
  | case1 => exact fun _ _ _ => ⟨nofun, nofun⟩
  | case2 | case3 => exact fun i hc _ => ⟨fun K' h => ⟨i, Res.found.inj h ▸ hc⟩, nofun⟩
  | case4 n vis K ent hl r hs hv =>
    intro i hc hvis
    obtain ⟨j, K'', hj, hc'', hd⟩ := hvis _ hv
    cases hi.dir _ _ (hc''.mem e hi) (hc.mem e hi) hd
    exact absurd (chain_unique e hi o o hc'' hc).1 (Nat.ne_of_lt hj)
  | case5 n vis K ent hl r hs hv ih =>
    intro i hc hvis
    refine ih (i + 1) (.next _ (hcw _ ent K hl) hc) fun d hd => ?_
    rcases List.mem_cons.mp hd with e' | m
    · exact ⟨i, K, Nat.lt_succ_self i, hc, e'.symm⟩
    · exact (hvis d m).imp fun j => Exists.imp fun K'' h => ⟨Nat.lt_succ_of_lt h.1, h.2⟩

theorem resolve_base (fs : FS) (cache : Cache κ δ β) (hcw : CacheW e W fs cache) (c : Config)
    (o : Config.Ok e.toEnv W c) :
    ∃ K j, resolve e fs cache (cache.length + 1) [] (baseKey e.toEnv c) = .found K ∧ ChainN e W c j K := by
  have hchain := resolve_on_chain e hi fs cache hcw c o (cache.length + 1) [] _ 0 .base nofun
  cases hres : resolve e fs cache (cache.length + 1) [] (baseKey e.toEnv c) with
  | outOfFuel => exact absurd hres (resolve_fuel e fs cache _ [] _ List.nodup_nil nofun (Nat.le_refl _))
  | cycle K => exact absurd hres (hchain.2 K)
  | found K =>
    obtain ⟨j, hch⟩ := hchain.1 K hres
    exact ⟨K, j, rfl, hch⟩

theorem build_current (fs : FS) (cache : Cache κ δ β) (hinv : Inv e W compile cache)
    (hcw : CacheW e W fs cache) (c : Config) (o : Config.Ok e.toEnv W c) :
    Inv e W compile (build e compile fs cache c).1 ∧ Current e compile fs c (build e compile fs cache c).2.1 := by
  obtain ⟨K, j, hres, hch⟩ := resolve_base e hi fs cache hcw c o
  rw [build_of_found e compile fs cache c hres]
  cases hl : cache.lookup (e.dir K) with
  | some ent =>
    -- the entry was built for a configuration with the same key, hence the same view, from an
    -- expansion whose files the scan found unchanged
    obtain ⟨c', n, K0, fs', x, o', hc0, hd0, hx0, hdeps, hbin⟩ := hinv _ _ hl
    cases hi.dir _ _ (hc0.mem e hi) (hch.mem e hi) hd0
    have hview := view_eq_of_baseKey_eq e.toEnv hi.env o' o (chain_unique e hi o' o hc0 hch).2
    have hx := expand_of_scan_unchanged e hi fs fs' _ _ x hx0
      (hdeps ▸ resolve_found_spec e fs cache _ _ _ hres ent hl)
    rw [show c'.src = c.src from congrArg Prod.fst hview] at hx
    show _ ∧ Current e compile fs c (.hit ent.bin)
    rw [hbin, hview]
    exact ⟨hinv, current_hit hx⟩
  | none =>
    cases hx : expand e.incl fs e.depth (e.incl c.src) with
    | none => exact ⟨hinv, current_parseError hx⟩
    | some x =>
      refine ⟨fun d ent hlk => ?_, current_miss hx⟩
      rw [lookup_cons_eq] at hlk
      split at hlk
      · next hd =>
        cases hlk
        exact ⟨c, j, K, fs, x, o, hch, hd.symm, hx, rfl, rfl⟩
      · exact hinv d ent hlk

-- `W` holds the chain objects of every cache that satisfies the invariant (asked of all of them: which
-- caches a history reaches is what is being proved)
variable (hcw : ∀ (cache : Cache κ δ β) (fs : FS), Inv e W compile cache → CacheW e W fs cache)
include hcw

theorem inv_run : ∀ (ops : List Op) (s : State κ δ β), (∀ c, Op.build c ∈ ops → Config.Ok e.toEnv W c) →
      Inv e W compile s.cache → Inv e W compile (run e compile s ops).cache
  | [], _, _, h => h
  | op :: ops, s, ho, h => by
    refine inv_run ops _ (fun c hc => ho c (List.mem_cons_of_mem _ hc)) ?_
    cases op with
    | write | remove => exact h
    | build c =>
      exact (build_current e hi compile s.fs s.cache h (hcw _ _ h) c (ho c List.mem_cons_self)).1

theorem run_current (fs0 : FS) (ops : List Op) (ho : ∀ c, Op.build c ∈ ops → Config.Ok e.toEnv W c)
    (c : Config) (o : Config.Ok e.toEnv W c) :
    let s := run e compile { fs := fs0, cache := [] } ops
    Current e compile s.fs c (build e compile s.fs s.cache c).2.1 :=
  have hinv := inv_run e hi compile hcw ops ⟨fs0, []⟩ ho nofun
  (build_current e hi compile _ _ hinv (hcw _ _ hinv) c o).2

end

/-- applyDependencyHash before the repair of F11, with the reason why it could not terminate: the
    current hashes of the recorded files are folded into the key with one binary operation
    (`hash_t::operator^`) and the function recurses, without any memory of the keys it has seen -/
def foldResolve (e : DEnv κ σ δ) (op : κ → κ → κ) (fs : FS) (cache : Cache κ δ β) : Nat → κ → Res κ
  | 0, _ => .outOfFuel
  | n + 1, K =>
    match cache.lookup (e.dir K) with
    | Option.none => .found K
    | some ent =>
      if (scanDeps e fs ent.deps).2 = false then .found K
      else foldResolve e op fs cache n (((scanDeps e fs ent.deps).1.map (·.2)).foldl op K)

end Occa.DepHash
