/-
The loops of `primitive::load` over the characters of a literal.  Each looks at one character at a time.  The
proofs know that character as a member of an explicit list (a digit: `hexChars`, `decChars`; what stands after a
part of a literal: `hd s ∈ L`), and what a loop does with it is evaluated over the list.  A digit string is read
as its Horner value in uint64_t.
-/
import OccaProofs.Lemmas.PrimInt
namespace Occa.Prim.Lemmas
open Occa Occa.CExpr Occa.CxxSem Occa.Gen Occa.Prim

theorem digit_ascii {r : Nat} {c : Char} (h : isDigitOf r c = true) : c.toNat < 128 := by
  simp only [isDigitOf, Bool.and_eq_true, decide_eq_true_eq] at h
  rcases h.1 with h1 | h1 | h1 <;>
  · have : c.toNat ≤ _ := h1.2
    simp at this
    omega

theorem digit_mono {r s : Nat} (hrs : r ≤ s) {c : Char} (h : isDigitOf r c = true) : isDigitOf s c = true := by
  simp only [isDigitOf, Bool.and_eq_true, decide_eq_true_eq] at h ⊢
  exact ⟨h.1, by omega⟩

theorem digitVal_lt {r : Nat} {c : Char} (h : isDigitOf r c = true) : digitVal c < r := by
  simp only [isDigitOf, Bool.and_eq_true, decide_eq_true_eq] at h
  exact h.2

def hexChars : List Char :=
  ['0', '1', '2', '3', '4', '5', '6', '7', '8', '9', 'a', 'b', 'c', 'd', 'e', 'f', 'A', 'B', 'C', 'D', 'E', 'F']

def decChars : List Char := ['0', '1', '2', '3', '4', '5', '6', '7', '8', '9']

theorem hex_table : ∀ n, n < 128 → (!isDigitOf 16 (Char.ofNat n) || hexChars.contains (Char.ofNat n)) = true := by
  decide +kernel

theorem digit_mem {r : Nat} {c : Char} (hr : r ≤ 16) (h : isDigitOf r c = true) : c ∈ hexChars := by
  have := hex_table c.toNat (digit_ascii h)
  rw [Char.ofNat_toNat] at this
  simpa [digit_mono hr h] using this

theorem dec_digit {c : Char} (h : isDigitOf 10 c = true) : c ∈ decChars :=
  (by decide +kernel : ∀ c ∈ hexChars, digitVal c < 10 → c ∈ decChars) c (digit_mem (by decide) h) (digitVal_lt h)

theorem dec_step : ∀ c ∈ decChars, ('0' ≤ c ∧ c ≤ '9') ∧ c.toNat - '0'.toNat = digitVal c := by decide +kernel

def horner (r : Nat) (v : Nat) (ds : List Char) : Nat := ds.foldl (fun acc c => acc * r + digitVal c) v
def hornerMod (r : Nat) (v : Nat) (ds : List Char) : Nat := ds.foldl (fun acc c => (acc * r + digitVal c) % two64) v

theorem horner_ge {r : Nat} (hr : 1 ≤ r) (ds : List Char) : ∀ v, v ≤ horner r v ds := by
  induction ds with
  | nil => intro v; exact Nat.le_refl _
  | cons c t ih =>
    intro v
    have h1 : v ≤ v * r + digitVal c := by
      have := Nat.le_mul_of_pos_right v hr
      omega
    exact Nat.le_trans h1 (ih _)

theorem hornerMod_exact {r : Nat} (hr : 1 ≤ r) (ds : List Char) : ∀ v, horner r v ds < two64 → hornerMod r v ds = horner r v ds := by
  induction ds with
  | nil => intro v _; rfl
  | cons c t ih =>
    intro v h
    have h' : horner r (v * r + digitVal c) t < two64 := h
    have hlt : v * r + digitVal c < two64 := Nat.lt_of_le_of_lt (horner_ge hr t _) h'
    show hornerMod r ((v * r + digitVal c) % two64) t = horner r (v * r + digitVal c) t
    rw [Nat.mod_eq_of_lt hlt]
    exact ih _ h'

theorem horner_lt {r : Nat} (ds : List Char) (hdig : ∀ c ∈ ds, digitVal c < r) :
    ∀ v, horner r v ds < (v + 1) * r ^ ds.length := by
  induction ds with
  | nil => intro v; simp [horner]
  | cons c t ih =>
    intro v
    have hc : digitVal c < r := hdig c (by simp)
    have := ih (fun x hx => hdig x (by simp [hx])) (v * r + digitVal c)
    show horner r (v * r + digitVal c) t < (v + 1) * r ^ (t.length + 1)
    have h2 : (v * r + digitVal c + 1) * r ^ t.length ≤ (v + 1) * r ^ (t.length + 1) := by
      rw [Nat.pow_succ, ← Nat.mul_assoc, Nat.mul_right_comm]
      apply Nat.mul_le_mul_right
      have : (v + 1) * r = v * r + r := by rw [Nat.add_mul]; simp
      omega
    omega

/-- `digitsVal r ds` is `horner r 0 ds` -/
theorem hornerMod_digitsVal {r : Nat} (hr : 1 ≤ r) {ds : List Char} (h : digitsVal r ds < two64) :
    hornerMod r 0 ds = digitsVal r ds :=
  hornerMod_exact hr ds 0 h

theorem digitsVal_lt {r : Nat} {ds : List Char} (hdig : ∀ c ∈ ds, isDigitOf r c = true) :
    digitsVal r ds < r ^ ds.length := by
  have := horner_lt ds (fun c hc => digitVal_lt (hdig c hc)) 0
  rwa [Nat.zero_add, Nat.one_mul] at this

theorem scan_digits {scan : List Char → Nat → Nat → Nat × Nat × List Char} {r : Nat}
    (step : ∀ c, isDigitOf r c = true → ∀ t v n, scan (c :: t) v n = scan t ((v * r + digitVal c) % two64) (n + 1))
    (ds : List Char) (hdig : ∀ c ∈ ds, isDigitOf r c = true) (rest : List Char)
    (hs : ∀ v n, scan rest v n = (v, n, rest)) :
    ∀ v n, scan (ds ++ rest) v n = (hornerMod r v ds, n + ds.length, rest) := by
  induction ds with
  | nil => intro v n; simpa [hornerMod] using hs v n
  | cons c t ih =>
    intro v n
    rw [List.cons_append, step c (hdig c (by simp)), ih (fun x hx => hdig x (by simp [hx]))]
    simp [hornerMod, Nat.add_assoc, Nat.add_comm 1]

def hexStep (c : Char) : Option Nat :=
  let C := upper c
  if '0' ≤ C ∧ C ≤ '9' then some (C.toNat - '0'.toNat)
  else if 'A' ≤ C ∧ C ≤ 'F' then some (10 + C.toNat - 'A'.toNat) else none

theorem scanHex_cons (c : Char) (r : List Char) (v n : Nat) :
    scanHex (c :: r) v n =
      match hexStep c with
      | some d => scanHex r ((v * 16 + d) % two64) (n + 1)
      | none => (v, n, c :: r) := by
  simp only [scanHex, hexStep]
  split
  · simp
  · split <;> simp

theorem scanHex_step (c : Char) (h : isDigitOf 16 c = true) (t : List Char) (v n : Nat) :
    scanHex (c :: t) v n = scanHex t ((v * 16 + digitVal c) % two64) (n + 1) := by
  rw [scanHex_cons, (by decide +kernel : ∀ c ∈ hexChars, hexStep c = some (digitVal c)) c (digit_mem (Nat.le_refl _) h)]

theorem scanBin_step (c : Char) (h : isDigitOf 2 c = true) (t : List Char) (v n : Nat) :
    scanBin (c :: t) v n = scanBin t ((v * 2 + digitVal c) % two64) (n + 1) := by
  obtain ⟨h1, h2⟩ := (by decide +kernel : ∀ c ∈ hexChars, digitVal c < 2 → (c = '0' ∨ c = '1') ∧ c.toNat - '0'.toNat = digitVal c)
    c (digit_mem (by decide) h) (digitVal_lt h)
  simp only [scanBin, h1, if_true, h2]

theorem scanDigits_run (ds : List Char) (hdig : ∀ c ∈ ds, isDigitOf 10 c = true) (rest : List Char) :
    ∀ k b, scanDigits (ds ++ rest) k b = scanDigits rest (k + ds.length) b := by
  induction ds with
  | nil => intro k b; simp
  | cons c t ih =>
    intro k b
    rw [List.cons_append]
    simp only [scanDigits, (dec_step c (dec_digit (hdig c (by simp)))).1, and_self, if_true]
    rw [ih (fun x hx => hdig x (by simp [hx]))]
    simp [Nat.add_assoc, Nat.add_comm 1]

/-- what can follow a literal inside an expression (the end of the text is `[]`) -/
def termChars : List Char :=
  [' ', '\t', '\n', ')', ']', '}', '+', '-', '*', '/', '%', '<', '>', '=', '!', '&', '|', '^', '?', ':', ',', ';', '~']

def Term (rest : List Char) : Prop := rest = [] ∨ ∃ c t, rest = c :: t ∧ c ∈ termChars

/-! Where a part of a literal ends: `hd s` is `*c` (NUL at the end of the text), `L` lists what it can be there, and
    a loop's stop lemma evaluates the loop's test over `L` at the place of use. -/

def sufChars : List Char := ['u', 'U', 'l', 'L']
def endChars : List Char := Char.ofNat 0 :: termChars

theorem Term.hd {rest : List Char} (h : Term rest) : Prim.hd rest ∈ endChars := by
  rcases h with rfl | ⟨c, t, rfl, hc⟩
  · exact List.mem_cons_self
  · exact List.mem_cons_of_mem _ hc

theorem hd_append {a b A B : List Char} (ha : ∀ c ∈ a, c ∈ A) (hb : Prim.hd b ∈ B) : Prim.hd (a ++ b) ∈ A ++ B := by
  cases a with
  | nil => exact List.mem_append_right _ hb
  | cons c t => exact List.mem_append_left _ (ha c List.mem_cons_self)

theorem hd_mem {a A : List Char} (ha : ∀ c ∈ a, c ∈ A) : Prim.hd a ∈ Char.ofNat 0 :: A := by
  cases a with
  | nil => exact List.mem_cons_self
  | cons c t => exact List.mem_cons_of_mem _ (ha c List.mem_cons_self)

theorem scanHex_stop {s L : List Char} (h : Prim.hd s ∈ L) (hL : ∀ c ∈ L, hexStep c = none := by decide +kernel) {v n : Nat} :
    scanHex s v n = (v, n, s) := by
  cases s with
  | nil => rfl
  | cons c t => rw [scanHex_cons, hL c h]

theorem scanBin_stop {s L : List Char} (h : Prim.hd s ∈ L) (hL : ∀ c ∈ L, c ≠ '0' ∧ c ≠ '1' := by decide +kernel) {v n : Nat} :
    scanBin s v n = (v, n, s) := by
  cases s with
  | nil => rfl
  | cons c t => simp [scanBin, hL c h]

theorem scanDigits_stop {s L : List Char} (h : Prim.hd s ∈ L)
    (hL : ∀ c ∈ L, ¬ ('0' ≤ c ∧ c ≤ '9') ∧ c ≠ '.' := by decide +kernel) {k : Nat} {b : Bool} : scanDigits s k b = (k, b, s) := by
  cases s with
  | nil => rfl
  | cons c t => simp [scanDigits, hL c h]

theorem scanSuffix_stop (loadRec : List Char → Prim × List Char) (fmt : Bool) {s L : List Char} (h : Prim.hd s ∈ L)
    (hL : ∀ c ∈ L, upper c ≠ 'L' ∧ upper c ≠ 'U' ∧ upper c ≠ 'E' ∧ upper c ≠ 'F' := by decide +kernel) (st : Suffix) :
    scanSuffix loadRec fmt s st = { st with rest := s } := by
  cases s with
  | nil => rfl
  | cons c t => simp [scanSuffix, hL c h]

/-! `IntLit.longs` and `IntLit.isUnsigned` of a literal whose suffix is `suf`, by definition: `load_intlit` passes
    from the one to the other without a rewrite. -/

def sufLongs (suf : List Char) : Nat := (suf.filter (fun c => c = 'l' ∨ c = 'L')).length
def sufUnsigned (suf : List Char) : Bool := suf.any (fun c => c = 'u' ∨ c = 'U')

theorem scanSuffix_suffix (loadRec : List Char → Prim × List Char) (fmt : Bool) (suf rest : List Char)
    (hs : ∀ c ∈ suf, c ∈ sufChars) (hr : Term rest) :
    ∀ st : Suffix, scanSuffix loadRec fmt (suf ++ rest) st =
      { st with longs := st.longs + sufLongs suf, unsigned_ := st.unsigned_ || sufUnsigned suf, rest := rest } := by
  induction suf with
  | nil => intro st; simp [scanSuffix_stop loadRec fmt hr.hd, sufLongs, sufUnsigned]
  | cons c t ih =>
    intro st
    have iht := ih (fun x hx => hs x (by simp [hx]))
    have hup : upper 'u' = 'U' ∧ upper 'U' = 'U' ∧ upper 'l' = 'L' ∧ upper 'L' = 'L' := by decide
    have hc : c = 'u' ∨ c = 'U' ∨ c = 'l' ∨ c = 'L' := by simpa [sufChars] using hs c (by simp)
    rcases hc with rfl | rfl | rfl | rfl <;>
      simp [scanSuffix, hup, iht, sufLongs, sufUnsigned, Nat.add_assoc, Nat.add_comm 1]

end Occa.Prim.Lemmas
