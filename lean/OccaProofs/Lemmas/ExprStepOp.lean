/-
Operand tokens and the operators that are not brackets: whenever `shStep` accepts such a token in
a state related by `Inv`, the parser's `step` succeeds and `Inv` holds again, with the token
appended to the tokens readable from the parser's stacks.  A prefix operator pushes a frame; an
operator after an operand first lets `applyFasterOperators` reduce (`popFaster_spec`,
`popColon_spec`) and then pushes the frame that takes the operand left on top.
-/
import OccaProofs.Lemmas.ExprInv
import OccaProofs.Lemmas.ExprClassify

namespace Occa.Expr
open Occa.Gen

/-- the step of a token that is no bracket; `cur'` describes the current scope after it -/
theorem Inv.replace {s s' : Sh} {σ : St} {consumed : List Tok} {cur cur' : Lvl} {stk : List Lvl} {t p : Tok}
    {next : Option Tok} {need : Bool} {q : Nat} {c : Content} {out : List Expr} {ops : List OpNode}
    (hinv : Inv s σ consumed cur stk)
    (hs' : s' = { s with needOperand := need, pendingQ := q, content := c, prev := some p, prevCastEnd := false })
    (hstep : step σ t next =
      .ok { σ with cur := { σ.cur with out := out, ops := ops }, prev := some p, prevCastEnd := false })
    (hout : out = scopeOut cur'.fs cur'.top) (hops : ops = scopeOps cur'.fs) (hgood : cur'.Good)
    (hbase : cur'.base = cur.base) (htoks : cur'.toks = cur.toks ++ [t])
    (hmode : if need then PrevE s' cur' else PrevO s' cur')
    (hpend : q = questCount cur'.fs) (hcont : c = cur'.content) :
    Follows σ t next s' consumed := by
  subst hs'
  exact ⟨_, cur', stk, hstep, hinv.levels.replaceCur ⟨hout, hops⟩ hgood hbase rfl,
    by rw [hinv.toks, allToks_replace cur cur' stk [t] htoks], rfl, rfl, hmode, hpend, contentOk_iff.2 hcont⟩

theorem PrevE.pushFrame {s' : Sh} {l : Lvl} {fr : Frame} {pre' : List Frame} (hnp : fr.isPost = false)
    (hce : s'.prevCastEnd = false) (hprev : s'.prev = some (.op fr.node.op)) :
    PrevE s' { l with pre := fr :: pre', top := none } :=
  ⟨rfl, fun f hf => by cases hf; exact hnp, by rw [hce]; exact Or.inr ⟨fr, _, rfl, hprev⟩⟩

variable {s s' : Sh} {σ : St} {next : Option Tok} {consumed : List Tok} {cur : Lvl} {stk : List Lvl}

def contentAfter (c : Content) (t : Tok) : Content :=
  match c, t with
  | .empty, .vtype _ _ => .oneType
  | _, _ => .other

theorem shStep_operand (s : Sh) (t : Tok) (next : Option Tok) (h : tokIsOp t = false) :
    shStep s t next = if s.needOperand then
      some { s with needOperand := false, content := contentAfter s.content t, prev := some t, prevCastEnd := false }
    else none := by
  cases t <;> simp [tokIsOp] at h <;> rfl

theorem step_operand_eq (σ : St) (t : Tok) (next : Option Tok) (h : tokIsOp t = false) :
    step σ t next = .ok { σ with cur := { σ.cur with out := nodeOf t :: σ.cur.out }, prev := some t, prevCastEnd := false } := by
  cases t <;> simp [tokIsOp] at h <;> rfl

theorem nodeOf_facts (t : Tok) (h : tokIsOp t = false) :
    printToks (nodeOf t) = [t] ∧ colonLu (nodeOf t) = false ∧ canonB (nodeOf t) = true ∧ rootPrec (nodeOf t) = 0 ∧
    (∀ o, t ≠ .op o) := by
  cases t <;> simp [tokIsOp] at h <;> simp [nodeOf, printToks, colonLu, canonB, rootPrec]

theorem step_operand {t : Tok} (hinv : Inv s σ consumed cur stk) (ht : tokIsOp t = false)
    (hsh : shStep s t next = some s') :
    Follows σ t next s' consumed := by
  rw [shStep_operand s t next ht] at hsh
  cases hne : s.needOperand <;> simp only [hne, if_true, Bool.false_eq_true, if_false, reduceCtorEq, Option.some.injEq] at hsh
  subst hsh
  obtain ⟨htop, hnp, _⟩ := hinv.modeE hne
  obtain ⟨hrep, hgood⟩ := hinv.levels.cur_rep
  obtain ⟨nf1, nf2, nf3, nf4, nf5⟩ := nodeOf_facts t ht
  refine hinv.replace (cur' := { cur with top := some (nodeOf t) }) rfl (step_operand_eq σ t next ht) ?_ hrep.2
    (hgood.setTop nf2 nf3 nf4) rfl ?_ ?_ hinv.pending ?_
  · show nodeOf t :: σ.cur.out = scopeOut cur.fs (some (nodeOf t))
    rw [hrep.1, htop, scopeOut_some]
  · show scopeToks cur.fs (some (nodeOf t)) = scopeToks cur.fs cur.top ++ [t]
    rw [scopeToks_some, htop, nf1]
  · exact ⟨rfl, Or.inl ⟨rfl, hnp⟩, Or.inl ⟨rfl, Or.inl ⟨t, rfl, nf5⟩⟩⟩
  · show contentAfter s.content t = Lvl.content { cur with top := some (nodeOf t) }
    rw [contentOk_iff.1 hinv.content, Lvl.content, htop]
    cases cur.pre <;> cases t <;> simp [tokIsOp] at ht <;> rfl

theorem step_plain {σ : St} {o o' : Op} {out : List Expr} {ops : List OpNode}
    (h1 : has o.ty T.pairStart = false) (h2 : has o.ty T.pairEnd = false)
    (hres : resolve o σ.prev next σ.prevCastEnd = .ok o')
    (hpop : popFaster o' σ.prev σ.cur.out σ.cur.ops = .ok (out, ops)) :
    step σ (.op o) next =
      .ok { σ with cur := { σ.cur with out := out, ops := { op := o' } :: ops }, prev := some (.op o'), prevCastEnd := false } := by
  simp only [step, h1, h2, Bool.false_eq_true, if_false, hres, hpop]

theorem shStep_prefix {o : Op} (h1 : has o.ty T.pairStart = false) (h2 : has o.ty T.pairEnd = false)
    (hne : s.needOperand = true) (h : shStep s (.op o) next = some s') :
    ∃ o', resolveBy true o = some o' ∧ prefixOk o' = true ∧ next.isSome = true ∧ isPairEndTok next = false ∧
      prefixKeeps o' s = true ∧
      s' = { s with needOperand := true, content := .other, prev := some (.op o'), prevCastEnd := false } := by
  simp only [shStep, h1, h2, hne, Bool.false_eq_true, if_false, if_true] at h
  split at h
  · cases h
  rename_i o' hres
  split at h <;> cases h
  rename_i hcond
  simp only [Bool.and_eq_true, Bool.not_eq_true'] at hcond
  exact ⟨o', hres, hcond.1.1.1, hcond.1.1.2, hcond.1.2, hcond.2, rfl⟩

theorem shStep_infix {o : Op} (h1 : has o.ty T.pairStart = false) (h2 : has o.ty T.pairEnd = false)
    (hno : s.needOperand = false) (h : shStep s (.op o) next = some s') :
    ∃ o' need q, resolveBy false o = some o' ∧
      s' = { s with needOperand := need, pendingQ := q, content := .other, prev := some (.op o'), prevCastEnd := false } ∧
      ((o' = .questionMark ∧ need = true ∧ q = s.pendingQ + 1) ∨
       (o' = .colon ∧ need = true ∧ q = s.pendingQ - 1 ∧ s.pendingQ > 0) ∨
       (has o'.ty T.binary = true ∧ need = true ∧ q = s.pendingQ ∧ (isPostfixTok s.prev = true → 2 ≤ o'.prec)) ∨
       (has o'.ty T.rightUnary = true ∧ need = false ∧ q = s.pendingQ ∧
         (next.isNone = true ∨ isPairEndTok next = true ∨ isOperatorTok next = true) ∧
         (isPostfixTok s.prev = true → isIncDecTok next = false))) := by
  simp only [shStep, h1, h2, hno, Bool.false_eq_true, if_false] at h
  split at h
  · cases h
  rename_i o' hres
  by_cases hq : (o'.ty == T.questionMark) = true
  · simp only [hq, if_true, Option.some.injEq] at h
    exact ⟨o', _, _, hres, h.symm, Or.inl ⟨q_class o' hq, rfl, rfl⟩⟩
  simp only [hq, Bool.false_eq_true, if_false] at h
  by_cases hc : (o'.ty == T.colon) = true
  · simp only [hc, if_true] at h
    split at h <;> cases h
    exact ⟨o', _, _, hres, rfl, Or.inr (Or.inl ⟨c_class o' hc, rfl, rfl, ‹_›⟩)⟩
  simp only [hc, Bool.false_eq_true, if_false] at h
  by_cases hb : has o'.ty T.binary = true
  · simp only [hb, if_true] at h
    split at h <;> cases h
    rename_i hcond
    exact ⟨o', _, _, hres, rfl, Or.inr (Or.inr (Or.inl ⟨hb, rfl, rfl, fun hp => by simpa [hp] using hcond⟩))⟩
  simp only [hb, Bool.false_eq_true, if_false] at h
  split at h
  · rename_i hr
    split at h <;> cases h
    rename_i hcond
    simp only [Bool.and_eq_true, Bool.or_eq_true, Bool.not_eq_true', Bool.and_eq_false_iff] at hcond
    exact ⟨o', _, _, hres, rfl, Or.inr (Or.inr (Or.inr ⟨hr, rfl, rfl, by rcases hcond.1 with (h | h) | h <;> simp [h],
      fun hp => by simpa [hp] using hcond.2⟩))⟩
  · cases h

theorem step_prefix {o : Op} (hinv : Inv s σ consumed cur stk) (hreg : o ∈ registered)
    (h1 : has o.ty T.pairStart = false) (h2 : has o.ty T.pairEnd = false) (hne : s.needOperand = true)
    (hsh : shStep s (.op o) next = some s') :
    Follows σ (.op o) next s' consumed := by
  obtain ⟨o', hres, hpo, hnx, hnpe, hkeep, rfl⟩ := shStep_prefix h1 h2 hne hsh
  have hmode := hinv.modeE hne
  obtain ⟨hrep, hgood⟩ := hinv.levels.cur_rep
  obtain ⟨rf1, rf2, _⟩ := resolveBy_facts o hreg true o' hres
  -- the parser resolves the operator the same way
  have hresolve : resolve o σ.prev next σ.prevCastEnd = .ok o' :=
    resolve_eq (fun _ => isLeftUnary_E o _ next _ hnx hnpe
      (by rw [hinv.prev, hinv.castEnd]; exact hmode.prev_kind hgood)) hres
  -- nothing is reduced
  have hpop : popFaster o' σ.prev σ.cur.out σ.cur.ops = .ok (σ.cur.out, σ.cur.ops) := by
    rw [hrep.2]
    cases hfs : cur.fs with
    | nil => simp [scopeOps, popFaster]
    | cons f fs' => exact popFaster_keep _ _ _ _ _ (hmode.keeps hkeep f (hfs ▸ rfl)) hpo
  let fr := Frame.pre { op := o' }
  have ⟨htop, hnp, _⟩ := hmode
  refine hinv.replace (cur' := { cur with pre := fr :: cur.pre, top := none }) rfl (step_plain h1 h2 hresolve hpop) ?_ ?_
    ⟨?_, ?_, nofun, nofun⟩ rfl ?_ ?_ ?_ rfl
  · show σ.cur.out = scopeOut (fr :: cur.fs) none
    rw [hrep.1, htop]; simp [scopeOut, fr, Frame.outs]
  · show _ :: σ.cur.ops = scopeOps (fr :: cur.fs)
    rw [hrep.2]; rfl
  · exact hgood.frames.cons (show preOk o' = true by simp [preOk, hpo])
      (fun g hg => ⟨hnp g hg, accepts_of_keeps (hgood.frames.ok g (List.mem_of_mem_head? hg)) (hnp g hg) o'
        (hmode.keeps hkeep g hg)⟩) nofun nofun rfl
  · exact List.forall_mem_cons.2 ⟨rfl, hgood.noOpn⟩
  · show scopeToks (fr :: cur.fs) none = scopeToks cur.fs cur.top ++ [Tok.op o]
    rw [htop, scopeToks_cons]
    simp [fr, Frame.toks, pfxToks, rf2, topToks, lexedOp_of_str hreg rf1]
  · exact PrevE.pushFrame rfl rfl rfl
  · exact hinv.pending.trans (questCount_cons rfl cur.fs).symm

/-- `f` is a frame of the operator `o'` that owns the operand `e` to the left of it and nothing else -/
structure Frame.Takes (o' : Op) (e : Expr) (f : Frame) : Prop where
  node : f.node = { op := o' }
  outs : f.outs = [e]
  operands : f.operands = [e]
  toks : f.toks = printToks e ++ [.op (lexedOp o')]
  notOpn : f.isOpn = false
  lvl : f.lvl = o'.prec
  fit : f.fit = leftFits o'.prec (rootPrec e)
  ok : f.ok

/-- an operator after an operand other than `:` (binary, postfix, `?`): the parser resolves it the same way,
    `applyFasterOperators` leaves one operand `e` on top, and the frame `fr e` that takes it is pushed -/
theorem infix_push {o o' : Op} {need : Bool} {q : Nat} (hinv : Inv s σ consumed cur stk) (hreg : o ∈ registered)
    (h1 : has o.ty T.pairStart = false) (h2 : has o.ty T.pairEnd = false) (hno : s.needOperand = false)
    (hres : resolveBy false o = some o')
    (hs' : s' = { s with needOperand := need, pendingQ := q, content := .other, prev := some (.op o'),
                         prevCastEnd := false })
    (hcol : has o'.ty T.colon = false) (hprec1 : 1 ≤ o'.prec)
    (hprec : isPostfixTok s.prev = true → 2 ≤ o'.prec)
    (hnext : (has o.ty T.increment || has o.ty T.decrement) = true →
      (next.isNone = true ∨ isPairEndTok next = true ∨ isOperatorTok next = true) ∧
      (isPostfixTok s.prev = true → isIncDecTok next = false))
    (fr : Expr → Frame) (hfr : ∀ e, (fr e).Takes o' e)
    (hmode : ∀ pre' e, if need then PrevE s' { cur with pre := fr e :: pre', top := none }
                       else PrevO s' { cur with pre := fr e :: pre', top := none })
    (hpend : ∀ e fs, s.pendingQ = questCount fs → q = questCount (fr e :: fs)) :
    Follows σ (.op o) next s' consumed := by
  have hO := hinv.modeO hno
  obtain ⟨hrep, hgood⟩ := hinv.levels.cur_rep
  obtain ⟨hkinds, hnotpost⟩ := PrevO.kinds hO hgood
  obtain ⟨hce, hm, _⟩ := hO
  obtain ⟨rf1, _⟩ := resolveBy_facts o hreg false o' hres
  have hresolve : resolve o σ.prev next σ.prevCastEnd = .ok o' :=
    resolve_eq (fun _ => by rw [hinv.prev, hinv.castEnd, hce]; exact isLeftUnary_O o s.prev next hkinds hnext) hres
  obtain ⟨dropped, fs', e', hsplit, hred, hpop, hrdy, htk, hfit, hacc⟩ :=
    popFaster_spec o' σ.prev hcol cur.fs cur.top (hgood.ready hm)
      (fun f hf hfp => hprec (by
        cases hps : isPostfixTok s.prev
        · rw [hnotpost hps f hf] at hfp; cases hfp
        · rfl))
      (fun e he => by rw [(hgood.topCanon e he).2]; simp [leftFits]; omega)
  obtain ⟨pre', rfl, hpre⟩ := split_base cur.pre cur.base dropped fs' hsplit (fun f hf => reducible_notOpn (hred f hf))
  have hf := hfr e'
  refine hinv.replace (cur' := { cur with pre := fr e' :: pre', top := none }) hs'
    (step_plain h1 h2 hresolve (by rw [hrep.1, hrep.2]; exact hpop)) ?_ ?_ ⟨?_, ?_, nofun, nofun⟩ rfl ?_ (hmode pre' e') ?_ rfl
  · simp [Lvl.fs, scopeOut, hf.outs]
  · simp [Lvl.fs, scopeOps, hf.node]
  · exact hrdy.frames.cons hf.ok (fun g hg => ⟨hrdy.mode.head_notPost g hg, hf.lvl ▸ hacc g hg⟩)
      (by rw [hf.outs]; simpa using hrdy.topOk e' rfl) (by rw [hf.operands]; simpa using hrdy.topCanon e' rfl)
      (hf.fit ▸ hfit)
  · exact List.forall_mem_cons.2 ⟨hf.notOpn, fun f hf => hgood.noOpn f (by rw [hpre]; exact List.mem_append_right _ hf)⟩
  · show scopeToks (fr e' :: (pre' ++ baseFrames cur.base)) none = scopeToks cur.fs cur.top ++ _
    rw [scopeToks_cons, hf.toks, ← htk, scopeToks_some, lexedOp_of_str hreg rf1]; simp [topToks]
  · exact hpend e' (pre' ++ baseFrames cur.base) (by rw [hinv.pending, hsplit, questCount_reducible hred])

/-- `:` after an operand, with a `?` pending in the scope: everything down to that `?` is reduced and
    the two become one `colon` frame -/
theorem step_colon (hinv : Inv s σ consumed cur stk) (hno : s.needOperand = false) (hpq : s.pendingQ > 0) :
    Follows σ (.op .colon) next
      { s with needOperand := true, pendingQ := s.pendingQ - 1, content := .other, prev := some (.op .colon),
               prevCastEnd := false } consumed := by
  have hres := (resolve_nonAmb .colon σ.prev next σ.prevCastEnd false (by simp [c_facts])).1
  obtain ⟨hrep, hgood⟩ := hinv.levels.cur_rep
  obtain ⟨dropped, n, c, fs', t, hsplit, hred, hpop, htk, hct⟩ :=
    popColon_spec .colon σ.prev (by decide) cur.fs cur.top (hinv.ready hno) (by rw [← hinv.pending]; exact hpq)
  obtain ⟨pre', rfl, hpre⟩ := split_base cur.pre cur.base (dropped ++ [Frame.quest n c]) fs'
    (by rw [← Lvl.fs, hsplit]; simp) (fun f hf => by
      rcases List.mem_append.1 hf with hf | hf
      · exact reducible_notOpn (hred f hf)
      · cases List.mem_singleton.1 hf; rfl)
  have hq : FramesOk (Frame.quest n c :: (pre' ++ baseFrames cur.base)) := (hsplit ▸ hgood.frames).suffix
  have hnq : (n.op.ty == T.questionMark) = true := hq.ok _ (List.mem_cons_self ..)
  let fr := Frame.colon { op := .colon } c t n.op
  refine hinv.replace (cur' := { cur with pre := fr :: pre', top := none }) rfl
    (step_plain (by decide) (by decide) hres (by rw [hrep.1, hrep.2]; exact hpop)) ?_ ?_ ⟨?_, ?_, nofun, nofun⟩ rfl ?_
    (PrevE.pushFrame rfl rfl rfl) ?_ rfl
  · simp [Lvl.fs, scopeOut, fr, Frame.outs]
  · rfl
  · refine hq.tail.cons ⟨by decide, hnq⟩ hq.head ?_ ?_ (hq.fit (Frame.quest n c) (List.mem_cons_self ..))
    · intro e he
      rcases List.mem_cons.1 he with rfl | he
      · simp [colonLu, q_class n.op hnq, q_facts]
      · exact hq.nocolon _ (List.mem_cons_self ..) e (by simpa [fr, Frame.outs] using he)
    · intro e he
      rcases List.mem_cons.1 he with rfl | he
      · exact hq.canon _ (List.mem_cons_self ..) e (by simp [Frame.operands])
      · cases List.mem_singleton.1 he; exact hct
  · exact List.forall_mem_cons.2 ⟨rfl, fun f hf => hgood.noOpn f (by rw [hpre]; simp [hf])⟩
  · show scopeToks (fr :: (pre' ++ baseFrames cur.base)) none = _
    rw [scopeToks_cons, Lvl.toks, htk]; simp [fr, Frame.toks, topToks]
  · show s.pendingQ - 1 = questCount (fr :: (pre' ++ baseFrames cur.base))
    rw [questCount_cons (f := fr) rfl, hinv.pending, hsplit, questCount_reducible hred]
    simp [questCount, Frame.isOpn, Frame.isQuest]

theorem step_infix {o : Op} (hinv : Inv s σ consumed cur stk) (hreg : o ∈ registered)
    (h1 : has o.ty T.pairStart = false) (h2 : has o.ty T.pairEnd = false) (hno : s.needOperand = false)
    (hsh : shStep s (.op o) next = some s') :
    Follows σ (.op o) next s' consumed := by
  obtain ⟨o', need, q, hres, rfl, hcl⟩ := shStep_infix h1 h2 hno hsh
  obtain ⟨_, _, rf3, rf4, rf5⟩ := resolveBy_facts o hreg false o' hres
  -- only a postfix operator can have come from `++` / `--`
  have notIncDec : has o'.ty T.rightUnary = false → (has o.ty T.increment || has o.ty T.decrement) = true → False :=
    fun h hid => by rw [rf5 hid rfl] at h; cases h
  rcases hcl with ⟨rfl, rfl, rfl⟩ | ⟨rfl, rfl, rfl, hpq⟩ | ⟨hb, rfl, rfl, hp⟩ | ⟨hr, rfl, rfl, hnx, hid⟩
  · -- `?`
    refine infix_push hinv hreg h1 h2 hno hres rfl (by decide) (by decide) (fun _ => by decide)
      (fun h => (notIncDec (by simp [q_facts]) h).elim) (fun e => Frame.quest { op := .questionMark } e)
      (fun e => ⟨rfl, rfl, rfl, by rw [lexedOp_q]; rfl, rfl, rfl, rfl, (by decide : (Op.questionMark.ty == T.questionMark) = true)⟩)
      (fun _ _ => PrevE.pushFrame rfl rfl rfl) (fun e fs h => ?_)
    show s.pendingQ + 1 = _
    simp [questCount, Frame.isOpn, Frame.isQuest, h]; omega
  · -- `:`; the token is the colon itself, which is not ambiguous
    have : o = .colon := by
      cases ha : has o.ty T.ambiguous
      · exact (rf4 ha).symm
      · simpa [c_facts] using rf3 ha
    subst this
    exact step_colon hinv hno hpq
  · -- binary
    have hc := bin_class o' hb
    exact infix_push hinv hreg h1 h2 hno hres rfl (by simp [hc]) (by omega) hp (fun h => (notIncDec (by simp [hc]) h).elim)
      (fun e => Frame.bin { op := o' } e) (fun e => ⟨rfl, rfl, rfl, rfl, rfl, rfl, rfl, hb⟩)
      (fun _ _ => PrevE.pushFrame rfl rfl rfl) (fun e fs h => h.trans (questCount_cons rfl fs).symm)
  · -- postfix
    have hc := post_class o' hr
    exact infix_push hinv hreg h1 h2 hno hres rfl (by simp [hc]) (by omega) (fun _ => by omega) (fun _ => ⟨hnx, hid⟩)
      (fun e => Frame.post { op := o' } e) (fun e => ⟨rfl, rfl, rfl, rfl, rfl, rfl, rfl, hr⟩)
      (fun _ _ => ⟨rfl, Or.inr ⟨rfl, _, _, _, rfl⟩, Or.inr ⟨rfl, _, _, _, rfl, rfl⟩⟩)
      (fun e fs h => h.trans (questCount_cons rfl fs).symm)

end Occa.Expr
