/-
Helper lemmas for C12: the longest-match search over any table (`longestIn_spec`); then what the proofs need of the
generated table `registered`, by evaluation, so it is checked again whenever operator.cpp changes.
-/
import OccaModel.Lex
import OccaProofs.Lemmas.TableKeys

namespace Occa.Lex
open Occa.Gen

def bestLen : Option (Nat × Nat) → Nat
  | some (_, l) => l
  | none => 0

theorem longestIn_step (sp : Str) (rest : List Str) (i : Nat) (r : Str) (best : Option (Nat × Nat)) :
    longestIn (sp :: rest) i r best =
      longestIn rest (i + 1) r (if sp.isPrefixOf r && decide (sp.length > bestLen best) then some (i, sp.length) else best) := by
  cases best with
  | none => simp [longestIn, bestLen]
  | some p => obtain ⟨a, b⟩ := p; simp [longestIn, bestLen]

theorem longestIn_spec (rest : List Str) (i : Nat) (r : Str) (best : Option (Nat × Nat)) :
    (∀ sp ∈ rest, sp.isPrefixOf r = true → sp.length ≤ bestLen (longestIn rest i r best)) ∧
    (longestIn rest i r best = best ∨ ∃ k sp, rest[k]? = some sp ∧ longestIn rest i r best = some (i + k, sp.length) ∧
      sp.isPrefixOf r = true ∧ bestLen best < sp.length) := by
  induction rest generalizing i best with
  | nil => exact ⟨nofun, .inl rfl⟩
  | cons sp rest ih =>
    rw [longestIn_step]
    obtain ⟨h1, h2⟩ := ih (i + 1) (if sp.isPrefixOf r && decide (sp.length > bestLen best) then some (i, sp.length) else best)
    generalize longestIn rest (i + 1) r _ = res at h1 h2
    have hle : bestLen (if sp.isPrefixOf r && decide (sp.length > bestLen best) then some (i, sp.length) else best) ≤ bestLen res := by
      rcases h2 with rfl | ⟨_, _, -, rfl, -, h⟩
      · exact Nat.le_refl _
      · exact Nat.le_of_lt h
    by_cases h : (sp.isPrefixOf r && decide (sp.length > bestLen best)) = true
    · rw [if_pos h] at h2 hle
      simp only [Bool.and_eq_true, decide_eq_true_eq] at h
      refine ⟨List.forall_mem_cons.mpr ⟨fun _ => hle, h1⟩, .inr ?_⟩
      rcases h2 with rfl | ⟨k, sp', e1, e2, e3, e4⟩
      · exact ⟨0, sp, rfl, rfl, h.1, h.2⟩
      · exact ⟨k + 1, sp', e1, by rw [e2, Nat.add_right_comm, Nat.add_assoc], e3, Nat.lt_trans h.2 e4⟩
    · rw [if_neg h] at h2 hle
      simp only [Bool.and_eq_true, decide_eq_true_eq, not_and, Nat.not_lt] at h
      refine ⟨List.forall_mem_cons.mpr ⟨fun hp => Nat.le_trans (h hp) hle, h1⟩, h2.imp_right ?_⟩
      rintro ⟨k, sp', e1, e2, e3, e4⟩
      exact ⟨k + 1, sp', e1, by rw [e2, Nat.add_right_comm, Nat.add_assoc], e3, e4⟩

theorem longestIn_none (rest : List Str) (i : Nat) (r : Str) (best : Option (Nat × Nat))
    (h : longestIn rest i r best = none) : best = none := by
  rcases (longestIn_spec rest i r best).2 with e | ⟨_, _, -, e, -⟩
  · exact e.symm.trans h
  · cases e.symm.trans h

theorem longestOp_some {r : Str} {j l : Nat} (h : longestOp r = some (j, l)) :
    ∃ sp, registered[j]? = some sp ∧ sp.isPrefixOf r = true ∧ l = sp.length ∧ 0 < l ∧
      ∀ sp' ∈ registered, sp'.isPrefixOf r = true → sp'.length ≤ l := by
  obtain ⟨h1, h2⟩ := longestIn_spec registered 0 r none
  rw [← longestOp, h] at h1 h2
  rcases h2 with e | ⟨k, sp, e1, e2, e3, e4⟩
  · cases e
  · obtain ⟨rfl, rfl⟩ : j = 0 + k ∧ l = sp.length := by simpa using e2
    exact ⟨sp, by simpa using e1, e3, rfl, Nat.zero_lt_of_lt e4, h1⟩

theorem longestOp_none {r : Str} (h : longestOp r = none) :
    ∀ sp ∈ registered, sp.isPrefixOf r = true → sp = [] := by
  intro sp hm hp
  have := (longestIn_spec registered 0 r none).1 sp hm hp
  rw [← longestOp, h] at this
  exact List.eq_nil_of_length_eq_zero (Nat.le_zero.mp this)

theorem registered_nodup : registered.Nodup := TableKeys.nodup_of_codes TableKeys.code (by decide +kernel)

def isIdCh (c : Char) : Bool := identifier.contains c

/-- a test that every `identifierStart` character passes, five comparisons instead of 53 in the sweep below -/
def isWordStart (c : Char) : Bool := c.isAlpha || c == '_'

theorem idStart_wordStart : ∀ c ∈ identifierStart, isWordStart c = true := by decide +kernel

/-- What the proofs need of each registered spelling: it is not empty; it contains no whitespace, NUL, backslash
    or quote; `primitive::load` refuses it (no `true`, `false`; a sign, or no leading `0` and no digit); and
    the identifier it begins with (`sizeof` in `sizeof...`) is registered too, which is what `peekForIdentifier`
    looks up. -/
theorem registered_facts : ∀ sp ∈ registered,
    sp ≠ [] ∧ (∀ c ∈ sp, c ∉ whitespace ∧ c ≠ NUL ∧ c ≠ '\\' ∧ c ≠ '"' ∧ c ≠ '\'') ∧
    ['t', 'r', 'u', 'e'].isPrefixOf sp = false ∧ ['f', 'a', 'l', 's', 'e'].isPrefixOf sp = false ∧
    (isSigned sp = true ∨ hd sp ≠ '0' ∧ ∀ x ∈ sp, isDigit x = false) ∧
    (isWordStart (hd sp) = true → sp.takeWhile isIdCh ∈ registered) := by decide +kernel

theorem registered_nonempty {sp : Str} (h : sp ∈ registered) : sp ≠ [] := (registered_facts sp h).1

theorem registered_clean {sp : Str} (h : sp ∈ registered) {c : Char} (hc : c ∈ sp) :
    c ∉ whitespace ∧ c ≠ NUL ∧ c ≠ '\\' ∧ c ≠ '"' ∧ c ≠ '\'' := (registered_facts sp h).2.1 c hc

theorem registered_lineComment : registered[lineCommentId]? = some ['/', '/'] := by decide +kernel
theorem registered_blockComment : registered[blockCommentId]? = some ['/', '*'] := by decide +kernel

/-- the first character of an operator is itself an operator, unless it begins a word (`sizeof`, `new`, …: those go
    through `peekForIdentifier`): `peekForOperator` cannot fail -/
theorem registered_first_char : ∀ sp ∈ registered, ∀ c, sp.head? = some c → [c] ∈ registered ∨ identifierStart.contains c = true := by
  decide +kernel

theorem mem_operatorCharcodes {c : Char} :
    c ∈ operatorCharcodes ↔ (∃ sp ∈ registered, sp.head? = some c) ∧ c ∉ identifierStart := by
  simp [operatorCharcodes]

theorem not_operatorCharcodes {c : Char} (h : c ∈ whitespace ∨ c = NUL ∨ c = '\\' ∨ c = '"' ∨ c = '\'') :
    c ∉ operatorCharcodes := by
  intro hm
  obtain ⟨⟨sp, hsp, hh⟩, -⟩ := mem_operatorCharcodes.mp hm
  obtain ⟨h1, h2, h3, h4, h5⟩ := registered_clean hsp (List.mem_of_mem_head? hh)
  rcases h with h | h | h | h | h <;> contradiction

theorem single_registered {c : Char} (h : c ∈ operatorCharcodes) : [c] ∈ registered := by
  obtain ⟨⟨sp, hm, hh⟩, hni⟩ := mem_operatorCharcodes.mp h
  exact (registered_first_char sp hm c hh).resolve_right (by simpa using hni)

theorem isPrefixOf_append (a t : Str) : a.isPrefixOf (a ++ t) = true :=
  List.isPrefixOf_iff_prefix.mpr ⟨t, rfl⟩

theorem longestOp_ne_none {sp r : Str} (hm : sp ∈ registered) (hp : sp.isPrefixOf r = true) : longestOp r ≠ none :=
  fun h => registered_nonempty hm (longestOp_none h sp hm hp)

theorem longestOp_eq {id : Nat} {sp : Str} (hid : registered[id]? = some sp) (r : Str)
    (hmax : ∀ sp' ∈ registered, sp'.isPrefixOf (sp ++ r) = true → sp'.length ≤ sp.length) :
    longestOp (sp ++ r) = some (id, sp.length) := by
  have hmem : sp ∈ registered := List.mem_of_getElem? hid
  cases h : longestOp (sp ++ r) with
  | none => exact absurd h (longestOp_ne_none hmem (isPrefixOf_append _ _))
  | some p =>
    obtain ⟨j, l⟩ := p
    obtain ⟨sp', h1, h2, rfl, -, h5⟩ := longestOp_some h
    have hle := h5 sp hmem (isPrefixOf_append _ _)
    have hge := hmax sp' (List.mem_of_getElem? h1) h2
    -- two prefixes of the same text of the same length
    have heq : sp' = sp :=
      (List.prefix_of_prefix_length_le (List.isPrefixOf_iff_prefix.mp h2) ⟨r, rfl⟩ hge).eq_of_length (by omega)
    subst heq
    have e1 := List.getElem?_eq_some_iff.mp h1
    have e2 := List.getElem?_eq_some_iff.mp hid
    rw [(List.getElem_inj registered_nodup).mp (e1.2.trans e2.2.symm)]

theorem longestOp_exact {id : Nat} {sp : Str} (hid : registered[id]? = some sp) (c : Char) (r : Str)
    (hext : ∀ sp' ∈ registered, (sp ++ [c]).isPrefixOf sp' = false) :
    longestOp (sp ++ c :: r) = some (id, sp.length) := by
  refine longestOp_eq hid _ fun sp' hm hp => Nat.le_of_not_lt fun hlt => ?_
  -- a longer match would continue `sp` with `c`
  have : sp ++ [c] <+: sp' :=
    List.prefix_of_prefix_length_le ⟨r, by simp⟩ (List.isPrefixOf_iff_prefix.mp hp) (by simpa using Nat.succ_le_of_lt hlt)
  exact Bool.noConfusion ((List.isPrefixOf_iff_prefix.mpr this).symm.trans (hext sp' hm))

end Occa.Lex
