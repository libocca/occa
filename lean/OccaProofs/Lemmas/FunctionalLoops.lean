/-
The loop enumerator `loopVals` / `forVals` of C23 is the sequential loop of a C17 header (`up`, `down`), so every fact
about it is read off Lemmas/Loop and Lemmas/Tile: the closed form (`seqIters_closed`), clipping (`filter_test`), blocks
that are counted (`blocks_exact`) or enumerated by a block loop (`tiled_exact`, `tiled_nocheck`); two-level tiling is the
last two composed.
-/
import OccaModel.Functional
import OccaProofs.Lemmas.Tile

namespace Occa.Functional
open Occa Occa.Loop

-- The generated formulas and `minI` / `maxI` spell `min` and `max` as conditionals; FunctionalGen and FunctionalReduce
-- both read them back through these two.
theorem ite_lt_eq_min (a b : Int) : (if a < b then a else b) = min a b := by
  by_cases h : a < b
  · rw [if_pos h, Int.min_eq_left (Int.le_of_lt h)]
  · rw [if_neg h, Int.min_eq_right (Int.not_lt.mp h)]

theorem ite_lt_eq_max (a b : Int) : (if a < b then b else a) = max a b := by
  by_cases h : a < b
  · rw [if_pos h, Int.max_eq_right (Int.le_of_lt h)]
  · rw [if_neg h, Int.max_eq_left (Int.not_lt.mp h)]

/-- `for (x = a; x < b; x += st)` as a C17 loop header -/
abbrev up (a b st : Int) : Header := ⟨a, b, .lt, true, .addEq st⟩
/-- `for (x = a; x > b; x -= -st)` -/
abbrev down (a b st : Int) : Header := ⟨a, b, .gt, true, .subEq (-st)⟩

theorem up_dist (a b c : Int) : (up a b c).dist = b - a := Int.add_zero _
theorem down_dist (a b c : Int) : (down a b c).dist = a - b := Int.add_zero _

theorem up_test (a b c : Int) : (up a b c).test = fun x => decide (x < b) := rfl
theorem down_test (a b c : Int) : (down a b c).test = fun x => decide (x > b) := rfl

theorem up_valueOf (a b c k : Int) : valueOf (up a b c) k = a + c * k := rfl
theorem down_valueOf (a b c k : Int) : valueOf (down a b c) k = a + c * k := by
  simp [valueOf, Header.positiveUpdate, Int.neg_mul, Int.sub_neg]

theorem block_up (s e c T : Int) : blockHeader (up s e c) T = up s e (T * c) := rfl
theorem inner_up (s e c T x : Int) : innerHeader (up s e c) T x = up x (x + T * c) c := rfl
theorem block_down (s e c T : Int) : blockHeader (down s e c) T = down s e (T * c) := by
  simp [down, blockHeader, stride, Header.positiveUpdate, Int.mul_neg]
theorem inner_down (s e c T x : Int) : innerHeader (down s e c) T x = down x (x + T * c) c := by
  simp [down, innerHeader, stride, Header.positiveUpdate, Cmp.strict, Int.mul_neg, Int.sub_neg]

theorem loopVals_eq_runFuel (h : Header) (b st : Int)
    (ht : ∀ x, h.test x = decide ((0 < st ∧ x < b) ∨ (st < 0 ∧ b < x))) (hn : ∀ x, h.next x = x + st) :
    ∀ (f : Nat) (x : Int), loopVals f x b st = runFuel h f x
  | 0, _ => rfl
  | f + 1, x => by
    rw [loopVals, runFuel, loopVals_eq_runFuel h b st ht hn f, ht, hn]
    simp only [decide_eq_true_eq]

/-- The fuel only has to cover the distance, because every iteration advances by at least 1. -/
theorem loopVals_eq_seqIters (h : Header) (b st : Int) (hv : h.Valid) (hs : 0 < h.step)
    (ht : ∀ x, h.test x = decide ((0 < st ∧ x < b) ∨ (st < 0 ∧ b < x))) (hn : ∀ x, h.next x = x + st)
    (f : Nat) (hd : h.dist.toNat ≤ f) : loopVals f h.init b st = seqIters h := by
  rw [loopVals_eq_runFuel h b st ht hn, seqIters_closed _ hv hs,
    runFuel_closed _ hv hs _ (Nat.le_trans (ceilN_le_toNat hs) hd)]

/-- Fuel and start are free for `forVals_cons`, whose tail runs on what is left of the fuel of the whole loop. -/
theorem loopVals_up (b st : Int) (hst : 0 < st) (f : Nat) (x : Int) (hf : (b - x).toNat ≤ f) :
    loopVals f x b st = seqIters (up x b st) :=
  loopVals_eq_seqIters (up x b st) b st rfl hst (fun y => by rw [up_test, decide_eq_decide]; omega) (fun _ => rfl) f
    (by rwa [up_dist])

theorem forVals_eq_up (a b st : Int) (hst : 0 < st) : forVals a b st = seqIters (up a b st) :=
  loopVals_up b st hst _ a (by omega)

theorem forVals_eq_down (a b st : Int) (hst : st < 0) : forVals a b st = seqIters (down a b st) :=
  loopVals_eq_seqIters (down a b st) b st rfl (show 0 < -st by omega)
    (fun y => by rw [down_test, decide_eq_decide]; omega) (fun y => Int.sub_neg y st) _ (by rw [down_dist]; omega)

theorem forVals_up (a b st : Int) (hst : 0 < st) :
    forVals a b st = (List.range (ceilN (b - a) st)).map (fun (i : Nat) => a + st * (i : Int)) := by
  rw [forVals_eq_up a b st hst, seqIters_closed (up a b st) rfl hst, up_dist]
  exact List.map_congr_left fun k _ => up_valueOf a b st k

theorem forVals_down (a b st : Int) (hst : st < 0) :
    forVals a b st = (List.range (ceilN (a - b) (-st))).map (fun (i : Nat) => a + st * (i : Int)) := by
  rw [forVals_eq_down a b st hst, seqIters_closed (down a b st) rfl (show 0 < -st by omega), down_dist]
  exact List.map_congr_left fun k _ => down_valueOf a b st k

theorem forVals_one (a b : Int) :
    forVals a b 1 = (List.range (b - a).toNat).map (fun (i : Nat) => a + (i : Int)) := by
  rw [forVals_up a b 1 (by decide), ceilN_one]
  simp only [Int.one_mul]

theorem forVals_natCast (n : Nat) : forVals 0 (n : Int) 1 = (List.range n).map Nat.cast := by
  rw [forVals_one, Int.sub_zero, Int.toNat_natCast]
  simp only [Int.zero_add]

theorem forVals_zero (a b : Int) : forVals a b 0 = [] := by
  unfold forVals
  cases (b - a).natAbs with
  | zero => rfl
  | succ n => simp [loopVals]

theorem forVals_closed (a b st : Int) :
    forVals a b st = (List.range (forVals a b st).length).map fun (i : Nat) => a + st * (i : Int) := by
  rcases Int.lt_trichotomy st 0 with h | rfl | h
  · rw [forVals_down a b st h]; simp
  · rw [forVals_zero]; rfl
  · rw [forVals_up a b st h]; simp

theorem forVals_nil (a b st : Int) (hst : 0 < st) (h : b ≤ a) : forVals a b st = [] := by
  rw [forVals_up a b st hst, ceilN_nonpos hst (by omega)]
  rfl

theorem forVals_cons (a b st : Int) (hst : 0 < st) (h : a < b) :
    forVals a b st = a :: forVals (a + st) b st := by
  obtain ⟨n, hn⟩ : ∃ n, (b - a).natAbs = n + 1 := ⟨(b - a).natAbs - 1, by omega⟩
  rw [forVals, hn, loopVals, if_pos (Or.inl ⟨hst, h⟩), loopVals_up b st hst n _ (by omega), forVals_eq_up _ _ _ hst]

/-- the loop to `e` stops within the iterations of the loop to `b`, or `e` is never met -/
theorem filter_lt_forVals (b c e : Int) (hc : 0 < c) (a : Int) :
    (forVals a b c).filter (fun x => decide (x < e)) = forVals a (min b e) c := by
  rw [forVals_up a b c hc]
  by_cases h : e ≤ b
  · -- `a + c * k` is value `k` of the loop to `e` as well, and the loop to `b` has at least as many
    rw [Int.min_eq_right h, forVals_eq_up a e c hc, ← up_test a e c]
    simp only [← up_valueOf a e c]
    exact filter_test (up a e c) rfl hc _ ((ceilN_le_iff hc _).mpr
      (Int.le_trans (by rw [up_dist]; omega) ((ceilN_le_iff hc _).mp (Nat.le_refl _))))
  · rw [Int.min_eq_left (by omega), forVals_up a b c hc]
    refine List.filter_eq_self.mpr (List.forall_mem_map.mpr fun k hk => decide_eq_true ?_)
    have := (lt_ceilN_iff hc k).mp (List.mem_range.mp hk)
    omega

theorem forVals_blocks (c e B T : Int) (hc : 0 < c) (hT : 0 ≤ T) (hB : B = T * c) (s : Int) (nb : Nat)
    (hn : ceilN (e - s) c ≤ nb * T.toNat) :
    (List.range nb).flatMap (fun k : Nat => forVals (s + k * B) (min e (s + k * B + B)) c) = forVals s e c := by
  subst hB
  rw [forVals_eq_up s e c hc, ← blocks_exact (up s e c) T rfl hc hT nb (by rwa [up_dist])]
  refine flatMap_congr fun k _ => ?_
  rw [block_up, up_valueOf, inner_up, up_test, Int.ofNat_eq_natCast, Int.min_comm, ← filter_lt_forVals _ c e hc,
    forVals_eq_up _ _ _ hc, Int.mul_comm]

/-- the loop nest `@tile(T)` makes of `for (x = s; x < e; x += c)`, written with `forVals`, is `tiled` of that header -/
theorem tiled_up (c e T : Int) (check : Bool) (hc : 0 < c) (hT : 0 < T) (s : Int) :
    (forVals s e (T * c)).flatMap (fun blk => (forVals blk (blk + T * c) c).filter fun x => !check || decide (x < e))
      = tiled (up s e c) T check := by
  rw [tiled, block_up, up_test, forVals_eq_up _ _ _ (Int.mul_pos hT hc)]
  exact flatMap_congr fun blk _ => by rw [forVals_eq_up _ _ _ hc, inner_up]

/-- `B` is a variable of its own so that `T * 1` and products in another order fit. -/
theorem tiled_forVals (c B e T : Int) (hc : 0 < c) (hT : 0 < T) (hB : B = T * c) (s : Int) :
    (forVals s e B).flatMap (fun blk => (forVals blk (blk + B) c).filter (fun x => decide (x < e))) = forVals s e c := by
  subst hB
  rw [forVals_eq_up s e c hc, ← tiled_exact (up s e c) T rfl hc hT]
  exact tiled_up c e T true hc hT s

/-- full blocks need no check: `tiled_nocheck` for a loop of exactly `m * T` iterations -/
theorem tiled_forVals_nocheck (c B T : Int) (hc : 0 < c) (hT : 0 < T) (hB : B = T * c) (m : Int) (hm : 0 ≤ m)
    (a : Int) :
    (forVals a (a + m * B) B).flatMap (fun blk => forVals blk (blk + B) c) = forVals a (a + m * B) c := by
  subst hB
  have hn : ceilN (up a (a + m * (T * c)) c).dist c = m.toNat * T.toNat := by
    rw [up_dist, Int.add_comm a, Int.add_sub_cancel, ← Int.mul_assoc,
      ceilN_mul _ c (Int.mul_nonneg hm (Int.le_of_lt hT)) hc, Int.toNat_mul hm (Int.le_of_lt hT)]
  rw [forVals_eq_up a _ c hc, ← tiled_nocheck (up _ _ c) T rfl hc hT (hn ▸ Nat.dvd_mul_left _ _),
    ← tiled_up c _ T false hc hT a]
  exact flatMap_congr fun blk _ => (List.filter_eq_self.mpr fun _ _ => rfl).symm

/-- two levels: the tiles of a block are full (`tiled_forVals_nocheck`), which leaves blocks of `m * T` iterations -/
theorem tiled_forVals₂ (c B₁ B₂ e T m : Int) (hc : 0 < c) (hT : 0 < T) (hm : 0 < m) (h₁ : B₁ = T * c)
    (h₂ : B₂ = m * B₁) (s : Int) :
    (forVals s e B₂).flatMap (fun blk => (forVals blk (blk + B₂) B₁).flatMap fun tile =>
      (forVals tile (tile + B₁) c).filter fun x => decide (x < e)) = forVals s e c := by
  rw [← tiled_forVals c B₂ e (m * T) hc (Int.mul_pos hm hT) (by rw [h₂, h₁, Int.mul_assoc]) s]
  congr 1
  funext blk
  rw [← List.filter_flatMap, h₂, tiled_forVals_nocheck c B₁ T hc hT h₁ m (Int.le_of_lt hm) blk]

/-- the descending loop needs no argument of its own: C18's tiling theorem does not look at the direction -/
theorem tiled_forVals_down (c B e T : Int) (hc : c < 0) (hT : 0 < T) (hB : B = T * c) (s : Int) :
    (forVals s e B).flatMap (fun blk => (forVals blk (blk + B) c).filter (fun x => decide (x > e))) = forVals s e c := by
  subst hB
  rw [forVals_eq_down s e c hc, ← tiled_exact (down s e c) T rfl (show 0 < -c by omega) hT, tiled, block_down,
    down_test, forVals_eq_down _ _ _ (Int.mul_neg_of_pos_of_neg hT hc)]
  exact flatMap_congr fun blk _ => by rw [forVals_eq_down _ _ _ hc, inner_down]; rfl

end Occa.Functional
