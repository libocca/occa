/-
The simulation along a whole run, and its end: every well-shaped token sequence is accepted, the
single operand left is the parse result, its printed tokens are the input and it is
precedence-correct.
-/
import OccaProofs.Lemmas.ExprStepOp
import OccaProofs.Lemmas.ExprStepPair

namespace Occa.Expr
open Occa.Gen

theorem step_sim {s s' : Sh} {σ : St} {t : Tok} {next : Option Tok} {consumed : List Tok}
    {cur : Lvl} {stk : List Lvl} (hinv : Inv s σ consumed cur stk) (hlex : ∀ o, t = .op o → o ∈ registered)
    (hsh : shStep s t next = some s') :
    Follows σ t next s' consumed := by
  cases ht : tokIsOp t with
  | false => exact step_operand hinv ht hsh
  | true =>
    cases t <;> simp only [tokIsOp, reduceCtorEq] at ht
    rename_i o
    have hreg := hlex o rfl
    cases h1 : has o.ty T.pairStart with
    | true => exact step_open hinv h1 hsh
    | false =>
      cases h2 : has o.ty T.pairEnd with
      | true => exact step_close hinv h2 hsh
      | false =>
        cases hne : s.needOperand with
        | true => exact step_prefix hinv hreg h1 h2 hne hsh
        | false => exact step_infix hinv hreg h1 h2 hne hsh

def peekTok (nxt : Option Tok) (ts : List Tok) : Option Tok :=
  match ts with
  | [] => nxt
  | t' :: _ => some t'

theorem shRun_cons (nxt : Option Tok) (s : Sh) (t : Tok) (ts : List Tok) :
    shRun nxt s (t :: ts) = match shStep s t (peekTok nxt ts) with
      | none => none
      | some s' => shRun nxt s' ts := by
  cases ts <;> rfl

theorem run_cons (nxt : Option Tok) (σ : St) (t : Tok) (ts : List Tok) :
    run nxt σ (t :: ts) = match step σ t (peekTok nxt ts) with
      | .error x => .error x
      | .ok σ' => run nxt σ' ts := by
  cases ts <;> rfl

theorem run_sim (nxt : Option Tok) : ∀ (ts : List Tok) (s sf : Sh) (σ : St) (consumed : List Tok) (cur : Lvl) (stk : List Lvl),
    Inv s σ consumed cur stk → Lexed ts → shRun nxt s ts = some sf →
    ∃ σf cur' stk', run nxt σ ts = .ok σf ∧ Inv sf σf (consumed ++ ts) cur' stk' := by
  intro ts
  induction ts with
  | nil =>
    intro s sf σ consumed cur stk hinv _ hsh
    cases hsh
    exact ⟨σ, cur, stk, rfl, by simpa using hinv⟩
  | cons t ts ih =>
    intro s sf σ consumed cur stk hinv hlex hsh
    rw [shRun_cons] at hsh
    rw [run_cons]
    cases h1 : shStep s t (peekTok nxt ts) with
    | none => rw [h1] at hsh; cases hsh
    | some s1 =>
      rw [h1] at hsh
      obtain ⟨σ1, c1, k1, h2, hinv1⟩ := step_sim hinv (fun o ho => hlex o (by rw [ho]; simp)) h1
      obtain ⟨σf, c2, k2, h3, hinv2⟩ := ih s1 sf σ1 (consumed ++ [t]) c1 k1 hinv1 (fun o ho => hlex o (by simp [ho])) hsh
      exact ⟨σf, c2, k2, by rw [h2]; exact h3, by simpa [List.append_assoc] using hinv2⟩

theorem inv_init : Inv {} {} [] { pre := [], base := none, top := none } [] := by
  constructor
  · exact Levels.root _ _ ⟨rfl, rfl⟩ ⟨FramesOk.nil, by simp, by simp, by simp⟩ rfl
  · rfl
  · rfl
  · rfl
  · show PrevE _ _
    exact ⟨rfl, (fun _ hf => nomatch hf), Or.inl ⟨rfl, rfl⟩⟩
  · rfl
  · exact ⟨rfl, rfl⟩

theorem parse_accepts (ts : List Tok) (hshape : CShape ts = true) (hlex : Lexed ts) :
    ∃ e, parse ts = .ok e ∧ printToks e = ts ∧ canonB e = true := by
  cases ts with
  | nil => exact ⟨.empty, rfl, rfl, rfl⟩
  | cons t ts =>
    unfold CShape at hshape
    cases hsh : shRun none {} (t :: ts) with
    | none => rw [hsh] at hshape; cases hshape
    | some sf =>
      rw [hsh] at hshape
      simp only [Bool.and_eq_true, List.isEmpty_iff, beq_iff_eq, Bool.or_eq_true, Bool.not_eq_true',
        List.isEmpty_cons, Bool.false_eq_true, or_false] at hshape
      obtain ⟨⟨hstack, hpend⟩, hmode⟩ := hshape
      obtain ⟨σf, cur, stk, hrun, hinv⟩ := run_sim none (t :: ts) {} sf {} [] _ _ inv_init hlex hsh
      have hl := hinv.levels
      rw [hstack] at hl
      obtain ⟨rfl, hrep, hgood, hbase⟩ := hl.inv_root
      have hfs := Lvl.fs_none hbase
      -- no `?` is pending, so the final loop reduces every frame
      obtain ⟨v, hrdy, hv1, _, _, hv3, _⟩ := reduce_all σf.prev [] (fun f hf => by cases hf) cur.pre cur.top
        (reducible_of_questCount_zero cur.pre [] hgood.noOpn (by rw [List.append_nil, ← hfs, ← hinv.pending, hpend]))
        (by simpa [hfs] using hinv.ready hmode)
      refine ⟨v, ?_, ?_, hrdy.topCanon v rfl⟩
      · have := hv3 []
        simp only [List.append_nil] at this
        simp only [parse, hrun, finish, hrep.1, hrep.2, hfs, this]
        rfl
      · rw [hv1, ← hfs]; exact hinv.toks.symm

end Occa.Expr
