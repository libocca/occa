/-
The search for the longest prefix of a query on which a partial function of the key is defined, by
recursion on the query (`longestBy`) and by counting down over `q.take n` (`longestTake`, the shape of
`longestPrefix.go`), with the characterisation of its answer.  `longestPrefix` is the instance `lookup · M`;
the unfrozen trie's answer is the instance `lookupN · root` (`best`, TrieNode).  Core Lean only.
-/
import OccaModel.Trie

namespace Occa.Trie
variable {α β : Type}

/-- longest prefix `p` of `q` with `f p` defined, as `(p.length, f p)`; recursion on `q` -/
def longestBy (f : List α → Option β) : List α → Option (Nat × β)
  | [] => (f []).map fun b => (0, b)
  | c :: cs =>
    match longestBy (fun k => f (c :: k)) cs with
    | some (m, b) => some (m + 1, b)
    | none => (f []).map fun b => (0, b)

/-- the same by counting down over `q.take n` (the shape of `longestPrefix.go`) -/
def longestTake (f : List α → Option β) (q : List α) : Nat → Option (Nat × β)
  | 0 => (f []).map fun b => (0, b)
  | n + 1 =>
    match f (q.take (n + 1)) with
    | some b => some (n + 1, b)
    | none => longestTake f q n

theorem longestTake_cons (f : List α → Option β) (c : α) (cs : List α) (n : Nat) :
    longestTake f (c :: cs) (n + 1) =
      match longestTake (fun k => f (c :: k)) cs n with
      | some (m, b) => some (m + 1, b)
      | none => (f []).map fun b => (0, b) := by
  induction n with
  | zero => simp only [longestTake, List.take_succ_cons, List.take_zero]; cases f [c] <;> rfl
  | succ n ih =>
    rw [longestTake, longestTake.eq_2 _ cs, List.take_succ_cons]
    cases f (c :: cs.take (n + 1)) with
    | some b => rfl
    | none => exact ih

theorem longestTake_eq_longestBy (f : List α → Option β) (q : List α) :
    longestTake f q q.length = longestBy f q := by
  induction q generalizing f with
  | nil => rfl
  | cons c cs ih => rw [List.length_cons, longestTake_cons, ih, longestBy]

theorem longestTake_spec (f : List α → Option β) (q : List α) (N : Nat) :
    match longestTake f q N with
    | some (n, b) => n ≤ N ∧ f (q.take n) = some b ∧ ∀ m, n < m → m ≤ N → f (q.take m) = none
    | none => ∀ m, m ≤ N → f (q.take m) = none := by
  induction N with
  | zero =>
    rw [longestTake]
    cases h : f [] with
    | none => exact fun m hm => Nat.le_zero.mp hm ▸ h
    | some b => exact ⟨Nat.le_refl _, h, fun m h1 h2 => by omega⟩
  | succ N ih =>
    rw [longestTake]
    cases hf : f (q.take (N + 1)) with
    | some b => exact ⟨Nat.le_refl _, hf, fun m h1 h2 => by omega⟩
    | none =>
      cases hl : longestTake f q N with
      | none => rw [hl] at ih; exact fun m hm => (Nat.le_succ_iff.mp hm).elim (ih m) (· ▸ hf)
      | some r =>
        rw [hl] at ih
        exact ⟨Nat.le_succ_of_le ih.1, ih.2.1, fun m h1 hm => (Nat.le_succ_iff.mp hm).elim (ih.2.2 m h1) (· ▸ hf)⟩

theorem longestTake_some_iff (f : List α → Option β) (q : List α) (N n : Nat) (b : β) :
    longestTake f q N = some (n, b) ↔
      n ≤ N ∧ f (q.take n) = some b ∧ ∀ m, n < m → m ≤ N → f (q.take m) = none := by
  have hs := longestTake_spec f q N
  refine ⟨fun h => by rwa [h] at hs, fun ⟨h0, hn, hmax⟩ => ?_⟩
  cases hl : longestTake f q N with
  | none => rw [hl] at hs; exact nomatch hn.symm.trans (hs n h0)
  | some r =>
    obtain ⟨n', b'⟩ := r
    rw [hl] at hs
    obtain ⟨h0', hn', hmax'⟩ := hs
    -- two greatest lengths are equal
    rcases Nat.lt_trichotomy n' n with h | rfl | h
    · exact nomatch hn.symm.trans (hmax' n h h0)
    · rw [Option.some.inj (hn'.symm.trans hn)]
    · exact nomatch hn'.symm.trans (hmax n' h h0')

theorem longestTake_none_iff (f : List α → Option β) (q : List α) (N : Nat) :
    longestTake f q N = none ↔ ∀ m, m ≤ N → f (q.take m) = none := by
  have hs := longestTake_spec f q N
  refine ⟨fun h => by rwa [h] at hs, fun h => ?_⟩
  cases hl : longestTake f q N with
  | none => rfl
  | some r => rw [hl] at hs; exact nomatch hs.2.1.symm.trans (h r.1 hs.1)

theorem longestBy_none (q : List α) : longestBy (fun _ => (none : Option β)) q = none := by
  induction q with
  | nil => rfl
  | cons c cs ih => simp only [longestBy, ih]; rfl

theorem longestBy_append_stop (f : List α → Option β) (q rest : List α) (z : α)
    (h : ∀ s, f (q ++ z :: s) = none) : longestBy f (q ++ z :: rest) = longestBy f q := by
  induction q generalizing f with
  | nil => simp only [List.nil_append] at h; simp only [List.nil_append, longestBy, h, longestBy_none]
  | cons c cs ih => simp only [List.cons_append, longestBy, ih (fun k => f (c :: k)) h]

theorem longestBy_some {f : List α → Option β} {q : List α} {m : Nat} {b : β}
    (h : longestBy f q = some (m, b)) : f (q.take m) = some b := by
  rw [← longestTake_eq_longestBy, longestTake_some_iff] at h
  exact h.2.1

theorem longestBy_bind {γ : Type} (f : List α → Option γ) (g : γ → Option β)
    (hg : ∀ k i, f k = some i → (g i).isSome) (q : List α) :
    longestBy (fun k => (f k).bind g) q =
      (longestBy f q).bind fun r => (g r.2).map fun b => (r.1, b) := by
  induction q generalizing f with
  | nil => simp only [longestBy]; cases f [] <;> simp
  | cons c cs ih =>
    simp only [longestBy]
    rw [ih (fun k => f (c :: k)) (fun k i h => hg (c :: k) i h)]
    cases h : longestBy (fun k => f (c :: k)) cs with
    | none => cases f [] <;> simp
    | some r =>
      obtain ⟨b, hb⟩ := Option.isSome_iff_exists.mp (hg _ r.2 (longestBy_some h :))
      simp [hb]

variable {V : Type} [DecidableEq α]

theorem longestPrefix_go_eq (M : List (List α × V)) (q : List α) (n : Nat) :
    longestPrefix.go M q n = longestTake (fun k => lookup k M) q n := by
  induction n with
  | zero => rfl
  | succ n ih => rw [longestPrefix.go, longestTake, ih]; cases lookup (q.take (n + 1)) M <;> rfl

theorem longestPrefix_eq_longestBy (M : List (List α × V)) (q : List α) :
    longestPrefix M q = longestBy (fun k => lookup k M) q := by
  rw [longestPrefix, longestPrefix_go_eq, longestTake_eq_longestBy]

end Occa.Trie
