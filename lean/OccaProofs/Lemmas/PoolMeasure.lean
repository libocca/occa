/-
The union measure of C04, defined independently of every sweep of the implementation:
`measure a l` is the number of byte positions that lie in the alignment-rounded range
`[⌊off/a⌋a, ⌈(off+size)/a⌉a)` of at least one reservation of `l` (cardinality of a finite set).
Lemma: the loop of add/removeModeMemoryRef computes the uncovered part of a span.
-/
import OccaProofs.Lemmas.PoolBasic
import Mathlib.Order.Interval.Finset.Nat
import Mathlib.Data.Finset.Card

namespace Occa.Pool
open Finset

/-- the alignment-rounded range of a reservation, as a set of byte positions -/
def span (a : Nat) (r : Resv) : Finset Nat := Ico (rdn a r.off) (rup a (r.off + r.size))

def spanU (a : Nat) : List Resv → Finset Nat
  | [] => ∅
  | r :: rs => span a r ∪ spanU a rs

/-- C04's union measure -/
def measure (a : Nat) (l : List Resv) : Nat := (spanU a l).card

theorem mem_span {a : Nat} {r : Resv} {p : Nat} : p ∈ span a r ↔ rdn a r.off ≤ p ∧ p < rup a (r.off + r.size) := by
  simp [span]

theorem mem_spanU {a : Nat} {l : List Resv} {p : Nat} : p ∈ spanU a l ↔ ∃ r ∈ l, p ∈ span a r := by
  induction l with
  | nil => simp [spanU]
  | cons x xs ih => simp [spanU, ih]

theorem spanU_perm {a : Nat} {l l' : List Resv} (h : l.Perm l') : spanU a l = spanU a l' := by
  ext p
  rw [mem_spanU, mem_spanU]
  constructor <;> rintro ⟨r, hr, hp⟩
  · exact ⟨r, h.mem_iff.1 hr, hp⟩
  · exact ⟨r, h.mem_iff.2 hr, hp⟩

theorem measure_nil (a : Nat) : measure a [] = 0 := by simp [measure, spanU]

theorem measure_cons (a : Nat) (m : Resv) (l : List Resv) :
    measure a (m :: l) = measure a l + (span a m \ spanU a l).card :=
  (card_sdiff_add_card (span a m) (spanU a l)).symm.trans (Nat.add_comm _ _)

theorem lower_of_sorted {a : Nat} {m : Resv} {ms : List Resv} (h : OffSorted (m :: ms)) {p : Nat}
    (hp : p ∈ spanU a (m :: ms)) : rdn a m.off ≤ p := by
  rw [mem_spanU] at hp
  obtain ⟨r, hr, hp⟩ := hp
  rw [mem_span] at hp
  rcases List.mem_cons.1 hr with rfl | hr
  · exact hp.1
  · exact Nat.le_trans (rdn_mono a ((List.pairwise_cons.1 h).1 r hr)) hp.1

theorem span_start_le_end {a : Nat} (ha : 0 < a) (r : Resv) : rdn a r.off ≤ rup a (r.off + r.size) :=
  Nat.le_trans (rdn_le a r.off) (Nat.le_trans (Nat.le_add_right _ _) (le_rup ha _))

theorem card_Ico_sdiff_spanU_cons {a : Nat} (ha : 0 < a) {m : Resv} {ms : List Resv} (hsort : OffSorted (m :: ms))
    {lo hi : Nat} (h1 : rdn a m.off < hi) (h2 : lo < rup a (m.off + m.size)) (hlh : lo ≤ hi) :
    (Ico lo hi \ spanU a (m :: ms)).card =
      (rdn a m.off - lo) + (Ico (min hi (rup a (m.off + m.size))) hi \ spanU a ms).card := by
  have hU : ∀ p ∈ spanU a ms, rdn a m.off ≤ p := fun p hp => lower_of_sorted hsort (mem_union_right _ hp)
  rw [← Nat.card_Ico, ← card_union_of_disjoint]
  · congr 1
    ext p
    simp only [spanU, span, mem_sdiff, mem_Ico, mem_union, not_or]
    constructor
    · rintro ⟨hp, hn, hu⟩
      by_cases hps : p < rdn a m.off
      · exact .inl ⟨hp.1, hps⟩
      · exact .inr ⟨⟨Nat.le_trans (Nat.min_le_right _ _) (Nat.le_of_not_lt fun hpe => hn ⟨Nat.le_of_not_lt hps, hpe⟩),
          hp.2⟩, hu⟩
    · rintro (hp | ⟨hp, hu⟩)
      · exact ⟨⟨hp.1, Nat.lt_trans hp.2 h1⟩, fun h => Nat.not_le.2 hp.2 h.1, fun h => Nat.not_le.2 hp.2 (hU p h)⟩
      · exact ⟨⟨Nat.le_trans (Nat.le_min.2 ⟨hlh, Nat.le_of_lt h2⟩) hp.1, hp.2⟩,
          fun h => Nat.not_le.2 (Nat.lt_min.2 ⟨hp.2, h.2⟩) hp.1, hu⟩
  · exact disjoint_left.2 fun p hp hq => Nat.not_le.2 (mem_Ico.1 hp).2
      (Nat.le_trans (Nat.le_min.2 ⟨Nat.le_of_lt h1, span_start_le_end ha m⟩) (mem_Ico.1 (mem_sdiff.1 hq).1).1)

theorem ite_add_sub (acc s lo : Nat) : (if s > lo then acc + (s - lo) else acc) = acc + (s - lo) := by
  split
  · rfl
  · rw [Nat.sub_eq_zero_of_le (Nat.le_of_not_lt ‹_›)]; rfl

theorem uncovGo_spec {a : Nat} (ha : 0 < a) (hi : Nat) (ms : List Resv) (lo acc : Nat) (hlh : lo ≤ hi)
    (hsort : OffSorted ms) : uncovGo a hi lo acc ms = acc + (Ico lo hi \ spanU a ms).card := by
  fun_induction uncovGo a hi lo acc ms with
  | case1 lo acc => rw [spanU, sdiff_empty, Nat.card_Ico]
  | case2 lo acc m ms h1 =>
    -- break: every remaining span starts at or after hi
    rw [sdiff_eq_self_of_disjoint, Nat.card_Ico]
    exact disjoint_left.2 fun p hp hs => Nat.not_le.2 (mem_Ico.1 hp).2 (Nat.le_trans h1 (lower_of_sorted hsort hs))
  | case3 lo acc m ms h1 h2 ih =>
    -- continue: the span of m ends at or before lo
    have hd : Disjoint (Ico lo hi) (span a m) := disjoint_left.2 fun p hp hs =>
      Nat.not_le.2 (Nat.lt_of_lt_of_le (mem_span.1 hs).2 h2) (mem_Ico.1 hp).1
    rw [ih hlh (List.pairwise_cons.1 hsort).2, spanU, ← sup_eq_union, ← sdiff_sdiff_left, sdiff_eq_self_of_disjoint hd]
  | case4 lo acc m ms h1 h2 acc' lo' h3 =>
    rw [card_Ico_sdiff_spanU_cons ha hsort (Nat.lt_of_not_le h1) (Nat.lt_of_not_le h2) hlh, show min hi _ = hi from h3,
      Ico_self, empty_sdiff, card_empty, h3, Nat.sub_self]
    exact ite_add_sub ..
  | case5 lo acc m ms h1 h2 acc' lo' h3 ih =>
    rw [ih (Nat.min_le_left _ _) (List.pairwise_cons.1 hsort).2,
      card_Ico_sdiff_spanU_cons ha hsort (Nat.lt_of_not_le h1) (Nat.lt_of_not_le h2) hlh, ← Nat.add_assoc]
    exact congrArg (· + _) (ite_add_sub ..)

theorem spanDelta_fixed {c : Cfg} (hc : c.sweepAccumulatesGaps = true) {a : Nat} (ha : 0 < a) (m : Resv)
    (l : List Resv) (hs : OffSorted l) : spanDelta c a m l = (span a m \ spanU a l).card := by
  unfold spanDelta
  rw [if_pos hc, uncovGo_spec ha _ l _ 0 (span_start_le_end ha m) hs]
  simp [span]

theorem measure_le_of_bounded {a : Nat} {l : List Resv} {s : Nat}
    (h : ∀ r ∈ l, rup a (r.off + r.size) ≤ s) : measure a l ≤ s := by
  have hsub : spanU a l ⊆ Ico 0 s := by
    intro p hp
    obtain ⟨r, hr, hp⟩ := mem_spanU.1 hp
    exact mem_Ico.2 ⟨Nat.zero_le _, Nat.lt_of_lt_of_le (mem_span.1 hp).2 (h r hr)⟩
  exact (card_le_card hsub).trans_eq (Nat.card_Ico 0 s)

end Occa.Pool
