/-
C07 with the encoder instantiated by the dump model: everything the dependency chain feeds to
the encoder is a well-formed JSON value, provided the property values of the configurations are
well-formed and the paths produced by the include scanner contain no `"` (object keys are not
escaped by json::dumpToString).
-/
import OccaProofs.Lemmas.DepHash
import OccaProofs.Lemmas.CacheKeyWF

namespace Occa.DepHash
open Occa.CacheKeyBase Occa.CacheKey

variable {κ σ δ β : Type}

theorem keyOk_chainLabels : keyOk Gen.chainHashLabel ∧ keyOk Gen.chainDepsLabel := by
  decide +kernel

theorem chainObj_wf (e : DEnv κ σ δ) (hfw : ∀ k, (e.full k).WF) (K : κ)
    (cur : List (String × κ)) (hp : ∀ ph ∈ cur, keyOk ph.1) : (chainObj e K cur).WFtop := by
  refine wftop_mkObj _ fun kv hm => ?_
  rw [chain_render_full] at hm
  simp only [List.mem_cons, List.not_mem_nil, or_false] at hm
  rcases hm with rfl | rfl
  · exact ⟨keyOk_chainLabels.1, hfw K⟩
  · refine ⟨keyOk_chainLabels.2, wfo_mkMap _ fun kv' hm' => ?_⟩
    obtain ⟨ph, hph, rfl⟩ := List.mem_map.mp hm'
    exact ⟨hp ph hph, hfw _⟩

variable [DecidableEq κ] [DecidableEq δ]

/-- the keys of the chain objects are paths of an expansion, which the include scanner produced -/
theorem cacheW_of_inv (e : DEnv κ σ δ) (hfw : ∀ k, (e.full k).WF)
    (hincl : ∀ t p, p ∈ e.incl t → keyOk p)
    (compile : String × List (Option J) → List (String × String) → β) (cache : Cache κ δ β) (fs : FS)
    (hinv : Inv e J.WFtop compile cache) : CacheW e J.WFtop fs cache := by
  intro d ent K hl
  obtain ⟨c', n, K0, fs', x, _, _, _, hx, hdeps, _⟩ := hinv d ent hl
  refine chainObj_wf e hfw K _ fun ph hph => ?_
  obtain ⟨h, hh⟩ := scanDeps_paths e fs ent.deps ph hph
  rw [hdeps, depsOf] at hh
  obtain ⟨pt, hpt, ef⟩ := List.mem_map.mp (mem_mkMap _ _ hh)
  rw [← show pt.1 = ph.1 from congrArg Prod.fst ef]
  rcases (expand_mem e.incl fs' _ _ x hx pt.1 pt.2 hpt).2 with hp | ⟨t', hp⟩
  · exact hincl _ _ hp
  · exact hincl _ _ hp

end Occa.DepHash
