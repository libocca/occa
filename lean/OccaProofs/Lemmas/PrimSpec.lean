/-
The C++ side of C14: whatever value `CxxSem.unop` / `CxxSem.binop` yield on well-formed operands is
again well-formed (an integer in the range of its type, or a floating bit pattern) and has the
static type `unType` / `binType` predict.
-/
import OccaProofs.Lemmas.PrimInt
namespace Occa.Prim.Lemmas
open Occa Occa.CExpr Occa.CxxSem Occa.Gen Occa.Prim

theorem tdiv_range_signed (M x y : Int) (hx : -M ≤ x ∧ x ≤ M - 1) (hy0 : y ≠ 0)
    (hov : ¬ (x = -M ∧ y = -1)) : -M ≤ Int.tdiv x y ∧ Int.tdiv x y ≤ M - 1 := by
  by_cases h1 : y = 1
  · subst h1; rw [Int.tdiv_one]; exact hx
  by_cases h2 : y = -1
  · subst h2; rw [Int.tdiv_neg, Int.tdiv_one]; omega
  have : (x.tdiv y).natAbs ≤ x.natAbs / 2 := by
    rw [Int.natAbs_tdiv]
    exact Nat.div_le_div_left (by omega) Nat.two_pos
  omega

theorem tdiv_range_unsigned (U x y : Int) (hx : 0 ≤ x ∧ x ≤ U) (hy : 0 ≤ y) :
    0 ≤ Int.tdiv x y ∧ Int.tdiv x y ≤ U := by
  have h1 := Int.tdiv_nonneg hx.1 hy
  have h2 := Int.natAbs_tdiv_le_natAbs x y
  omega

theorem tdiv_inRange {t : Ty} {x y : Int} (hx : inRange t x = true) (hy : inRange t y = true) (hy0 : y ≠ 0)
    (hov : ¬ (t.signed = true ∧ x = t.minVal ∧ y = -1)) : inRange t (x.tdiv y) = true := by
  rw [inRange_iff] at hx hy ⊢
  unfold Ty.minVal Ty.maxVal at *
  cases hs : t.signed <;> simp only [hs, Bool.false_eq_true, ↓reduceIte, true_and] at hx hy hov ⊢
  · exact tdiv_range_unsigned _ x y hx hy.1
  · exact tdiv_range_signed _ x y hx hy0 hov

theorem tmod_between (x y : Int) : (0 ≤ x → 0 ≤ x.tmod y ∧ x.tmod y ≤ x) ∧ (x < 0 → x ≤ x.tmod y ∧ x.tmod y ≤ 0) := by
  have := Int.natAbs_tmod x y
  have := Nat.mod_le x.natAbs y.natAbs
  refine ⟨fun h => ⟨Int.tmod_nonneg y h, by omega⟩, fun h => ?_⟩
  have := Int.tmod_nonneg y (a := -x) (by omega)
  rw [Int.neg_tmod] at this
  omega

theorem tmod_inRange {t : Ty} {x : Int} (hx : inRange t x = true) (y : Int) : inRange t (x.tmod y) = true := by
  have h0 := (Ty.span t).2
  have := tmod_between x y
  rw [inRange_iff] at hx ⊢
  omega

/-- an arithmetic right shift stays between the shifted value and zero -/
theorem ediv_between (x d : Int) (hd : 0 < d) : (0 ≤ x → 0 ≤ x / d ∧ x / d ≤ x) ∧ (x < 0 → x ≤ x / d ∧ x / d < 0) := by
  constructor
  · intro hx; exact ⟨Int.ediv_nonneg hx (by omega), Int.ediv_le_self d hx⟩
  · intro hx
    refine ⟨?_, Int.ediv_neg_of_neg_of_pos hx hd⟩
    rw [Int.le_ediv_iff_mul_le hd]
    have := Int.mul_le_mul_of_nonpos_left (a := x) (b := d) (c := 1) (by omega) (by omega)
    omega

def BinOp.all : List BinOp :=
  [.mul, .div, .mod, .add, .sub, .shl, .shr, .lt, .le, .gt, .ge, .eq, .ne, .band, .bxor, .bor, .land, .lor]

instance (priority := low) BinOp.decidableForall {P : BinOp → Prop} [DecidablePred P] : Decidable (∀ op, P op) :=
  decidable_of_iff (∀ op ∈ BinOp.all, P op) ⟨fun h op => h op (by cases op <;> decide), fun h op _ => h op⟩

def UnOp.all : List UnOp := [.lnot, .plus, .neg, .bnot]

instance (priority := low) UnOp.decidableForall {P : UnOp → Prop} [DecidablePred P] : Decidable (∀ op, P op) :=
  decidable_of_iff (∀ op ∈ UnOp.all, P op) ⟨fun h op => h op (by cases op <;> decide), fun h op _ => h op⟩

/-- the operators whose operands undergo the usual arithmetic conversions -/
def BinOp.isConv : BinOp → Bool
  | .shl | .shr | .land | .lor => false
  | _ => true

theorem BinOp.not_conv {op : BinOp} : ¬ BinOp.isConv op = true → (op = .shl ∨ op = .shr) ∨ (op = .land ∨ op = .lor) := by
  revert op
  decide +kernel

def BinOp.isRel : BinOp → Bool
  | .lt | .le | .gt | .ge | .eq | .ne => true
  | _ => false

/-- those of the converting operators (`isConv`) that C++ defines on floating operands -/
def BinOp.floatOk : BinOp → Bool
  | .mul | .div | .add | .sub | .lt | .le | .gt | .ge | .eq | .ne => true
  | _ => false

theorem binop_conv_eq {op : BinOp} (h : BinOp.isConv op = true) (a b : Val) :
    binop op a b =
      if (common a.ty b.ty).isFloat then floatBin op (common a.ty b.ty) (cvt (common a.ty b.ty) a).v (cvt (common a.ty b.ty) b).v
      else intBin op (common a.ty b.ty) (cvt (common a.ty b.ty) a).v (cvt (common a.ty b.ty) b).v := by
  cases op <;> simp_all [BinOp.isConv, binop]

theorem binop_shift_val {op : BinOp} (h : op = .shl ∨ op = .shr) {a b r : Val} (hr : binop op a b = .val r) :
    a.ty.isFloat = false ∧ b.ty.isFloat = false ∧
      shift (op == .shl) a.ty.promote (cvt a.ty.promote a).v b.v = .val r := by
  rcases h with rfl | rfl <;>
  · simp only [binop] at hr
    split at hr
    · cases hr
    · rename_i hn
      simp only [not_or, Bool.not_eq_true] at hn
      exact ⟨hn.1, hn.2, hr⟩

theorem binop_logic {op : BinOp} (h : op = .land ∨ op = .lor) (a b : Val) :
    binop op a b = .val (ofBool (if op = .land then truth a && truth b else truth a || truth b)) := by
  rcases h with rfl | rfl <;> rfl

/-- `&&` / `||` whose left operand does not decide: the truth of the right operand -/
theorem binop_logic_right {op : BinOp} (h : op = .land ∨ op = .lor) {a : Val} (ha : truth a = (op == .land)) (b : Val) :
    binop op a b = .val (ofBool (truth b)) := by
  rcases h with rfl | rfl <;> rw [binop_logic (by simp), ha] <;> rfl

theorem shift_val_count {l : Bool} {t : Ty} {x c : Int} {r : Val} (h : shift l t x c = .val r) :
    0 ≤ c ∧ c < t.bits := by
  by_cases hc : c < 0 ∨ c ≥ t.bits
  · rw [shift, if_pos hc] at h; cases h
  · exact ⟨Int.not_lt.1 fun h => hc (Or.inl h), Int.not_le.1 fun h => hc (Or.inr h)⟩

theorem intBin_divmod_val {op : BinOp} (hop : op = .div ∨ op = .mod) {t : Ty} {x y : Int} {r : Val}
    (h : intBin op t x y = .val r) : y ≠ 0 ∧ ¬ (t.signed = true ∧ x = t.minVal ∧ y = -1) := by
  rcases hop with rfl | rfl <;> simp only [intBin] at h <;>
    (split at h; · cases h) <;> (split at h; · cases h) <;> exact ⟨by assumption, by assumption⟩

theorem wrapTo_arith {t : Ty} (ht : Arith t) (z : Int) :
    wrapTo t z = if t.signed then wrapS t.bits z else wrapU t.bits z := by
  rcases ht with rfl | rfl | rfl | rfl <;> rfl

theorem cvt_inRange {t : Ty} (ht : Arith t) {a : Val} (ha : Good a) : inRange t (cvt t a).v = true := by
  rw [cvt_int a ha.1.notFloat ht.reach.notFloat]; exact wrapTo_inRange t _

theorem arithInt_spec {t : Ty} (ht : Arith t) {z : Int} {r : Val} (h : arithInt t z = .val r) :
    Good r ∧ r.ty = t := by
  unfold arithInt at h
  split at h
  · split at h
    · cases h; exact ⟨⟨ht.reach, ‹_›⟩, rfl⟩
    · cases h
  · cases h
    have := good_wrapTo ht.reach z
    rw [wrapTo_arith ht, if_neg ‹_›] at this
    exact ⟨this, rfl⟩

theorem intBin_spec {op : BinOp} {t : Ty} (ht : Arith t) {x y : Int} (hx : inRange t x = true)
    (hy : inRange t y = true) {r : Val} (h : intBin op t x y = .val r) :
    Good r ∧ r.ty = if BinOp.isRel op then .bool else t := by
  cases op <;> simp only [intBin] at h
  case mul | add | sub => exact arithInt_spec ht h
  case div =>
    obtain ⟨hy0, hov⟩ := intBin_divmod_val (Or.inl rfl) (by simpa only [intBin] using h)
    rw [if_neg hy0, if_neg hov] at h
    cases h
    exact ⟨⟨ht.reach, tdiv_inRange hx hy hy0 hov⟩, rfl⟩
  case mod =>
    obtain ⟨hy0, hov⟩ := intBin_divmod_val (Or.inr rfl) (by simpa only [intBin] using h)
    rw [if_neg hy0, if_neg hov] at h
    cases h
    exact ⟨⟨ht.reach, tmod_inRange hx y⟩, rfl⟩
  case lt | le | gt | ge | eq | ne => cases h; exact ⟨good_ofBool _, rfl⟩
  case band | bxor | bor => cases h; exact ⟨good_wrapTo ht.reach _, rfl⟩
  all_goals cases h

theorem shift_spec {l : Bool} {t : Ty} (ht : Arith t) {x c : Int} (hx : inRange t x = true) {r : Val}
    (h : shift l t x c = .val r) : Good r ∧ r.ty = t := by
  have hc := shift_val_count h
  rw [shift, if_neg (by omega)] at h
  cases l
  · -- `>>`
    rw [if_neg (by decide)] at h
    cases h
    have hb := ediv_between x (2 ^ c.toNat) (Int.pow_pos (by decide))
    refine ⟨⟨ht.reach, ?_⟩, rfl⟩
    show inRange t (x / 2 ^ c.toNat) = true
    have h0 := (Ty.span t).2
    rw [inRange_iff] at hx ⊢
    omega
  · -- `<<`: signed or not, the value is `wrapTo t (x * 2 ^ c)`
    have hw := good_wrapTo ht.reach (x * 2 ^ c.toNat)
    rw [wrapTo_arith ht] at hw
    rw [if_pos rfl] at h
    by_cases hs : t.signed = true
    · rw [if_pos hs] at h hw
      by_cases h1 : x < 0
      · rw [if_pos h1] at h; cases h
      · rw [if_neg h1] at h
        by_cases h2 : x * 2 ^ c.toNat ≥ 2 ^ t.bits
        · rw [if_pos h2] at h; cases h
        · rw [if_neg h2] at h; cases h; exact ⟨hw, rfl⟩
    · rw [if_neg hs] at h hw
      cases h
      exact ⟨hw, rfl⟩

theorem finite32_spec {t : Ty} (ht : FloatTy t) {x : Float32} {r : Val} (h : finite32 t x = .val r) :
    GoodF r ∧ r.ty = t := by
  unfold finite32 at h; split at h <;> cases h; exact ⟨Or.inr ht, rfl⟩

theorem finite64_spec {t : Ty} (ht : FloatTy t) {x : Float} {r : Val} (h : finite64 t x = .val r) :
    GoodF r ∧ r.ty = t := by
  unfold finite64 at h; split at h <;> cases h; exact ⟨Or.inr ht, rfl⟩

theorem floatBin_spec {op : BinOp} {t : Ty} (ht : FloatTy t) {x y : Int} {r : Val}
    (h : floatBin op t x y = .val r) :
    BinOp.floatOk op = true ∧ GoodF r ∧ r.ty = if BinOp.isRel op then .bool else t := by
  unfold floatBin at h
  split at h
  · cases op <;> simp only at h
    case mul | add | sub => exact ⟨rfl, finite32_spec ht h⟩
    case div => split at h; · cases h
                exact ⟨rfl, finite32_spec ht h⟩
    case lt | le | gt | ge | eq | ne => cases h; exact ⟨rfl, Or.inl (good_ofBool _), rfl⟩
    all_goals cases h
  · cases op <;> simp only at h
    case mul | add | sub => exact ⟨rfl, finite64_spec ht h⟩
    case div => split at h; · cases h
                exact ⟨rfl, finite64_spec ht h⟩
    case lt | le | gt | ge | eq | ne => cases h; exact ⟨rfl, Or.inl (good_ofBool _), rfl⟩
    all_goals cases h

theorem binType_conv {op : BinOp} (h : BinOp.isConv op = true) (a b : Ty) :
    binType op a b =
      if BinOp.isRel op then some .bool
      else if (common a b).isFloat && !BinOp.floatOk op then none else some (common a b) := by
  cases op <;> simp_all [BinOp.isConv, BinOp.isRel, BinOp.floatOk, binType]

theorem binop_conv_spec {op : BinOp} (hc : BinOp.isConv op = true) {a b r : Val} (ha : GoodF a) (hb : GoodF b)
    (h : binop op a b = .val r) : GoodF r ∧ binType op a.ty b.ty = some r.ty := by
  rw [binop_conv_eq hc] at h
  rw [binType_conv hc]
  rcases maxTy_split ha hb with ⟨hm, ha', hb'⟩ | hm
  · have hA := common_arith hm
    rw [hA.reach.notFloat] at h ⊢
    obtain ⟨g, ty⟩ := intBin_spec hA (cvt_inRange hA ha') (cvt_inRange hA hb') h
    exact ⟨Or.inl g, by cases hr : BinOp.isRel op <;> simp [hr, ty]⟩
  · have hF : FloatTy (common a.ty b.ty) := (common_floatTy hm).symm ▸ hm
    rw [hF.isFloat] at h ⊢
    obtain ⟨ok, g, ty⟩ := floatBin_spec hF h
    exact ⟨g, by cases hr : BinOp.isRel op <;> simp [hr, ty, ok]⟩

theorem binop_spec {op : BinOp} {a b r : Val} (ha : GoodF a) (hb : GoodF b) (h : binop op a b = .val r) :
    GoodF r ∧ binType op a.ty b.ty = some r.ty := by
  by_cases hc : BinOp.isConv op = true
  · exact binop_conv_spec hc ha hb h
  · rcases BinOp.not_conv hc with hop | hop
    · obtain ⟨hfa, hfb, hs⟩ := binop_shift_val hop h
      have hp := promote_arith (ha.good hfa).1
      obtain ⟨g, ty⟩ := shift_spec hp (cvt_inRange hp (ha.good hfa)) hs
      refine ⟨Or.inl g, ?_⟩
      rcases hop with rfl | rfl <;> simp [binType, hfa, hfb, ty]
    · rw [binop_logic hop] at h
      cases h
      exact ⟨Or.inl (good_ofBool _), by rcases hop with rfl | rfl <;> rfl⟩

theorem unop_spec {op : UnOp} {a r : Val} (ha : GoodF a) (h : unop op a = .val r) :
    GoodF r ∧ unType op a.ty = some r.ty := by
  rcases ha with ha | ha
  · have hf := ha.1.notFloat
    have hp := promote_arith ha.1
    cases op
    · simp [unop] at h; subst h; exact ⟨Or.inl (good_ofBool _), rfl⟩
    · simp [unop, hf] at h; subst h
      rw [cvt_int a hf hp.reach.notFloat]
      exact ⟨Or.inl (good_wrapTo hp.reach _), by simp [unType, hf]⟩
    · have : unop .neg a = arithInt a.ty.promote (-(cvt a.ty.promote a).v) := by
        obtain ⟨t, x⟩ := a
        rcases ha.1 with h1 | h1 | h1 | h1 | h1 <;> simp only at h1 <;> subst h1 <;> rfl
      rw [this] at h
      obtain ⟨g, ty⟩ := arithInt_spec hp h
      exact ⟨Or.inl g, by simp [unType, hf, ty]⟩
    · simp [unop, hf] at h; subst h
      exact ⟨Or.inl (good_wrapTo hp.reach _), by simp [unType, hf]⟩
  · have hf := ha.isFloat
    cases op
    · cases h
      exact ⟨Or.inl (good_ofBool _), rfl⟩
    · rw [unop, if_pos hf] at h
      cases h
      exact ⟨Or.inr ha, by simp [unType, hf]⟩
    · obtain ⟨t, x⟩ := a
      rcases ha with ht | ht <;> cases ht <;> cases h
      · exact ⟨Or.inr (Or.inl rfl), rfl⟩
      · exact ⟨Or.inr (Or.inr rfl), rfl⟩
    · rw [unop, if_pos hf] at h
      cases h

end Occa.Prim.Lemmas
