/-
Values and types of C14: wrap-around, ranges and conversions between the types an expression can
have (bool, int, unsigned, long, unsigned long, float, double), and how occa's rank order of the
types relates to the usual arithmetic conversions.
-/
import OccaModel.Prim
import OccaProofs.Lemmas.CInt
namespace Occa.Prim.Lemmas
open Occa Occa.CExpr Occa.CxxSem Occa.Gen Occa.Prim

@[simp] theorem wrapTo_bool (x : Int) : wrapTo .bool x = if x = 0 then 0 else 1 := rfl

def Ty.all : List Ty := [.bool, .schar, .uchar, .short, .ushort, .int, .uint, .long, .ulong, .float, .double]

/-- as core has for `Bool` and `Fin n`: the table facts below are one evaluation each -/
instance (priority := low) Ty.decidableForall {P : Ty → Prop} [DecidablePred P] : Decidable (∀ t, P t) :=
  decidable_of_iff (∀ t ∈ Ty.all, P t) ⟨fun h t => h t (by cases t <;> decide), fun h t _ => h t⟩

theorem inRange_iff (t : Ty) (x : Int) : inRange t x = true ↔ t.minVal ≤ x ∧ x ≤ t.maxVal := by
  simp [inRange]

/-- the integer types a literal or an operator result can have (with the floating ones: `ReachF`) -/
def Reach (t : Ty) : Prop := t = .bool ∨ t = .int ∨ t = .uint ∨ t = .long ∨ t = .ulong

def Good (a : Val) : Prop := Reach a.ty ∧ inRange a.ty a.v = true

def FloatTy (t : Ty) : Prop := t = .float ∨ t = .double

def ReachF (t : Ty) : Prop := Reach t ∨ FloatTy t

/-- a value an expression can produce: an in-range integer/bool, or any float/double bit pattern -/
def GoodF (a : Val) : Prop := Good a ∨ FloatTy a.ty

theorem GoodF.cases {a : Val} (h : GoodF a) : Good a ∨ FloatTy a.ty := h

theorem GoodF.reach {a : Val} (h : GoodF a) : ReachF a.ty := h.imp And.left id

theorem Reach.notFloat {t : Ty} (h : Reach t) : t.isFloat = false := by
  rcases h with rfl | rfl | rfl | rfl | rfl <;> rfl

theorem FloatTy.isFloat {t : Ty} (h : FloatTy t) : t.isFloat = true := by rcases h with rfl | rfl <;> rfl

theorem GoodF.good {a : Val} (h : GoodF a) (hf : a.ty.isFloat = false) : Good a :=
  h.resolve_right fun hF => by rw [hF.isFloat] at hf; cases hf

theorem Ty.span : ∀ t : Ty, t.maxVal - t.minVal + 1 = 2 ^ t.bits ∧ t.minVal ≤ 0 ∧ 0 ≤ t.maxVal := by
  decide +kernel

theorem Ty.bits_le_64 (t : Ty) : t.bits ≤ 64 := by cases t <;> decide

theorem inRange_unique {t : Ty} {a b : Int} (ha : inRange t a = true) (hb : inRange t b = true)
    (h : wrapU t.bits a = wrapU t.bits b) : a = b := by
  have hs := Ty.span t
  rw [inRange_iff] at ha hb
  have hd := Int.dvd_of_emod_eq_zero (Int.emod_eq_emod_iff_emod_sub_eq_zero.mp h)
  exact Int.eq_of_sub_eq_zero (Int.eq_zero_of_dvd_of_natAbs_lt_natAbs hd (by omega))

theorem wrapTo_spec {t : Ty} (hb : t ≠ .bool) (x : Int) :
    inRange t (wrapTo t x) = true ∧ wrapU t.bits (wrapTo t x) = wrapU t.bits x := by
  have hw : wrapTo t x = if t.signed then wrapS t.bits x else wrapU t.bits x := by
    cases t <;> first | rfl | exact absurd rfl hb
  have hpos : 0 < t.bits := by cases t <;> decide
  rw [hw, inRange_iff]
  unfold Ty.minVal Ty.maxVal
  cases t.signed <;> simp only [Bool.false_eq_true, if_false, if_true]
  · exact ⟨⟨(wrapU_lt _ x).1, Int.le_sub_one_of_lt (wrapU_lt _ x).2⟩, wrapU_wrapU _ x⟩
  · exact ⟨⟨(wrapS_range hpos x).1, Int.le_sub_one_of_lt (wrapS_range hpos x).2⟩, wrapU_wrapS _ x⟩

theorem wrapTo_inRange (t : Ty) (x : Int) : inRange t (wrapTo t x) = true := by
  by_cases hb : t = .bool
  · subst hb; rw [wrapTo_bool]; split <;> decide
  · exact (wrapTo_spec hb x).1

theorem wrapTo_id {t : Ty} {x : Int} (hx : inRange t x = true) : wrapTo t x = x := by
  by_cases hb : t = .bool
  · subst hb
    have : 0 ≤ x ∧ x ≤ 1 := (inRange_iff _ _).mp hx
    rw [wrapTo_bool]; omega
  · exact inRange_unique (wrapTo_spec hb x).1 hx (wrapTo_spec hb x).2

theorem good_wrapTo {t : Ty} (ht : Reach t) (z : Int) : Good ⟨t, wrapTo t z⟩ := ⟨ht, wrapTo_inRange t z⟩

theorem good_ofBool (b : Bool) : Good (ofBool b) :=
  ⟨Or.inl rfl, by cases b <;> decide⟩

theorem inRange_natAbs {t : Ty} {x : Int} (h : inRange t x = true) : x.natAbs < 2 ^ t.bits := by
  have hs := Ty.span t
  rw [inRange_iff] at h
  have : ((2 ^ t.bits : Nat) : Int) = 2 ^ t.bits := Int.natCast_pow 2 _
  omega

theorem wrapTo_eq_zero (t : Ty) {x : Int} (hx : x.natAbs < 2 ^ t.bits) : wrapTo t x = 0 ↔ x = 0 := by
  by_cases hb : t = .bool
  · subst hb; rw [wrapTo_bool]; split <;> simp [*]
  · refine ⟨fun h => ?_, fun h => by subst h; exact wrapTo_id ((inRange_iff _ _).mpr (Ty.span t).2)⟩
    have hc := (wrapTo_spec hb x).2
    rw [h] at hc
    have hd : (2:Int) ^ t.bits ∣ x := Int.dvd_of_emod_eq_zero hc.symm
    exact Int.eq_zero_of_dvd_of_natAbs_lt_natAbs hd (by simpa [Int.natAbs_pow] using hx)

theorem cvt_ty (t : Ty) (a : Val) : (cvt t a).ty = t := by
  unfold cvt
  split <;> (try split) <;> simp_all [ofBool]

theorem cvt_int {t : Ty} (a : Val) (ha : a.ty.isFloat = false) (ht : t.isFloat = false) :
    cvt t a = ⟨t, wrapTo t a.v⟩ := by
  unfold cvt
  rw [ha]
  cases t
  case float | double => cases ht
  all_goals rfl

theorem cvt_floatTy_self {t : Ty} (ht : FloatTy t) (a : Val) (h : a.ty = t) : cvt t a = a := by
  rcases ht with rfl | rfl <;> unfold cvt <;> simp [h, Ty.isFloat]

theorem cvt_self {a : Val} (ha : GoodF a) : cvt a.ty a = a := by
  rcases ha with h | h
  · rw [cvt_int a h.1.notFloat h.1.notFloat, wrapTo_id h.2]
  · exact cvt_floatTy_self h a rfl

theorem cvt_idem {t : Ty} (ht : ReachF t) {a : Val} (h : a.ty.isFloat = false ∨ t.isFloat = true) :
    cvt t (cvt t a) = cvt t a := by
  rcases ht with ht | ht
  · rw [cvt_int a (h.resolve_right (by simp [ht.notFloat])) ht.notFloat]
    exact cvt_self (Or.inl (good_wrapTo ht _))
  · exact cvt_floatTy_self ht _ (cvt_ty t a)

theorem truth_int {a : Val} (ha : a.ty.isFloat = false) : truth a = decide (a.v ≠ 0) := by
  obtain ⟨t, x⟩ := a
  cases t <;> simp_all [truth, Ty.isFloat]

theorem cvt_bool_v (a : Val) : decide ((cvt .bool a).v ≠ 0) = truth a := by
  cases hf : a.ty.isFloat
  · rw [cvt_int a hf rfl, truth_int hf, wrapTo_bool]
    by_cases h : a.v = 0 <;> simp [h]
  · have : cvt .bool a = ofBool (truth a) := by simp [cvt, hf]
    rw [this]
    cases truth a <;> rfl

/-- the "larger" type as `(a.type > b.type) ? a.type : b.type` picks it -/
def maxTy (a b : Ty) : Ty := if primRank a > primRank b then a else b

theorem maxTy_self (t : Ty) : maxTy t t = t := by simp [maxTy]

theorem maxTy_cases {P : Ty → Prop} {a b : Ty} (ha : P a) (hb : P b) : P (maxTy a b) := by
  unfold maxTy; split <;> assumption

theorem rank_le_maxTy (a b : Ty) : primRank a ≤ primRank (maxTy a b) ∧ primRank b ≤ primRank (maxTy a b) := by
  unfold maxTy; split <;> omega

theorem rank_bool {t : Ty} : primRank t ≤ primRank .bool → t = .bool := by
  revert t
  decide +kernel

theorem isFloat_iff_rank (t : Ty) : t.isFloat = true ↔ primRank .float ≤ primRank t := by
  cases t <;> decide

theorem isFloat_mono {s t : Ty} (h : primRank s ≤ primRank t) : s.isFloat = false ∨ t.isFloat = true := by
  cases hs : s.isFloat
  · exact Or.inl rfl
  · exact Or.inr ((isFloat_iff_rank t).2 (Nat.le_trans ((isFloat_iff_rank s).1 hs) h))

theorem rank_le_promote (t : Ty) : primRank t ≤ primRank t.promote := by cases t <;> decide

theorem Reach.rank_le {t : Ty} (h : Reach t) : primRank t ≤ primRank .ulong := by
  rcases h with rfl | rfl | rfl | rfl | rfl <;> decide

theorem promote_isFloat (t : Ty) : t.promote.isFloat = t.isFloat := by cases t <;> rfl

theorem bits_mono : ∀ s t : Ty, t.isFloat = false → primRank s ≤ primRank t → s.bits ≤ t.bits := by
  decide +kernel

/-- the rank order is the order of the usual arithmetic conversions: the common type of two operands is
    the promoted type of the higher-ranked one -/
theorem common_eq : ∀ a b : Ty, common a b = (maxTy a b).promote := by
  decide +kernel

theorem common_notFloat {a b : Ty} (ha : a.isFloat = false) (hb : b.isFloat = false) :
    (common a b).isFloat = false := by
  rw [common_eq, promote_isFloat]
  exact maxTy_cases (P := fun t => t.isFloat = false) ha hb

theorem promote_eq {t : Ty} (ht : ReachF t) (hb : t ≠ .bool) : t.promote = t := by
  rcases ht with (rfl | rfl | rfl | rfl | rfl) | rfl | rfl <;> first | rfl | exact absurd rfl hb

/-- the integer types the usual arithmetic conversions and the promotions produce -/
def Arith (t : Ty) : Prop := t = .int ∨ t = .uint ∨ t = .long ∨ t = .ulong

theorem Arith.reach {t : Ty} (h : Arith t) : Reach t := Or.inr h

theorem promote_arith {t : Ty} (ht : Reach t) : Arith t.promote := by
  rcases ht with rfl | rfl | rfl | rfl | rfl <;> simp [Arith, Ty.promote]

theorem maxTy_split {a b : Val} (ha : GoodF a) (hb : GoodF b) :
    (Reach (maxTy a.ty b.ty) ∧ Good a ∧ Good b) ∨ FloatTy (maxTy a.ty b.ty) := by
  have hle := rank_le_maxTy a.ty b.ty
  refine (maxTy_cases ha.reach hb.reach : ReachF (maxTy a.ty b.ty)).imp_left fun hm => ⟨hm, ?_, ?_⟩
  · exact ha.good ((isFloat_mono hle.1).resolve_right (by simp [hm.notFloat]))
  · exact hb.good ((isFloat_mono hle.2).resolve_right (by simp [hm.notFloat]))

theorem common_arith {a b : Ty} (h : Reach (maxTy a b)) : Arith (common a b) := common_eq a b ▸ promote_arith h

theorem common_floatTy {a b : Ty} (h : FloatTy (maxTy a b)) : common a b = maxTy a b := by
  rw [common_eq, promote_eq (Or.inr h) (by rcases h with h | h <;> simp [h])]

/-- the step from occa's `to<retType>()` to the usual arithmetic conversions -/
theorem cvt_promote_cvt {a : Val} {m : Ty} (ha : GoodF a) (hm : ReachF m) (hle : primRank a.ty ≤ primRank m) :
    cvt m.promote (cvt m a) = cvt m.promote a := by
  by_cases hb : m = .bool
  · subst hb
    have := cvt_self ha
    rw [rank_bool hle] at this
    rw [this]
  · rw [promote_eq hm hb]
    exact cvt_idem hm (isFloat_mono hle)

theorem cvt_eq_zero {a : Val} {t : Ty} (ha : Good a) (ht : Reach t) (hle : primRank a.ty ≤ primRank t) :
    (cvt t a).v = 0 ↔ a.v = 0 := by
  rw [cvt_int a ha.1.notFloat ht.notFloat]
  exact wrapTo_eq_zero t (Nat.lt_of_lt_of_le (inRange_natAbs ha.2) (Nat.pow_le_pow_right (by decide) (bits_mono _ _ ht.notFloat hle)))

theorem truth_cvt_wide {a : Val} {t : Ty} (ha : Good a) (ht : Reach t) (hle : primRank a.ty ≤ primRank t) :
    truth (cvt t a) = truth a := by
  rw [truth_int (by rw [cvt_ty]; exact ht.notFloat), truth_int ha.1.notFloat]
  simp only [ne_eq, cvt_eq_zero ha ht hle]

end Occa.Prim.Lemmas
