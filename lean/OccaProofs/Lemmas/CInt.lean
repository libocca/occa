/-
The machine-integer helpers of `OccaModel/CInt.lean`: a value already in the range of an `n`-bit object is not
changed by wrapping, a wrapped value is in range, and wrapping twice is wrapping once.  The signed lemmas about a
range are stated for a width that is not 0: `wrapS 0 x = -1`.  Then `Mag`, for expressions wrapped at every operation,
and `cxor` on 32-bit values (it stays in range and undoes itself).
-/
import OccaModel.CInt

namespace Occa

theorem two_pow_63 : (2 : Int) ^ 63 = 9223372036854775808 := by decide
theorem two_pow_64 : (2 : Int) ^ 64 = 18446744073709551616 := by decide

theorem wrapU_of_lt (n : Nat) (x : Int) (h : 0 ≤ x ∧ x < 2 ^ n) : wrapU n x = x := Int.emod_eq_of_lt h.1 h.2

theorem wrapU_wrapU (n : Nat) (x : Int) : wrapU n (wrapU n x) = wrapU n x := Int.emod_emod_of_dvd x (Int.dvd_refl _)

theorem wrapS_succ (k : Nat) (x : Int) : wrapS (k + 1) x = wrapU (k + 1) (x + 2 ^ k) - 2 ^ k := rfl

theorem wrapS_range {n : Nat} (hn : 0 < n) (x : Int) : -2 ^ (n - 1) ≤ wrapS n x ∧ wrapS n x < 2 ^ (n - 1) := by
  obtain ⟨k, rfl⟩ : ∃ k, n = k + 1 := ⟨n - 1, by omega⟩
  have := wrapU_lt (k + 1) (x + 2 ^ k)
  rw [Int.pow_succ] at this
  rw [wrapS_succ, Nat.add_sub_cancel]
  omega

theorem wrapS_of_lt (k : Nat) (x : Int) (h : -2 ^ k ≤ x ∧ x < 2 ^ k) : wrapS (k + 1) x = x := by
  rw [wrapS_succ, wrapU_of_lt _ _ ⟨by omega, by rw [Int.pow_succ]; omega⟩]
  omega

theorem wrapS_eq_self (k : Nat) (x : Int) : wrapS (k + 1) x = x ↔ -2 ^ k ≤ x ∧ x < 2 ^ k :=
  ⟨fun h => h ▸ wrapS_range (Nat.succ_pos k) x, wrapS_of_lt k x⟩

theorem wrapU_eq_self (n : Nat) (x : Int) : wrapU n x = x ↔ 0 ≤ x ∧ x < 2 ^ n :=
  ⟨fun h => h ▸ wrapU_lt n x, wrapU_of_lt n x⟩

theorem wrapS_wrapS (n : Nat) (x : Int) : wrapS n (wrapS n x) = wrapS n x := by
  unfold wrapS
  rw [Int.sub_add_cancel, Int.emod_emod_of_dvd _ (Int.dvd_refl _)]

theorem wrapU_wrapS (n : Nat) (x : Int) : wrapU n (wrapS n x) = wrapU n x := by
  unfold wrapU wrapS
  rw [Int.emod_sub_emod, Int.add_sub_cancel]

/-- A no-overflow argument carries this bound through an expression the way the expression is built; each wrapper
    then goes for a comparison of two closed naturals. -/
def Mag (m : Nat) (x : Int) : Prop := x.natAbs ≤ m

namespace Mag
variable {m n : Nat} {x y : Int}

theorem zero : Mag 0 0 := Nat.le_refl _
theorem one : Mag 1 1 := Nat.le_refl _

theorem add (hx : Mag m x) (hy : Mag n y) : Mag (m + n) (x + y) :=
  Nat.le_trans (Int.natAbs_add_le x y) (Nat.add_le_add hx hy)

theorem sub (hx : Mag m x) (hy : Mag n y) : Mag (m + n) (x - y) :=
  Nat.le_trans (Int.natAbs_sub_le x y) (Nat.add_le_add hx hy)

theorem tdiv (hx : Mag m x) (y : Int) : Mag m (x.tdiv y) :=
  Nat.le_trans (Int.natAbs_tdiv_le_natAbs x y) hx

theorem wrapS (hx : Mag m x) (k : Nat) (hm : m < 2 ^ k := by decide) : wrapS (k + 1) x = x := by
  have : ((2 ^ k : Nat) : Int) = 2 ^ k := Int.natCast_pow 2 k
  have := Nat.lt_of_le_of_lt hx hm
  exact wrapS_of_lt k x (by omega)

theorem wrapU (hx : Mag m x) (h0 : 0 ≤ x) (k : Nat) (hm : m < 2 ^ k := by decide) : wrapU k x = x := by
  have : ((2 ^ k : Nat) : Int) = 2 ^ k := Int.natCast_pow 2 k
  have := Nat.lt_of_le_of_lt hx hm
  exact wrapU_of_lt k x ⟨h0, by omega⟩

end Mag

/-! `cxor` on the values of a 32-bit `int`: the 64-bit vector of such a value is the sign extension of its
32-bit vector, and xor commutes with sign extension -/

theorem ofInt64_eq_signExtend {x : Int} (h : -2147483648 ≤ x ∧ x < 2147483648) :
    BitVec.ofInt 64 x = BitVec.signExtend 64 (BitVec.ofInt 32 x) := by
  apply BitVec.eq_of_toInt_eq
  rw [BitVec.toInt_signExtend_of_le (by decide), BitVec.toInt_ofInt_eq_self (by decide) (by omega) (by omega),
    BitVec.toInt_ofInt_eq_self (by decide) (by omega) (by omega)]

theorem cxor_int32 {x c : Int} (hx : -2147483648 ≤ x ∧ x < 2147483648) (hc : -2147483648 ≤ c ∧ c < 2147483648) :
    -2147483648 ≤ cxor x c ∧ cxor x c < 2147483648 := by
  unfold cxor
  rw [ofInt64_eq_signExtend hx, ofInt64_eq_signExtend hc, ← BitVec.signExtend_xor,
    BitVec.toInt_signExtend_of_le (by decide)]
  exact ⟨BitVec.le_toInt _, BitVec.toInt_lt⟩

theorem cxor_cancel {x : Int} (hx : -2147483648 ≤ x ∧ x < 2147483648) (c : Int) : cxor (cxor x c) c = x := by
  unfold cxor
  rw [BitVec.ofInt_toInt, BitVec.xor_assoc, BitVec.xor_self, BitVec.xor_zero,
    BitVec.toInt_ofInt_eq_self (by decide) (by omega) (by omega)]

end Occa
