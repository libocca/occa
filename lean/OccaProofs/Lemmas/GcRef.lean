/-
A handle leaving / joining the ring of its object, and `X::removeXRef` (`dropRefWith`): leave the ring;
destroy the object when that was the last reference.  What such a step leaves alone is said once, in `Shrink`
(any step that creates nothing), `DelOut` (the destruction of an object) and `DropOut` (`removeXRef`).
-/
import OccaProofs.Lemmas.GcEdit

namespace Occa.Gc

-- as in GcEdit: keeps the comparison of a state with an updated state from evaluating `upd`
attribute [local irreducible] upd

theorem InvX.leave_ring {ex : Var → Prop} {s : St} {v : Var} {o : Nat} (hi : InvX ex s) (hv : ¬ ex v)
    (hp : s.ptr v = some o) :
    InvX (fun w => ex w ∨ w = v) (s.setRing o (Ring.remove (s.ring o) v)) := by
  have hn := hi.ring_nodup o
  have hmem : ∀ w x, w ∈ (s.setRing o (Ring.remove (s.ring o) v)).ring x ↔ w ∈ s.ring x ∧ (x = o → w ≠ v) :=
    fun w x => mem_upd_remove hn x w
  refine { hi with
    ptr_ok := ?_, ring_ptr := fun w x hw => hi.ring_ptr w x ((hmem w x).mp hw).1,
    ring_nodup := fun x => nodup_upd_remove hn x (hi.ring_nodup x), ex_out := ?_, ring_ne := ?_ }
  · intro w x hw hex
    obtain ⟨a, b, c⟩ := hi.ptr_ok w x hw fun h => hex (Or.inl h)
    exact ⟨a, b, (hmem w x).mpr ⟨c, fun _ h => hex (Or.inr h)⟩⟩
  · intro w hw x hwx
    obtain ⟨h1, h2⟩ := (hmem w x).mp hwx
    rcases hw with hw | hw
    · exact hi.ex_out w hw x h1
    · -- `v` is in the ring of the object it refers to, which is `o`
      subst hw
      exact h2 (Option.some.inj ((hi.ring_ptr w x h1).symm.trans hp)) rfl
  · intro x hxa hxk hxu
    by_cases hxo : x = o
    · subst hxo
      exact Or.inr ⟨v, Or.inr rfl, hp⟩
    · rcases hi.ring_ne x hxa hxk hxu with h | ⟨w, hw1, hw2⟩
      · left
        show upd s.ring o _ x ≠ []
        rwa [upd_other _ _ hxo]
      · exact Or.inr ⟨w, Or.inl hw1, hw2⟩

theorem InvX.null_ptr {ex : Var → Prop} {s : St} {v : Var} (hi : InvX (fun w => ex w ∨ w = v) s)
    (hleak : ∀ o, s.ptr v = some o → s.alive o = true → s.kind o ≠ .buf → s.useRefs o = true →
      (s.ring o ≠ [] ∨ ∃ w, ex w ∧ w ≠ v ∧ s.ptr w = some o)) :
    InvX ex (s.setPtr v none) := by
  have hptr : ∀ w, (s.setPtr v none).ptr w = if w = v then none else s.ptr w := fun w => upd_apply ..
  have hvout : ∀ x, v ∉ s.ring x := hi.ex_out v (Or.inr rfl)
  refine { hi with ptr_ok := ?_, ptr_live := ?_, ring_ptr := ?_, ex_out := ?_, ring_ne := ?_ }
  · intro w x hw hex
    rw [hptr] at hw
    obtain ⟨hwv, hw⟩ := Option.ite_none_left_eq_some.mp hw
    exact hi.ptr_ok w x hw (fun h => h.elim hex hwv)
  · intro w x hw
    rw [hptr] at hw
    exact hi.ptr_live w x (Option.ite_none_left_eq_some.mp hw).2
  · intro w x hw
    have hwv : w ≠ v := fun h => hvout x (h ▸ hw)
    rw [hptr]
    simp only [hwv, if_false]
    exact hi.ring_ptr w x hw
  · intro w hw x
    exact hi.ex_out w (Or.inl hw) x
  · intro x hxa hxk hxu
    rcases hi.ring_ne x hxa hxk hxu with h | ⟨w, hw1, hw2⟩
    · exact Or.inl h
    · by_cases hwv : w = v
      · subst hwv
        rcases hleak x hw2 hxa hxk hxu with h | ⟨w', h1, h2, h3⟩
        · exact Or.inl h
        · refine Or.inr ⟨w', h1, ?_⟩
          rw [hptr]; simp only [h2, if_false]; exact h3
      · rcases hw1 with hw1 | hw1
        · refine Or.inr ⟨w, hw1, ?_⟩
          rw [hptr]; simp only [hwv, if_false]; exact hw2
        · exact absurd hw1 hwv

/-- `modeX = modeX_; modeX->addXRef(this)` for a handle that holds NULL.  If `o` was waiting for its reference, this
    is it (`hN`) -/
theorem InvN.attach_core {ex : Var → Prop} {N : Nat → Prop} {s : St} {v : Var} {o : Nat} (hi : InvN ex N s)
    (hN : ∀ x, N x → x = o) (hv : ¬ ex v)
    (hp : s.ptr v = none) (hl : s.vlive v = true) (hoa : s.alive o = true) (hok : s.kind o = v.kind.obj) :
    InvX ex ((s.setPtr v (some o)).setRing o (Ring.add (s.ring o) v)) := by
  have hrn : ∀ x, x ≠ o → s.alive x = true → s.kind x ≠ .buf → s.useRefs x = true →
      (s.ring x ≠ [] ∨ ∃ w, ex w ∧ s.ptr w = some x) := fun x hx a => (hi.held x (fun n => hx (hN x n)) a).1
  have hbn : ∀ b, s.alive b = true → s.kind b = .buf →
      (s.kids b ≠ [] ∨ ∃ p, s.alive p = true ∧ s.inner p = some b) := fun b a hkb =>
    (hi.held b (fun n => by
      -- a handle's object is no plain buffer
      rw [hN b n, hok] at hkb
      cases e : v.kind <;> rw [e] at hkb <;> cases hkb) a).2 hkb
  have hvout : ∀ x, v ∉ s.ring x := by
    intro x hx
    have := hi.ring_ptr v x hx
    rw [hp] at this; cases this
  have hptr : ∀ w, ((s.setPtr v (some o)).setRing o (Ring.add (s.ring o) v)).ptr w
      = if w = v then some o else s.ptr w := fun w => upd_apply ..
  have hring : ∀ x, ((s.setPtr v (some o)).setRing o (Ring.add (s.ring o) v)).ring x
      = if x = o then Ring.add (s.ring o) v else s.ring x := fun x => upd_apply ..
  have hmem : ∀ w x, w ∈ ((s.setPtr v (some o)).setRing o (Ring.add (s.ring o) v)).ring x
      ↔ w ∈ s.ring x ∨ (x = o ∧ w = v) := fun w x => mem_upd_add x w
  refine { hi.toInv0 with
    ptr_ok := ?_, ptr_live := ?_, ring_ptr := ?_, ring_nodup := ?_, ex_out := ?_, ring_ne := ?_, buf_ne := hbn }
  · intro w x hw hex
    rw [hptr] at hw
    split at hw
    · rename_i hwv
      cases hw
      subst hwv
      exact ⟨hoa, hok, (hmem _ _).mpr (Or.inr ⟨rfl, rfl⟩)⟩
    · obtain ⟨a, b, c⟩ := hi.ptr_ok w x hw hex
      exact ⟨a, b, (hmem w x).mpr (Or.inl c)⟩
  · intro w x hw
    rw [hptr] at hw
    split at hw
    · rename_i hwv; rw [hwv]; exact hl
    · exact hi.ptr_live w x hw
  · intro w x hw
    rw [hptr]
    rcases (hmem w x).mp hw with h | ⟨rfl, rfl⟩
    · rw [if_neg fun (e : w = v) => hvout x (e ▸ h)]
      exact hi.ring_ptr w x h
    · exact if_pos rfl
  · intro x
    exact nodup_upd_add x (hi.ring_nodup x)
  · intro w hw x hwx
    rcases (hmem w x).mp hwx with h | ⟨_, h⟩
    · exact hi.ex_out w hw x h
    · exact hv (h ▸ hw)
  · intro x hxa hxk hxu
    rw [hring]
    split
    · exact Or.inl (Ring.add_ne_nil _ _)
    · rename_i hxo
      rcases hrn x hxo hxa hxk hxu with h | ⟨w, hw1, hw2⟩
      · exact Or.inl h
      · have hwv : w ≠ v := fun e => hv (e ▸ hw1)
        refine Or.inr ⟨w, hw1, ?_⟩
        rw [hptr]; simp only [hwv, if_false]; exact hw2

theorem Inv00.set_vlive {ex : Var → Prop} {s : St} {v : Var} (hi : Inv00 ex s) (hp : s.ptr v = none) (b : Bool)
    (hb : b = true → ∀ d, v = Var.cur d → d < s.next) : Inv00 ex (s.setVLive v b) := by
  have hvl : ∀ w, (s.setVLive v b).vlive w = if w = v then b else s.vlive w := fun _ => upd_apply ..
  refine { hi with ptr_live := ?_, cur_lt := ?_ }
  · intro w x hw
    have hw' : s.ptr w = some x := hw
    rw [hvl, if_neg fun h => by rw [h, hp] at hw'; cases hw']
    exact hi.ptr_live w x hw'
  · intro d hd
    rw [hvl] at hd
    split at hd
    · rename_i h; exact hb hd d h.symm
    · exact hi.cur_lt d hd

theorem InvX.set_vlive {ex : Var → Prop} {s : St} {v : Var} (hi : InvX ex s) (hp : s.ptr v = none) (b : Bool)
    (hb : b = true → ∀ d, v = Var.cur d → d < s.next) :
    InvX ex (s.setVLive v b) :=
  { hi with toInv00 := hi.toInv00.set_vlive hp b hb }

/-- a step that creates nothing: objects may die; every handle keeps its storage, except the `currentStream`
    member of a device that dies -/
structure Shrink (s s' : St) : Prop where
  vlive : ∀ v, (∀ d, v = Var.cur d → s'.alive d = true) → s'.vlive v = s.vlive v
  kind : s'.kind = s.kind
  next : s'.next = s.next
  alive_sub : ∀ t, s'.alive t = true → s.alive t = true

theorem Shrink.refl (s : St) : Shrink s s := ⟨fun _ _ => rfl, rfl, rfl, fun _ h => h⟩

theorem Shrink.trans {s s1 s2 : St} (h1 : Shrink s s1) (h2 : Shrink s1 s2) : Shrink s s2 :=
  ⟨fun v hv => (h2.vlive v hv).trans (h1.vlive v fun d hd => h2.alive_sub d (hv d hd)), h2.kind.trans h1.kind,
    h2.next.trans h1.next, fun t ht => h1.alive_sub t (h2.alive_sub t ht)⟩

/-- what callers need to know about the destruction of object `o`: apart from `o` it spares the objects of
    `o`'s class and all devices -/
structure DelOut (s s' : St) (o : Nat) : Prop extends Shrink s s' where
  dead : s'.alive o = false
  keep : ∀ t, s.alive t = true → s.kind t = s.kind o ∨ s.kind t = .dev → t ≠ o → s'.alive t = true
  ptr_out : ∀ w, (∀ x, w ∉ s.ring x) → (s'.ptr w = s.ptr w ∨ s'.ptr w = none)
  ptr_in : ∀ w, w ∈ s.ring o → s'.ptr w = none

theorem DelOut.of_killed {s s' : St} {K : List Nat} {o : Nat} (hk : Killed s K s') (ho : o ∈ K)
    (hK : ∀ x ∈ K, x = o ∨ (s.kind x ≠ s.kind o ∧ s.kind x ≠ .dev)) : DelOut s s' o := by
  refine ⟨⟨fun v _ => by rw [hk.vlive], hk.kind, hk.next, fun t ht => ((hk.alive_iff t).mp ht).1⟩,
    by rw [hk.alive]; simp [ho], ?_, fun w hw => Or.inl (hk.ptrU w (fun x _ => hw x)), fun w hw => hk.ptrK w o ho hw⟩
  intro t hta htk hto
  refine (hk.alive_iff t).mpr ⟨hta, fun h => ?_⟩
  rcases hK t h with h1 | h1
  · exact hto h1
  · exact htk.elim h1.1 h1.2

theorem setPtr_setPtr (s : St) (v : Var) (a b : Option Nat) : (s.setPtr v a).setPtr v b = s.setPtr v b := by
  apply St.ext
  all_goals first | rfl | skip
  funext w
  by_cases h : w = v <;> simp [St.setPtr, upd_apply, h]

theorem setPtr_none_self (s : St) (v : Var) (h : s.ptr v = none) : s.setPtr v none = s := by
  apply St.ext
  all_goals first | rfl | skip
  funext w
  by_cases hw : w = v
  · subst hw; simp [St.setPtr, h]
  · simp [St.setPtr, upd_apply, hw]

theorem setMode_some {s : St} {v : Var} {o : Nat} (hne : s.ptr v ≠ some o) (ha : (dropRef s v).alive o = true) :
    setMode s v (some o) = ((dropRef s v).setPtr v (some o)).setRing o (Ring.add ((dropRef s v).ring o) v) := by
  unfold setMode
  simp only [hne, if_false]
  have : ((dropRef s v).setPtr v (some o)).alive o = true := ha
  simp only [St.touch_alive this]
  rfl

/-- frame facts of dropping the reference held by handle `v` -/
structure DropOut (s s' : St) (v : Var) : Prop where
  ptr : s'.ptr v = none
  keep : ∀ t, s.alive t = true → s.kind t = v.kind.obj → s.ptr v ≠ some t → s'.alive t = true
  vlive : ∀ w, (∀ d, w = Var.cur d → s'.alive d = true) → s'.vlive w = s.vlive w
  kind : s'.kind = s.kind
  next : s'.next = s.next
  alive_sub : ∀ t, s'.alive t = true → s.alive t = true
  devs : ∀ t, s.alive t = true → s.kind t = .dev → s.ptr v ≠ some t → s'.alive t = true
  ptr_out : ∀ w, w ≠ v → (∀ x, w ∉ s.ring x) → (s'.ptr w = s.ptr w ∨ s'.ptr w = none)

theorem DropOut.shrink {s s' : St} {v : Var} (h : DropOut s s' v) : Shrink s s' :=
  ⟨h.vlive, h.kind, h.next, h.alive_sub⟩

theorem InvX.drop_ref {ex : Var → Prop} {s : St} {v : Var} {del : St → Nat → St} (hi : InvX ex s) (hv : ¬ ex v)
    (hdel : ∀ o, s.ptr v = some o →
      InvX (fun w => ex w ∨ w = v) (s.setRing o (Ring.remove (s.ring o) v)) →
      InvX (fun w => ex w ∨ w = v) (del (s.setRing o (Ring.remove (s.ring o) v)) o)
        ∧ DelOut (s.setRing o (Ring.remove (s.ring o) v)) (del (s.setRing o (Ring.remove (s.ring o) v)) o) o) :
    InvX ex ((dropRefWith del s v).setPtr v none)
      ∧ DropOut s ((dropRefWith del s v).setPtr v none) v := by
  cases hp : s.ptr v with
  | none =>
    have h1 : dropRefWith del s v = s := by unfold dropRefWith; simp only [hp]
    rw [h1, setPtr_none_self s v hp]
    exact ⟨hi, hp, fun t ht _ _ => ht, fun _ _ => rfl, rfl, rfl, fun _ h => h, fun t ht _ _ => ht,
      fun _ _ _ => Or.inl rfl⟩
  | some o =>
    obtain ⟨hoa, hok, hvo⟩ := hi.ptr_ok v o hp hv
    have hi1 := hi.leave_ring hv hp
    let s1 := s.setRing o (Ring.remove (s.ring o) v)
    have hstep : dropRefWith del s v
        = if (s.useRefs o && (Ring.remove (s.ring o) v).isEmpty) = true
          then (del s1 o).setPtr v none else s1 := by
      unfold dropRefWith
      simp only [hp, St.touch_alive hoa]
      have : (s.setRing o (Ring.remove (s.ring o) v)).ring o = Ring.remove (s.ring o) v := by
        simp [St.setRing]
      rw [this]
      rfl
    rw [hstep]
    have hdel' : InvX _ s1 → InvX _ (del s1 o) ∧ DelOut s1 (del s1 o) o := hdel o hp
    clear hdel
    have hring : s1.ring o = Ring.remove (s.ring o) v := upd_same ..
    have hsub : ∀ w x, w ∈ s1.ring x → w ∈ s.ring x :=
      fun w x hw => ((mem_upd_remove (hi.ring_nodup o) x w).mp hw).1
    have hvout : ∀ x, v ∉ s1.ring x := hi1.ex_out v (Or.inr rfl)
    by_cases hc : (s.useRefs o && (Ring.remove (s.ring o) v).isEmpty) = true
    · simp only [hc, if_true]
      obtain ⟨hi2, hd⟩ := hdel' hi1
      rw [setPtr_setPtr]
      refine ⟨hi2.null_ptr ?_, upd_same .., ?_, hd.vlive, hd.kind, hd.next, hd.alive_sub, ?_, ?_⟩
      · -- `v` pointed to `o`, which is gone
        intro o' ho' ho'a
        exfalso
        rcases hd.ptr_out v hvout with h | h
        · rw [h, show s1.ptr v = s.ptr v from rfl, hp] at ho'
          cases ho'
          rw [hd.dead] at ho'a
          cases ho'a
        · rw [h] at ho'; cases ho'
      · exact fun t hta htk htp => hd.keep t hta (Or.inl (htk.trans hok.symm)) fun h => htp (by rw [h]; exact hp)
      · exact fun t hta htk htp => hd.keep t hta (Or.inr htk) fun h => htp (by rw [h]; exact hp)
      · intro w hwv hw
        show upd (del s1 o).ptr v none w = _ ∨ upd (del s1 o).ptr v none w = _
        rw [upd_other _ _ hwv]
        exact hd.ptr_out w fun x hx => hw x (hsub w x hx)
    · simp only [hc, if_false, Bool.false_eq_true]
      refine ⟨hi1.null_ptr ?_, upd_same .., fun t hta _ _ => hta, fun _ _ => rfl, rfl, rfl, fun _ h => h,
        fun t hta _ _ => hta, fun w hwv _ => Or.inl (upd_other _ _ hwv)⟩
      -- other handles remain in the ring of `o`, or `o` does not count references
      intro o' ho' _ _ ho'u
      rw [show s1.ptr v = s.ptr v from rfl, hp] at ho'
      cases ho'
      left
      rw [hring]
      intro hnil
      apply hc
      rw [show s1.useRefs o = s.useRefs o from rfl] at ho'u
      simp [ho'u, hnil]

end Occa.Gc
