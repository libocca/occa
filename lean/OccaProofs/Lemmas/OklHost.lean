/-
Lemmas for C21: what `hostGo` (OccaModel/OklT.lean) emits, statement by statement, in terms of three
readings of a target tree: where the `omp parallel for` pragmas stand (`PragmaOk`), where the declarations
that must be private to an outer iteration stand (`PrivateOk`), and how many `omp atomic` / `omp critical`
guards there are (`guardCount`).  With the context given field by field (and `omp = true` for the pragmas and the
guards), `hostGo` on a statement of a known kind reduces to the nodes it emits; each node is then justified by the
rule for its kind.  Inside an @outer loop `PragmaOk` and `PrivateOk` hold of every tree (`.inOuter`), so their
inductions are stated for the context outside the @outer loops.
The side conditions "this target kind is none of those the reading looks at" are Boolean tests closed by `rfl`.
-/
import OccaProofs.Lemmas.OklRules
import OccaModel.OklT

namespace Occa.OklSem.C21
open Occa.Okl Occa.OklT

/-- every outer-most @outer loop of a target tree directly follows `#pragma omp parallel for` -/
def PragmaOk (inOuter prevPragma : Bool) : TT → Prop
  | .nil => True
  | .node k kids next =>
    (k = .oFor → inOuter = true ∨ prevPragma = true) ∧
    PragmaOk (inOuter || decide (k = .oFor)) false kids ∧
    PragmaOk inOuter (decide (k = .pragma .ompParallelFor)) next

theorem PragmaOk.node {io pp : Bool} {k : TKind} {kids next : TT}
    (hk : (k != .oFor && k != .pragma .ompParallelFor) = true)
    (h1 : PragmaOk io false kids) (h2 : PragmaOk io false next) : PragmaOk io pp (.node k kids next) := by
  simp only [Bool.and_eq_true, bne_iff_ne] at hk
  exact ⟨fun h => absurd h hk.1, by rwa [decide_eq_false hk.1, Bool.or_false], by rwa [decide_eq_false hk.2]⟩

theorem PragmaOk.oFor {io pp : Bool} {kids next : TT} (h : io = true ∨ pp = true)
    (h1 : PragmaOk true false kids) (h2 : PragmaOk io false next) : PragmaOk io pp (.node .oFor kids next) :=
  ⟨fun _ => h, by rwa [decide_eq_true rfl, Bool.or_true], h2⟩

theorem PragmaOk.append {io : Bool} {a b : TT} : ∀ {pp}, PragmaOk io pp a →
    (∀ pp', PragmaOk io pp' b) → PragmaOk io pp (a.append b) := by
  induction a with
  | nil => intro pp _ hb; exact hb pp
  | node k kids next _ ihn => exact fun ha hb => ⟨ha.1, ha.2.1, ihn ha.2.2 hb⟩

theorem PragmaOk.ite_leaf {io pp : Bool} (b : Bool) {k : TKind} {x : TT}
    (hk : (k != .oFor && k != .pragma .ompParallelFor) = true) (h : ∀ pp, PragmaOk io pp x) :
    PragmaOk io pp (if b then TT.leaf k x else x) := by
  cases b
  · exact h _
  · exact .node hk trivial (h _)

theorem PragmaOk.inOuter (t : TT) : ∀ pp, PragmaOk true pp t := by
  induction t with
  | nil => intro _; trivial
  | node k kids next ihk ihn => exact fun pp => ⟨fun _ => .inl rfl, ihk _, ihn _⟩

theorem PragmaOk_hostGo (t : Tree) : ∀ (excl ii xs : Bool) (sz : Nat) (pp : Bool),
    PragmaOk false pp (hostGo ⟨true, excl, false, ii, xs, sz⟩ t) := by
  induction t with
  | nil => intros; trivial
  | node n kids next ihk ihn =>
    intro excl ii xs sz pp
    have hn := ihn excl ii xs sz
    have hk := ihk excl ii xs sz
    obtain ⟨kind, uses⟩ := n
    cases kind with
    | okl o i h nb =>
      cases o with
      | true => exact ⟨nofun, trivial, .oFor (.inr rfl) (.inOuter _ _) (hn _)⟩
      | false =>
        cases i with
        | true =>
          refine .ite_leaf _ rfl fun _ => .node rfl ?_ (hn _)
          split
          · exact .append (ihk excl true xs sz _) fun _ => .node rfl trivial trivial
          · exact ihk excl true xs sz _
        | false => exact .node rfl (hk _) (hn _)
    | block a =>
      cases a with
      | false => exact .node rfl (hk _) (hn _)
      | true =>
        simp only [hostGo, Bool.and_self, ↓reduceIte]
        split
        · exact .node rfl trivial (.node rfl trivial (hn _))
        · exact .node rfl trivial (.node rfl (hk _) (hn _))
    | decl dk => cases dk <;> exact .node rfl trivial (hn _)
    | expr a b =>
      cases a
      · exact .node rfl trivial (hn _)
      · cases b
        · exact .node rfl trivial (.node rfl (.node rfl trivial trivial) (hn _))
        · exact .node rfl trivial (.node rfl trivial (hn _))
    | for_ | while_ | switch_ | if_ | elif_ | else_ => exact .node rfl (hk _) (hn _)
    | barrier | brk | cont | ret => exact .node rfl trivial (hn _)

/-- declarations of @shared / @exclusive variables and everything that concerns the exclusive
    index occur only inside an @outer loop -/
def PrivateOk (inOuter : Bool) : TT → Prop
  | .nil => True
  | .node k kids next =>
    ((k = .declXi ∨ k = .xiZero ∨ k = .xiInc ∨ (∃ d, k = .declShared d) ∨ (∃ n, k = .declExcl n)) → inOuter = true) ∧
    PrivateOk (inOuter || decide (k = .oFor)) kids ∧ PrivateOk inOuter next

theorem PrivateOk.inOuter (t : TT) : PrivateOk true t := by
  induction t with
  | nil => trivial
  | node k kids next ihk ihn => exact ⟨fun _ => rfl, ihk, ihn⟩

theorem PrivateOk.append {io : Bool} {a b : TT} (ha : PrivateOk io a) (hb : PrivateOk io b) :
    PrivateOk io (a.append b) := by
  induction a with
  | nil => exact hb
  | node k kids next _ ihn => exact ⟨ha.1, ha.2.1, ihn ha.2.2⟩

/-- the target statements that are neither an @outer loop nor among those `PrivateOk` restricts -/
def unrestricted : TKind → Bool
  | .oFor | .declXi | .xiZero | .xiInc | .declShared _ | .declExcl _ => false
  | _ => true

theorem PrivateOk.node {k : TKind} {kids next : TT} (hk : unrestricted k = true)
    (h1 : PrivateOk false kids) (h2 : PrivateOk false next) : PrivateOk false (.node k kids next) := by
  refine ⟨?_, ?_, h2⟩
  · rintro (rfl | rfl | rfl | ⟨d, rfl⟩ | ⟨n, rfl⟩) <;> cases hk
  · rwa [decide_eq_false (by rintro rfl; cases hk)]

theorem PrivateOk.oFor {kids next : TT} (h : PrivateOk false next) : PrivateOk false (.node .oFor kids next) :=
  ⟨nofun, .inOuter kids, h⟩

/-- the context has `inOuter = false` and `xiScope = false`; @shared / @exclusive declarations are excluded here by
    the declaration rule -/
theorem PrivateOk_hostGo (t : Tree) : ∀ (omp excl ii' : Bool) (sz : Nat) (ii : Bool),
    declsOk false ii t = true → PrivateOk false (hostGo ⟨omp, excl, false, ii', false, sz⟩ t) := by
  induction t with
  | nil => intros; trivial
  | node n kids next ihk ihn =>
    intro omp excl ii' sz ii hd
    obtain ⟨kind, uses⟩ := n
    simp only [declsOk, Bool.and_eq_true] at hd
    obtain ⟨⟨⟨hown, _⟩, hkids⟩, hnext⟩ := hd
    have hn := ihn omp excl ii' sz ii hnext
    have hk := fun ii h => ihk omp excl ii' sz ii h
    cases kind with
    | okl o i h nb =>
      cases o with
      | true =>
        cases omp
        · exact .oFor hn
        · exact .node rfl trivial (.oFor hn)
      | false =>
        cases i with
        | true => exact .node rfl (ihk omp excl true sz _ hkids) hn
        | false => exact .node rfl (hk _ hkids) hn
    | block a =>
      simp only [hostGo]
      split
      · split
        · exact .node rfl trivial (.node rfl trivial hn)
        · exact .node rfl trivial (.node rfl (hk _ hkids) hn)
      · exact .node rfl (hk _ hkids) hn
    | decl dk =>
      cases dk with
      | plain => exact .node rfl trivial hn
      | shared d => exact absurd (((declHere_iff _ _ _).1 hown).1 d rfl).2.2.1 nofun
      | exclusive => exact absurd (((declHere_iff _ _ _).1 hown).2 rfl).1 nofun
    | expr a b =>
      simp only [hostGo]
      split
      · split
        · exact .node rfl trivial (.node rfl trivial hn)
        · exact .node rfl trivial (.node rfl (.node rfl trivial trivial) hn)
      · exact .node rfl trivial hn
    | for_ | while_ | switch_ | if_ | elif_ | else_ => exact .node rfl (hk _ hkids) hn
    | barrier | brk | cont | ret => exact .node rfl trivial hn

/-- the @atomic statements and regions of a kernel (a region holding exactly one `+= -= ++ --`
    statement counts once: `applyBlockCodeTransformation` turns it into that statement) -/
def atomicCount : Tree → Nat
  | .nil => 0
  | .node n kids next =>
    (match n.kind with
     | .expr a _ => if a then 1 else 0
     | .block true => if singleBasicExpr kids then 1 else 1 + atomicCount kids
     | .decl _ | .barrier | .brk | .cont | .ret => 0
     | _ => atomicCount kids) + atomicCount next

/-- `#pragma omp atomic` / `#pragma omp critical` lines of a target tree -/
def guardCount : TT → Nat
  | .nil => 0
  | .node k kids next =>
    (if k = .pragma .ompAtomic ∨ k = .pragma .ompCritical then 1 else 0) + guardCount kids + guardCount next

theorem guardCount_node {k : TKind} {a b : TT} {m n : Nat}
    (hk : (k != .pragma .ompAtomic && k != .pragma .ompCritical) = true)
    (ha : guardCount a = m) (hb : guardCount b = n) : guardCount (.node k a b) = m + n := by
  simp only [Bool.and_eq_true, bne_iff_ne] at hk
  rw [guardCount, if_neg (not_or.2 hk), Nat.zero_add, ha, hb]

theorem guardCount_leaf {k : TKind} {b : TT} {n : Nat}
    (hk : (k != .pragma .ompAtomic && k != .pragma .ompCritical) = true)
    (hb : guardCount b = n) : guardCount (TT.leaf k b) = n :=
  (guardCount_node hk rfl hb).trans (Nat.zero_add n)

theorem guardCount_guard {k : TKind} {b : TT} {n : Nat} (hk : k = .pragma .ompAtomic ∨ k = .pragma .ompCritical)
    (hb : guardCount b = n) : guardCount (TT.leaf k b) = 1 + n := by
  rw [TT.leaf, guardCount, if_pos hk, guardCount, hb]

theorem guardCount_ite_leaf (c : Bool) {k : TKind} {b : TT} {n : Nat}
    (hk : (k != .pragma .ompAtomic && k != .pragma .ompCritical) = true) (hb : guardCount b = n) :
    guardCount (if c then TT.leaf k b else b) = n := by
  cases c
  · exact hb
  · exact guardCount_leaf hk hb

theorem guardCount_append (a b : TT) : guardCount (a.append b) = guardCount a + guardCount b := by
  induction a with
  | nil => exact (Nat.zero_add _).symm
  | node k kids next _ ihn => simp only [TT.append, guardCount, ihn, Nat.add_assoc]

/-- a region that `hostGo` does not unwrap is not a single basic statement -/
theorem singleBasicExpr_eq_false (kids : Tree) (h : ∀ a u, kids ≠ .node ⟨.expr a true, u⟩ .nil .nil) :
    singleBasicExpr kids = false := by
  unfold singleBasicExpr
  split
  · next n =>
    obtain ⟨k, u⟩ := n
    split
    · next a hk => cases hk; exact absurd rfl (h a u)
    · rfl
  · rfl

theorem guardCount_hostGo (t : Tree) : ∀ (excl io ii xs : Bool) (sz : Nat),
    guardCount (hostGo ⟨true, excl, io, ii, xs, sz⟩ t) = atomicCount t := by
  induction t with
  | nil => intros; rfl
  | node n kids next ihk ihn =>
    intro excl io ii xs sz
    have hn := ihn excl io ii xs sz
    have hk := ihk excl io ii xs sz
    obtain ⟨kind, uses⟩ := n
    cases kind with
    | okl o i h nb =>
      cases o with
      | true =>
        exact guardCount_ite_leaf _ rfl (guardCount_node rfl (guardCount_ite_leaf _ rfl (ihk excl true ii _ _)) hn)
      | false =>
        cases i with
        | true =>
          refine guardCount_ite_leaf _ rfl (guardCount_node rfl ?_ hn)
          split
          · exact (guardCount_append _ _).trans (congrArg (· + 0) (ihk excl io true xs sz))
          · exact ihk excl io true xs sz
        | false => exact guardCount_node rfl hk hn
    | block a =>
      cases a with
      | false => exact guardCount_node rfl hk hn
      | true =>
        simp only [hostGo, Bool.and_self, ↓reduceIte]
        split
        · exact guardCount_guard (.inl rfl) (guardCount_leaf rfl hn)
        · next hne =>
          simp only [atomicCount, singleBasicExpr_eq_false kids fun a u h => hne a u h, Bool.false_eq_true, ↓reduceIte]
          exact Eq.trans (guardCount_guard (.inr rfl) (guardCount_node rfl hk hn)) (Nat.add_assoc ..).symm
    | decl dk => cases dk <;> exact guardCount_node rfl rfl hn
    | expr a b =>
      cases a
      · exact guardCount_node rfl rfl hn
      · cases b
        · exact guardCount_guard (.inr rfl)
            (Eq.trans (guardCount_node rfl (guardCount_leaf rfl rfl) hn) (Nat.zero_add _))
        · exact guardCount_guard (.inl rfl) (guardCount_leaf rfl hn)
    | for_ | while_ | switch_ | if_ | elif_ | else_ => exact guardCount_node rfl hk hn
    | barrier | brk | cont | ret => exact guardCount_node rfl rfl hn

end Occa.OklSem.C21
