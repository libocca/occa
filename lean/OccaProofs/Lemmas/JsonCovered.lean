/-
Lemmas for C24: the values the round-trip proof covers (`RT`), the shape of their dumped text (how it starts,
what follows an element) and the recursion budget it needs.  Nothing here runs the loader.
-/
import OccaProofs.Lemmas.JsonNum
import OccaProofs.Lemmas.JsonObj

namespace Occa.Json

mutual
/-- the part of the property's quantifier the round-trip proof covers: no `none_` nodes, numbers of
    bool/integer type built through the API (no source text, value in range), non-empty keys, and
    the std::map ordering of members.  Strings and keys may contain any byte. -/
def RT : Json → Prop
  | .none => False
  | .null => True
  | .num p => p.IsInt ∨ p = ⟨.bool, 0, []⟩ ∨ p = ⟨.bool, 1, []⟩
  | .str _ => True
  | .arr xs => RTL xs
  | .obj kvs => Sorted kvs ∧ RTO kvs
def RTL : List Json → Prop
  | [] => True
  | x :: xs => RT x ∧ RTL xs
def RTO : Obj → Prop
  | [] => True
  | (k, v) :: r => k ≠ [] ∧ RT v ∧ RTO r
end

mutual
/-- recursion budget `load` needs for the dumped text of a value -/
def need : Json → Nat
  | .arr xs => 2 + needL xs
  | .obj kvs => 2 + needO kvs
  | _ => 1
def needL : List Json → Nat
  | [] => 0
  | x :: xs => 1 + need x + needL xs
def needO : Obj → Nat
  | [] => 0
  | (_, v) :: r => 1 + need v + needO r
end

theorem not_rt_none : ¬ RT .none := by simp [RT]

theorem dump_head (v : Json) (hv : RT v) (ind cur rest : Bytes) :
    ∃ c t, dump ind cur v ++ rest = c :: t ∧ isWs c = false ∧ c ≠ cRBrack := by
  cases v with
  | none => exact absurd hv not_rt_none
  | null => exact ⟨110, _, rfl, by decide, by decide⟩
  | str s => exact ⟨cQuote, _, rfl, by decide, by decide⟩
  | num p =>
    rcases hv with h | rfl | rfl
    · obtain ⟨c, t, hs, _, hw, hb⟩ := toStr_head h
      exact ⟨c, t ++ rest, by simp only [dump, hs]; rfl, hw, hb⟩
    · exact ⟨102, _, rfl, by decide, by decide⟩
    · exact ⟨116, _, rfl, by decide, by decide⟩
  | arr xs => cases xs <;> exact ⟨cLBrack, _, by simp only [dump]; rfl, by decide, by decide⟩
  | obj kvs => cases kvs <;> exact ⟨cLBrace, _, by simp only [dump]; rfl, by decide, by decide⟩

theorem allWs_sepAfter_last (ind : Bytes) : AllWs (sepAfter ind true) := by
  by_cases hi : ind.isEmpty = true
  · simp [sepAfter, hi, AllWs]
  · simp [sepAfter, hi, AllWs, isWs, cNl]

theorem sepAfter_more (ind : Bytes) : ∃ w, AllWs [w] ∧ sepAfter ind false = [cComma, w] := by
  unfold sepAfter
  by_cases hi : ind.isEmpty = true
  · exact ⟨cSp, by intro c hc; simp at hc; subst hc; decide, by simp [hi]⟩
  · exact ⟨cNl, by intro c hc; simp at hc; subst hc; decide, by simp [hi]⟩

theorem isNone_of_rt {v : Json} (hv : RT v) : v.isNone = false := by
  cases v <;> first | rfl | exact absurd hv not_rt_none

theorem dump_arr_cons (ind cur : Bytes) (x : Json) (xs : List Json) (rest : Bytes) :
    dump ind cur (.arr (x :: xs)) ++ rest
      = cLBrack :: (sepAfter ind true ++ (dumpArr ind (cur ++ ind) (x :: xs) ++ (cur ++ cRBrack :: rest))) := by
  simp [dump, sepAfter]

theorem dump_obj_cons (ind cur : Bytes) (kv : Bytes × Json) (kvs : Obj) (rest : Bytes) :
    dump ind cur (.obj (kv :: kvs)) ++ rest
      = cLBrace :: (sepAfter ind true ++ (dumpObj ind (cur ++ ind) (kv :: kvs)
          ++ ((if ind.isEmpty then [] else cur) ++ cRBrace :: rest))) := by
  simp [dump, sepAfter]

theorem dumpArr_cons_append (W ind ni : Bytes) (x : Json) (xs : List Json) (tail : Bytes) :
    W ++ (dumpArr ind ni (x :: xs) ++ tail)
      = (W ++ ni) ++ (dump ind ni x ++ (sepAfter ind xs.isEmpty ++ (dumpArr ind ni xs ++ tail))) := by
  simp [dumpArr]

theorem dumpObj_cons_append (W ind ni k : Bytes) {v : Json} (hv : RT v) (r : Obj) (tail : Bytes) :
    W ++ (dumpObj ind ni ((k, v) :: r) ++ tail)
      = (W ++ ni) ++ cQuote :: (escBytes k ++ cQuote :: cColon :: cSp ::
          (dump ind ni v ++ (sepAfter ind r.isEmpty ++ (dumpObj ind ni r ++ tail)))) := by
  simp [dumpObj, dumpStr, isNone_of_rt hv]

mutual
theorem bound_val : ∀ (v : Json), RT v → ∀ (ind cur : Bytes), need v + 1 ≤ 2 * (dump ind cur v).length
  | .none, hv, _, _ => absurd hv not_rt_none
  | .null, _, _, _ => by simp [need, dump, sNull]
  | .str s, _, _, _ => by simp [need, dump, dumpStr]; omega
  | .num p, hv, ind, cur => by
    obtain ⟨c, t, hd, _, _⟩ := dump_head (.num p) hv ind cur []
    rw [← List.append_nil (dump ind cur (.num p)), hd]; simp [need]; omega
  | .arr xs, hv, ind, cur => by
    cases xs with
    | nil => simp [need, needL, dump]
    | cons x xs' =>
      have := bound_arr (x :: xs') (by simpa [RT] using hv) ind (cur ++ ind)
      simp only [need, dump, List.isEmpty_cons, Bool.false_eq_true, if_false, List.length_cons, List.length_append]
      omega
  | .obj kvs, hv, ind, cur => by
    cases kvs with
    | nil => simp [need, needO, dump]
    | cons kv kvs' =>
      have := bound_obj (kv :: kvs') hv.2 ind (cur ++ ind)
      simp only [need, dump, List.isEmpty_cons, Bool.false_eq_true, if_false, List.length_cons, List.length_append]
      omega
theorem bound_arr : ∀ (xs : List Json), RTL xs → ∀ (ind ni : Bytes), needL xs ≤ 2 * (dumpArr ind ni xs).length
  | [], _, _, _ => by simp [needL]
  | x :: xs, h, ind, ni => by
    obtain ⟨hx, hxs⟩ := h
    have h1 := bound_val x hx ind ni
    have h2 := bound_arr xs hxs ind ni
    simp only [needL, dumpArr, List.length_append]
    omega
theorem bound_obj : ∀ (kvs : Obj), RTO kvs → ∀ (ind ni : Bytes), needO kvs ≤ 2 * (dumpObj ind ni kvs).length
  | [], _, _, _ => by simp [needO]
  | (k, v) :: r, h, ind, ni => by
    obtain ⟨_, hv, hr⟩ := h
    have h1 := bound_val v hv ind ni
    have h2 := bound_obj r hr ind ni
    simp only [needO, dumpObj, isNone_of_rt hv, Bool.false_eq_true, if_false, List.length_append]
    omega
end

theorem fuel_suffices (v : Json) (hv : RT v) (ind cur : Bytes) : need v ≤ parseFuel (dump ind cur v).length := by
  have := bound_val v hv ind cur
  unfold parseFuel; omega

end Occa.Json
