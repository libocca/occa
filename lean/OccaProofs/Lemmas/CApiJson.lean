/-
C29, json documents.  A successful `setPath` below a key is taken apart once (`setPath_cons_ok`); what `getPath`
then finds on the written path and on a diverging one follows by `lookup_upsert`, and histories by induction
(`getPath_applySets`).  A handle into a document is a list of steps (`resolve`, `modifyAt`); arrays.  What the json
statements of Props/C29.lean need beyond the model is defined here: `diverge`, `applySets`, `lastWrite`.
-/
import OccaModel.CApi

namespace Occa.CApi

theorem lookup_cons (k' k2 : Key) (v2 : J) (r : List (Key × J)) :
    lookup k' ((k2, v2) :: r) = if k' = k2 then some v2 else lookup k' r := rfl

theorem lookup_upsert (k k' : Key) (v : J) (kv : List (Key × J)) :
    lookup k' (upsert k v kv) = if k' = k then some v else lookup k' kv := by
  induction kv with
  | nil => rfl
  | cons a r ih =>
    obtain ⟨k2, v2⟩ := a
    rw [upsert]
    by_cases h1 : k = k2
    · subst h1
      rw [if_pos rfl, lookup_cons, lookup_cons]
      by_cases h : k' = k <;> simp only [h, if_true, if_false]
    · rw [if_neg h1]
      by_cases h2 : keyLt k k2 = true
      · rw [if_pos h2]; rfl
      · rw [if_neg h2, lookup_cons, lookup_cons, ih]
        by_cases h : k' = k
        · subst h
          simp only [h1, if_true, if_false]
        · simp only [h, if_false]

/-- the two paths separate at some position (neither is a prefix of the other) -/
def diverge : List Key → List Key → Bool
  | k :: r, k' :: r' => if k = k' then diverge r r' else true
  | _, _ => false

theorem diverge_symm (a b : List Key) : diverge a b = diverge b a := by
  induction a generalizing b with
  | nil => cases b <;> rfl
  | cons k r ih =>
    cases b with
    | nil => rfl
    | cons k' r' =>
      simp only [diverge]
      by_cases h : k = k'
      · subst h; simp [ih]
      · have h' : ¬ k' = k := fun e => h e.symm
        simp [h, h']

theorem diverge_irrefl (a : List Key) : diverge a a = false := by
  induction a with
  | nil => rfl
  | cons k r ih => simp [diverge, ih]

theorem getPath_none_cons (k : Key) (ks : List Key) : getPath (k :: ks) .none = Option.none := rfl

/-- a successful write below key `k`: the document was an object `kv` (or uninitialised: `kv = []`),
    the child under `k` was written and put back -/
theorem setPath_cons_ok {k : Key} {ks : List Key} {v j j' : J} (h : setPath (k :: ks) v j = .ok j') :
    ∃ kv c, (∀ k' ks', getPath (k' :: ks') j = (lookup k' kv).bind (getPath ks')) ∧
      setPath ks v ((lookup k kv).getD .none) = .ok c ∧ j' = .obj (upsert k c kv) := by
  cases j <;> simp only [setPath] at h <;> try cases h
  · split at h
    · rename_i c hc; cases h; exact ⟨[], c, fun _ _ => rfl, hc, rfl⟩
    · cases h
  · rename_i kv
    split at h
    · rename_i c hc; cases h; exact ⟨kv, c, fun _ _ => rfl, hc, rfl⟩
    · cases h

theorem getPath_setPath (ks : List Key) (v j j' : J) (h : setPath ks v j = .ok j') : getPath ks j' = some v := by
  induction ks generalizing j j' with
  | nil => cases h; rfl
  | cons k ks ih =>
    obtain ⟨kv, c, -, hc, rfl⟩ := setPath_cons_ok h
    rw [getPath, lookup_upsert, if_pos rfl]
    exact ih _ _ hc

/-- the frame of a write, stated on the child as `setPath_cons_ok` hands it over: `o` is what was under the key
    (`none`: the write creates the child), so the statement is its own induction hypothesis -/
theorem getPath_setPath_frame_getD (ks ks' : List Key) (v : J) (o : Option J) (c : J)
    (h : setPath ks v (o.getD .none) = .ok c) (hd : diverge ks ks' = true) : getPath ks' c = o.bind (getPath ks') := by
  induction ks generalizing o c ks' with
  | nil => cases hd
  | cons k ks ih =>
    cases ks' with
    | nil => cases hd
    | cons k' ks' =>
      obtain ⟨kv, c', hj, hc, rfl⟩ := setPath_cons_ok h
      have e : o.bind (getPath (k' :: ks')) = getPath (k' :: ks') (o.getD .none) := by cases o <;> rfl
      rw [e, hj, getPath, lookup_upsert]
      split
      · subst k'
        rw [diverge, if_pos rfl] at hd
        exact ih ks' _ c' hc hd
      · rfl

theorem getPath_setPath_frame (ks ks' : List Key) (v j j' : J) (h : setPath ks v j = .ok j')
    (hd : diverge ks ks' = true) : getPath ks' j' = getPath ks' j :=
  getPath_setPath_frame_getD ks ks' v (some j) j' h hd

/-- a sequence of `j[path] = value` assignments; stops at the first error -/
def applySets : List (List Key × J) → J → Res J
  | [], j => .ok j
  | (ks, v) :: r, j =>
    match setPath ks v j with
    | .ok j1 => applySets r j1
    | .err => .err

/-- the value of the last assignment to exactly this path -/
def lastWrite (ks : List Key) : List (List Key × J) → Option J
  | [] => Option.none
  | (ks', v) :: r =>
    match lastWrite ks r with
    | some x => some x
    | Option.none => if ks' = ks then some v else Option.none

theorem lastWrite_mem {ks : List Key} {ws : List (List Key × J)} {v : J} (h : lastWrite ks ws = some v) :
    ∃ w ∈ ws, w.1 = ks := by
  induction ws with
  | nil => cases h
  | cons a r ih =>
    simp only [lastWrite] at h
    split at h
    · obtain ⟨w, hw, e⟩ := ih (h ▸ ‹_›)
      exact ⟨w, List.mem_cons_of_mem _ hw, e⟩
    · split at h
      · exact ⟨a, List.mem_cons_self, ‹_›⟩
      · cases h

theorem getPath_applySets (ks : List Key) (ws : List (List Key × J)) (j j' : J) (h : applySets ws j = .ok j')
    (hd : ∀ w ∈ ws, w.1 = ks ∨ diverge w.1 ks = true) :
    getPath ks j' = (lastWrite ks ws).or (getPath ks j) := by
  induction ws generalizing j with
  | nil => cases h; rfl
  | cons a r ih =>
    obtain ⟨ks0, v0⟩ := a
    rw [List.forall_mem_cons] at hd
    simp only [applySets] at h
    split at h
    · rename_i j1 h1
      rw [ih j1 h hd.2, lastWrite]
      cases lastWrite ks r with
      | some x => rfl
      | none =>
        by_cases e : ks0 = ks
        · rw [if_pos e, ← e]
          exact getPath_setPath ks0 v0 j j1 h1
        · rw [if_neg e]
          exact getPath_setPath_frame ks0 ks v0 j j1 h1 (hd.1.resolve_left e)
    · cases h

theorem resolve_keys (ks : List Key) (j : J) : resolve (ks.map .key) j = getPath ks j := by
  induction ks generalizing j with
  | nil => rfl
  | cons k ks ih =>
    cases j <;> simp only [List.map_cons, resolve, getPath]
    rename_i kv
    cases lookup k kv with
    | none => rfl
    | some c => simp only [Option.bind]; exact ih c

theorem resolve_append (p q : List Step) (j : J) : resolve (p ++ q) j = (resolve p j).bind (resolve q) := by
  induction p generalizing j with
  | nil => rfl
  | cons s p ih =>
    have ih' : resolve (p ++ q) = fun c => (resolve p c).bind (resolve q) := funext ih
    cases s <;> cases j <;> simp only [List.cons_append, resolve, ih', Option.bind_assoc, Option.bind_none]

theorem resolve_modifyAt (p : List Step) (f : J → J) (j j' : J) (h : modifyAt p f j = some j') :
    resolve p j' = (resolve p j).map f := by
  induction p generalizing j j' with
  | nil => cases h; rfl
  | cons s p ih =>
    cases s <;> cases j <;> simp only [modifyAt] at h <;> try cases h
    · split at h
      · rename_i c hc
        obtain ⟨c', hm, rfl⟩ := Option.map_eq_some_iff.1 h
        simp only [resolve, lookup_upsert, if_pos, hc, Option.bind]
        exact ih c c' hm
      · cases h
    · split at h
      · rename_i c hc
        obtain ⟨c', hm, rfl⟩ := Option.map_eq_some_iff.1 h
        obtain ⟨hn, -⟩ := List.getElem?_eq_some_iff.1 hc
        simp only [resolve, hc, Option.bind, List.getElem?_set_self hn]
        exact ih c c' hm
      · cases h

theorem growTo_get (a : List J) (n i : Nat) (h : i < a.length) : (growTo a n)[i]? = a[i]? := by
  unfold growTo
  split
  · rfl
  · rw [List.append_assoc, List.getElem?_append_left h]

theorem growTo_target (a : List J) (n : Nat) (h : a.length ≤ n) : (growTo a n)[n]? = some .none := by
  have hl : (a ++ List.replicate (n - a.length) J.null).length = n := by
    rw [List.length_append, List.length_replicate, Nat.add_sub_cancel' h]
  rw [growTo, if_neg (Nat.not_lt.2 h), List.getElem?_append_right (Nat.le_of_eq hl), hl, Nat.sub_self]
  rfl

theorem insertAt_get (a : List J) (i : Nat) (v : J) (h : i ≤ a.length) : (insertAt a i v)[i]? = some v := by
  have hl := List.length_take_of_le h
  rw [insertAt, List.getElem?_append_right (Nat.le_of_eq hl), hl, Nat.sub_self]
  rfl

theorem insertAt_before (a : List J) (i k : Nat) (v : J) (h : k < i) (hi : i ≤ a.length) :
    (insertAt a i v)[k]? = a[k]? := by
  rw [insertAt, List.getElem?_append_left (by rw [List.length_take_of_le hi]; exact h), List.getElem?_take_of_lt h]

theorem insertAt_after (a : List J) (i k : Nat) (v : J) (h : i ≤ k) (hi : i ≤ a.length) :
    (insertAt a i v)[k + 1]? = a[k]? := by
  have hl := List.length_take_of_le hi
  rw [insertAt, List.getElem?_append_right (by omega), hl, Nat.sub_add_comm h, List.getElem?_cons_succ,
    List.getElem?_drop, Nat.add_sub_cancel' h]

end Occa.CApi
