/-
Progress of the build pipeline under interference by other processes (rely/guarantee; `runE`, `Rely`, `EnvOK`
are at the head of Lemmas/BuildFS.lean).  `Wp`/`Triple` = total correctness of a `Prog` when, before each of its
steps, the environment may change the file system in any way that keeps final-named files and leaves the
program's own temp names alone.  `triple_buildProg`: a build whose source parses and which may start a compiler
(`Cold`) returns (no exception) with a binary in place; one that finds the artefacts present returns as well and
never starts a compiler.  At the end: a program that runs alone (`wp_run`).
-/
import OccaProofs.Lemmas.BuildFSSafe
namespace Occa.BuildFS

theorem Rely.refl (c : Config) (fs : FS) : Rely c fs fs := ⟨fun _ _ h => h, fun _ _ _ => rfl⟩

theorem Rely.trans {c : Config} {a b d : FS} (h1 : Rely c a b) (h2 : Rely c b d) : Rely c a d :=
  ⟨fun q hq h => h2.1 q hq (h1.1 q hq h), fun q i hq => (h2.2 q i hq).trans (h1.2 q i hq)⟩

theorem EnvOK.nil (S : Spec) (c : Config) {α : Type} (m : Prog α) (fs : FS) : EnvOK S c m [] fs := by
  induction m generalizing fs with
  | ret a => trivial
  | fail => trivial
  | act o k ih => exact ⟨Rely.refl c fs, ih _ _⟩

def Stable (c : Config) (A : FS → Prop) : Prop := ∀ fs fs1, Rely c fs fs1 → A fs → A fs1

theorem Stable.and_const {c : Config} {A : FS → Prop} (φ : Prop) (h : Stable c A) : Stable c (fun fs => φ ∧ A fs) :=
  fun fs fs1 hr ⟨h1, h2⟩ => ⟨h1, h fs fs1 hr h2⟩

/-- total correctness under interference, by recursion on the program: before each step the other processes
    may change the file system as `Rely` allows, the step itself satisfies `E`, no exception is raised, and the
    result and the final state satisfy `Q` -/
def Wp (S : Spec) (c : Config) (E : Op → Prop) {α : Type} : Prog α → (α → FS → Prop) → FS → Prop
  | .ret a, Q, fs => Q a fs
  | .fail, _, _ => False
  | .act o k, Q, fs => E o ∧ ∀ fs1, Rely c fs fs1 → Wp S c E (k (result fs1 o)) Q (applyOp S fs1 o)

def Triple (S : Spec) (c : Config) (E : Op → Prop) {α : Type} (A : FS → Prop) (m : Prog α) (Q : α → FS → Prop) : Prop :=
  ∀ fs, A fs → Wp S c E m Q fs

section logic
variable {S : Spec} {c : Config} {E : Op → Prop}

theorem wp_bind {α β : Type} {Q : α → FS → Prop} {R : β → FS → Prop} {m : Prog α} {f : α → Prog β} {fs : FS}
    (hm : Wp S c E m Q fs) (hf : ∀ a fs', Q a fs' → Wp S c E (f a) R fs') : Wp S c E (m >>= f) R fs := by
  induction m generalizing fs with
  | ret a => exact hf a fs hm
  | fail => exact hm
  | act o k ih => exact ⟨hm.1, fun fs1 hr => ih _ (hm.2 fs1 hr)⟩

theorem wp_mono {α : Type} {Q Q' : α → FS → Prop} {m : Prog α} {fs : FS}
    (hm : Wp S c E m Q fs) (h : ∀ a fs', Q a fs' → Q' a fs') : Wp S c E m Q' fs :=
  Prog.bind_ret m ▸ wp_bind hm h

theorem wp_rely {α : Type} {Q : α → FS → Prop} (hQ : ∀ a, Stable c (Q a)) {m : Prog α} {fs fs2 : FS}
    (hm : Wp S c E m Q fs) (hr : Rely c fs fs2) : Wp S c E m Q fs2 := by
  cases m with
  | ret a => exact hQ a _ _ hr hm
  | fail => exact hm
  | act o k => exact ⟨hm.1, fun fs1 hr1 => hm.2 fs1 (hr.trans hr1)⟩

theorem wp_runE {pid : Nat} {α : Type} {Q : α → FS → Prop} {m : Prog α} {fs : FS} (es : List (FS → FS))
    (hm : Wp S c E m Q fs) (he : EnvOK S c m es fs) :
    ∃ a fs' t es', runE S pid m es fs = (some a, fs', t, es') ∧ Q a fs' ∧ ∀ e ∈ t, E e.op := by
  induction m generalizing fs es with
  | ret a => exact ⟨a, fs, [], es, rfl, hm, fun _ h => (by cases h)⟩
  | fail => exact hm.elim
  | act o k ih =>
    obtain ⟨hE, hk⟩ := hm
    obtain ⟨he1, he2⟩ := he
    obtain ⟨a, fs', t, es', h1, h2, h3⟩ := ih _ es.tail (hk _ he1) he2
    refine ⟨a, fs', ⟨pid, o, result (es.headD id fs) o⟩ :: t, es', ?_, h2, ?_⟩
    · show (_, _, _ :: _, _) = _
      rw [h1]
    · intro e he'
      rcases List.mem_cons.1 he' with rfl | h
      · exact hE
      · exact h3 e h

theorem triple_ret {α : Type} {A : FS → Prop} {Q : α → FS → Prop} (a : α) (h : ∀ fs, A fs → Q a fs) :
    Triple S c E A (.ret a) Q := h

theorem triple_skip {α : Type} {A : FS → Prop} (a : α) : Triple S c E A (.ret a) (fun _ => A) := fun _ h => h

theorem triple_pure {α : Type} {φ : Prop} {A : FS → Prop} {m : Prog α} {Q : α → FS → Prop}
    (h : φ → Triple S c E A m Q) : Triple S c E (fun fs => φ ∧ A fs) m Q := fun fs hA => h hA.1 fs hA.2

theorem triple_if_true {α : Type} {A : FS → Prop} {m m' : Prog α} {Q : α → FS → Prop} (ok : Bool) (h : Triple S c E A m Q) :
    Triple S c E (fun fs => ok = true ∧ A fs) (if ok = true then m else m') Q := by
  intro fs ⟨hok, hA⟩
  subst hok
  exact h fs hA

theorem triple_ite {α : Type} {b : Bool} {A : FS → Prop} {m m' : Prog α} {Q : α → FS → Prop}
    (ht : b = true → Triple S c E A m Q) (hf : b = false → Triple S c E A m' Q) :
    Triple S c E A (if b = true then m else m') Q := by
  cases b
  · exact hf rfl
  · exact ht rfl

theorem triple_pre {α : Type} {A A' : FS → Prop} {Q : α → FS → Prop} {m : Prog α}
    (h : Triple S c E A m Q) (hA : ∀ fs, A' fs → A fs) : Triple S c E A' m Q := fun fs h0 => h fs (hA fs h0)

theorem triple_mono {α : Type} {A : FS → Prop} {Q Q' : α → FS → Prop} {m : Prog α}
    (h : Triple S c E A m Q) (hQ : ∀ a fs, Q a fs → Q' a fs) : Triple S c E A m Q' := fun fs h0 => wp_mono (h fs h0) hQ

theorem triple_bind {α β : Type} {A : FS → Prop} {Q : α → FS → Prop} {R : β → FS → Prop} {m : Prog α} {f : α → Prog β}
    (hm : Triple S c E A m Q) (hf : ∀ a, Triple S c E (Q a) (f a) R) : Triple S c E A (m >>= f) R :=
  fun fs h0 => wp_bind (hm fs h0) hf

theorem triple_act {α : Type} {A : FS → Prop} {Q : α → FS → Prop} (o : Op) (k : Bool → Prog α)
    (B : Bool → FS → Prop) (hEo : E o) (hst : Stable c A) (hB : ∀ fs, A fs → B (result fs o) (applyOp S fs o))
    (hk : ∀ r, Triple S c E (B r) (k r) Q) : Triple S c E A (.act o k) Q :=
  fun _ h0 => ⟨hEo, fun _ hr => hk _ _ (hB _ (hst _ _ hr h0))⟩

theorem triple_op {A : FS → Prop} (o : Op) (B : Bool → FS → Prop) (hEo : E o) (hst : Stable c A)
    (hB : ∀ fs, A fs → B (result fs o) (applyOp S fs o)) : Triple S c E A (op o) B :=
  triple_act o .ret B hEo hst hB (fun r => triple_ret r (fun _ h => h))

end logic

section ops
variable {S : Spec}

theorem present_setFile (fs : FS) (p q : Path) (f : Option File) :
    (fs.setFile p f).present q = if q = p then f.isSome else fs.present q := by
  unfold FS.present FS.setFile; simp only; split <;> rfl

theorem present_creat (fs : FS) (t : Path) : (applyOp S fs (.creat t)).present t = true := by
  simp [applyOp, present_setFile]

theorem present_mkdir (fs : FS) (d : String) (q : Path) (h : fs.present q = true) :
    (applyOp S fs (.mkdir d)).present q = true := h

theorem present_rename (fs : FS) (a b : Path) (hab : b ≠ a) (ha : fs.present a = true) :
    (applyOp S fs (.rename a b)).present b = true := by
  simp only [applyOp]
  cases hfa : fs.files a with
  | none => simp [FS.present, hfa] at ha
  | some f => simp [hab, present_setFile]

theorem present_exec (fs : FS) (src : Path) (outs : List Path) (q : Path) (hs : fs.present src = true) (h : q ∈ outs) :
    (applyOp S fs (.exec src outs)).present q = true := by
  simp only [applyOp]
  cases hfs : fs.files src with
  | none => simp [FS.present, hfs] at hs
  | some f => simp [FS.present, foldl_setFile_files, h]

end ops

/-- The process's own temp names listed in `T` (as final name and call site of the token) and the final names
    in `L` exist.  Nothing the other processes do changes that (`Pr.stable`), and no step of the process itself
    other than `rmrf` and a rename whose source is one of `T` or a final name (`Pr.step`). -/
def Pr (c : Config) (T : List (Path × Nat)) (L : List Path) (fs : FS) : Prop :=
  (∀ x ∈ T, fs.present (x.1.withTok (c.toks x.2)) = true) ∧ ∀ q ∈ L, q.tmp = none → fs.present q = true

section Pr
variable {S : Spec} {c : Config} {T : List (Path × Nat)} {L L' : List Path} {fs : FS}

theorem Pr.nil (fs : FS) : Pr c [] [] fs := ⟨fun _ h => (by cases h), fun _ h => (by cases h)⟩

theorem Pr.stable : Stable c (Pr c T L) := fun fs fs1 hr h =>
  ⟨fun x hx => by unfold FS.present; rw [hr.2 _ x.2 rfl]; exact h.1 x hx, fun q hq hf => hr.1 q hf (h.2 q hq hf)⟩

theorem Pr.step (h : Pr c T L fs) {o : Op} (hr : isRmrf o = false)
    (hmv : ∀ a b, o = .rename a b → a.isTemp = true ∧ ∀ x ∈ T, x.1.withTok (c.toks x.2) ≠ a) :
    Pr c T L (applyOp S fs o) :=
  ⟨fun x hx => present_applyOp hr (fun a b e => (hmv a b e).2 x hx) (h.1 x hx),
   fun q hq hf => present_applyOp hr (fun a b e => ne_of_temp_final (hmv a b e).1 hf) (h.2 q hq hf)⟩

/-- forgetting names: `hs` says which are kept (`cons_cons`) and which are not (`cons`) -/
theorem Pr.drop (h : Pr c T L fs) (hs : L'.Sublist L) : Pr c T L' fs := ⟨h.1, fun q hq => h.2 q (hs.subset hq)⟩
theorem Pr.of_ite {b : Prop} [Decidable b] {p : Path} (h : Pr c T (if b then p :: L else L) fs) : Pr c T L fs := by
  split at h
  · exact h.drop (.cons _ (.refl _))
  · exact h
theorem Pr.consL {q : Path} (hq : fs.present q = true) (h : Pr c T L fs) : Pr c T (q :: L) fs :=
  ⟨h.1, List.forall_mem_cons.2 ⟨fun _ => hq, h.2⟩⟩
theorem Pr.consT {x : Path × Nat} (hx : fs.present (x.1.withTok (c.toks x.2)) = true) (h : Pr c T L fs) :
    Pr c (x :: T) L fs := ⟨List.forall_mem_cons.2 ⟨hx, h.1⟩, h.2⟩
theorem Pr.tailT {x : Path × Nat} (h : Pr c (x :: T) L fs) : Pr c T L fs := ⟨(List.forall_mem_cons.1 h.1).2, h.2⟩
end Pr

/-- the steps that make no file disappear and start no compiler -/
def quiet : Op → Bool
  | .exec .. | .rmrf _ | .rename .. => false
  | _ => true

section progress
variable {S : Spec} {c : Config} {E : Op → Prop} (hE : ∀ o, isExec o = false → E o) {T : List (Path × Nat)} {L : List Path}
include hE

theorem triple_test_full {o : Op} {p : Path} (ho : o = .stat p ∨ o = .openRead p) :
    Triple S c E (Pr c T L) (op o)
      (fun r fs => (p ∈ L → p.tmp = none → r = true) ∧ Pr c T (if r = true then p :: L else L) fs) := by
  have ho' : isExec o = false ∧ ∀ fs, applyOp S fs o = fs ∧ result fs o = fs.present p := by
    rcases ho with rfl | rfl <;> exact ⟨rfl, fun _ => ⟨rfl, rfl⟩⟩
  refine triple_op o _ (hE o ho'.1) Pr.stable fun fs h => ?_
  rw [(ho'.2 fs).1, (ho'.2 fs).2]
  refine ⟨h.2 p, ?_⟩
  cases hp : fs.present p
  · simpa using h
  · simp only [if_true]; exact h.consL hp

theorem triple_known {o : Op} {p : Path} (ho : o = .stat p ∨ o = .openRead p) (hp : p ∈ L) (hf : p.tmp = none) :
    Triple S c E (Pr c T L) (op o) (fun r fs => r = true ∧ Pr c T L fs) :=
  triple_mono (triple_test_full hE ho) fun _ _ h => ⟨h.1 hp hf, h.2.of_ite⟩

theorem triple_branch {α : Type} {o : Op} {p : Path} {k : Bool → Prog α} {Q : α → FS → Prop} (ho : o = .stat p ∨ o = .openRead p)
    (ht : Triple S c E (Pr c T (p :: L)) (k true) Q) (hf : (p ∈ L → p.tmp ≠ none) → Triple S c E (Pr c T L) (k false) Q) :
    Triple S c E (Pr c T L) (op o >>= k) Q := by
  refine triple_bind (triple_test_full hE ho) fun r => triple_pure fun h => ?_
  cases r
  · exact hf fun hp hn => nomatch h hp hn
  · exact ht

theorem triple_quiet {α : Type} {Q : α → FS → Prop} (o : Op) (k : Bool → Prog α) (ho : quiet o = true)
    (hk : ∀ r, Triple S c E (Pr c T L) (k r) Q) : Triple S c E (Pr c T L) (.act o k) Q := by
  have h : isExec o = false ∧ isRmrf o = false ∧ ∀ a b, o ≠ .rename a b := by
    cases o with
    | exec | rmrf | rename => cases ho
    | _ => exact ⟨rfl, rfl, fun _ _ e => by cases e⟩
  exact triple_act o k (fun _ => Pr c T L) (hE o h.1) Pr.stable (fun _ hp => hp.step h.2.1 fun a b e => absurd e (h.2.2 a b)) hk

theorem triple_neutral (o : Op) (ho : quiet o = true) : Triple S c E (Pr c T L) (op o) (fun _ fs => Pr c T L fs) :=
  triple_quiet hE o .ret ho triple_skip

theorem triple_readFile {p : Path} (hp : p ∈ L) (hf : p.tmp = none) :
    Triple S c E (Pr c T L) (readFile p) (fun _ fs => Pr c T L fs) := by
  refine triple_act (.openRead p) _ (fun r fs => r = true ∧ Pr c T L fs) (hE _ rfl) Pr.stable (fun fs h => ⟨h.2 p hp hf, h⟩) fun r => ?_
  refine triple_if_true r ?_
  exact triple_quiet hE _ _ rfl fun _ => triple_skip ()

theorem triple_mkpath (d : String) : Triple S c E (Pr c T L) (mkpath d) (fun _ fs => Pr c T L fs) := by
  refine triple_quiet hE _ _ rfl fun r => ?_
  cases r
  · exact triple_quiet hE _ _ rfl fun _ => triple_skip ()
  · exact triple_skip ()

theorem triple_sync (p : Path) : Triple S c E (Pr c T L) (sync p) (fun _ fs => Pr c T L fs) :=
  triple_quiet hE _ _ rfl fun _ => triple_quiet hE _ _ rfl fun _ => triple_quiet hE _ _ rfl fun _ => triple_skip ()

theorem triple_ioWrite (p : Path) (i : Nat) (content : Bytes) :
    Triple S c E (Pr c T L) (ioWrite (p.withTok (c.toks i)) content) (fun _ fs => Pr c ((p, i) :: T) L fs) := by
  unfold ioWrite
  refine triple_bind (triple_mkpath hE _) (fun _ => ?_)
  refine triple_bind (Q := fun ok fs => ok = true ∧ Pr c ((p, i) :: T) L fs) ?_ (fun ok => triple_if_true ok ?_)
  · exact triple_op (.creat _) _ (hE _ rfl) Pr.stable fun fs h =>
      ⟨rfl, (h.step rfl fun _ _ e => by cases e).consT (present_creat fs _)⟩
  · exact triple_bind (Q := fun _ fs => Pr c ((p, i) :: T) L fs)
      (triple_ite (fun _ => triple_skip ()) fun _ => triple_bind (triple_neutral hE (.append _ content) rfl) (fun _ => triple_skip ()))
      (fun _ => triple_bind (triple_neutral hE (.close _) rfl) (fun _ => triple_sync hE _))

theorem triple_moveStaged (p : Path) (i : Nat) (hp : p.tmp = none)
    (hne : ∀ x ∈ T, x.1.withTok (c.toks x.2) ≠ p.withTok (c.toks i)) :
    Triple S c E (Pr c ((p, i) :: T) L) (moveStaged (p.withTok (c.toks i)) p) (fun _ fs => Pr c T (p :: L) fs) := by
  have hhd : ∀ fs, Pr c ((p, i) :: T) L fs → fs.present (p.withTok (c.toks i)) = true :=
    fun fs h => h.1 _ (List.mem_cons_self ..)
  refine triple_act (.stat _) _ (fun r fs => r = true ∧ Pr c ((p, i) :: T) L fs) (hE _ rfl) Pr.stable
    (fun fs h => ⟨hhd fs h, h⟩) fun r => triple_if_true r ?_
  refine triple_act (.rename _ p) _ (fun ok fs => ok = true ∧ Pr c T (p :: L) fs) (hE _ rfl) Pr.stable
    (fun fs h => ⟨hhd fs h, ?_⟩) fun ok => triple_if_true ok (triple_skip ())
  exact (h.tailT.step rfl fun a b e => by cases e; exact ⟨rfl, hne⟩).consL
    (present_rename fs _ p (ne_of_temp_final rfl hp) (hhd fs h))

theorem triple_stageFile (p : Path) (i : Nat) (skip : Bool) (prod : Path → Prog Bool) (hp : p.tmp = none)
    (hprod : Triple S c E (Pr c [] L) (prod (p.withTok (c.toks i))) (fun ok fs => ok = true ∧ Pr c [(p, i)] L fs)) :
    Triple S c E (Pr c [] L) (stageFile p (c.toks i) skip prod) (fun _ fs => Pr c [] (p :: L) fs) := by
  unfold stageFile
  refine triple_bind (triple_mkpath hE _) (fun _ => ?_)
  refine triple_bind (triple_test_full hE (.inl rfl)) (fun e => triple_pure fun _ => triple_ite (fun hse => ?_) fun _ => ?_)
  · have he : e = true := by simp only [Bool.and_eq_true] at hse; exact hse.2
    subst he
    exact triple_skip ()
  · refine triple_bind (triple_pre hprod fun fs h => h.of_ite) (fun ok => ?_)
    exact triple_if_true ok (triple_moveStaged hE p i hp fun _ h => by cases h)

/-- the producer has to be specified only for the case in which it runs: not when both files are known to exist
    and are skipped (`hprod`) -/
theorem triple_stageFiles2 (p1 : Path) (i1 : Nat) (p2 : Path) (i2 : Nat) (skip : Bool)
    (prod : Path → Path → Prog Bool) (hp1 : p1.tmp = none) (hp2 : p2.tmp = none)
    (hprod : (skip = true ∧ p1 ∈ L ∧ p2 ∈ L) ∨ (p2.withTok (c.toks i2) ≠ p1.withTok (c.toks i1) ∧
      Triple S c E (Pr c [] L) (prod (p1.withTok (c.toks i1)) (p2.withTok (c.toks i2)))
        (fun ok fs => ok = true ∧ Pr c [(p1, i1), (p2, i2)] L fs))) :
    Triple S c E (Pr c [] L) (stageFiles2 p1 (c.toks i1) p2 (c.toks i2) skip prod) (fun _ fs => Pr c [] (p2 :: p1 :: L) fs) := by
  unfold stageFiles2
  refine triple_bind (triple_mkpath hE _) (fun _ => ?_)
  refine triple_bind (triple_test_full hE (.inl rfl)) (fun e1 => triple_pure fun h1 => ?_)
  refine triple_bind (triple_mkpath hE _) (fun _ => ?_)
  refine triple_bind (triple_test_full hE (.inl rfl)) (fun e2 => triple_pure fun h2 => triple_ite (fun hse => ?_) fun hse => ?_)
  · simp only [Bool.and_eq_true] at hse
    obtain ⟨⟨_, he1⟩, he2⟩ := hse
    subst he1; subst he2
    exact triple_skip ()
  · obtain ⟨hne, hprod⟩ := hprod.resolve_left fun ⟨hs, m1, m2⟩ => by simp [hs, h1 m1 hp1, h2 (by split <;> simp [m2]) hp2] at hse
    refine triple_bind (triple_pre hprod fun fs h => h.of_ite.of_ite) (fun ok => triple_if_true ok ?_)
    refine triple_bind (triple_moveStaged hE p1 i1 hp1 (by simpa using hne)) (fun _ => ?_)
    exact triple_moveStaged hE p2 i2 hp2 fun _ h => by cases h

theorem triple_writeProducer (p : Path) (i : Nat) (content : Bytes) :
    Triple S c E (Pr c T L) (writeProducer content (p.withTok (c.toks i)))
      (fun ok fs => ok = true ∧ Pr c ((p, i) :: T) L fs) :=
  triple_bind (triple_ioWrite hE p i content) (fun _ => triple_ret true (fun _ h => ⟨rfl, h⟩))

theorem triple_stageWrite (p : Path) (i : Nat) (skip : Bool) (content : Bytes) (hp : p.tmp = none) :
    Triple S c E (Pr c [] L) (stageFile p (c.toks i) skip (writeProducer content)) (fun _ fs => Pr c [] (p :: L) fs) :=
  triple_stageFile hE p i skip _ hp (triple_writeProducer hE p i content)

theorem triple_applyDependencyHash : Triple S c E (Pr c T L) (applyDependencyHash c) (fun _ fs => Pr c T L fs) :=
  triple_branch hE (.inr rfl)
    (triple_mono (triple_readFile hE (List.mem_cons_self ..) rfl) fun _ _ h => h.drop (.cons _ (.refl _)))
    fun _ => triple_skip ()

theorem triple_cacheFile (dst : Path) (i : Nat) (content : Bytes) (src : Option Path)
    (hp : dst.tmp = none) (hsrc : ∀ s, src = some s → s ∈ L ∧ s.tmp = none) :
    Triple S c E (Pr c [] L) (cacheFile dst (c.toks i) content src) (fun _ fs => Pr c [] (dst :: L) fs) := by
  refine triple_branch hE (.inl rfl) (triple_skip ()) fun _ => ?_
  refine triple_bind (Q := fun _ fs => Pr c [] L fs) ?_ (fun _ => triple_stageWrite hE dst i true content hp)
  cases src with
  | none => exact triple_skip ()
  | some s0 => exact triple_readFile hE (hsrc s0 rfl).1 (hsrc s0 rfl).2

/-- what a build needs when it has to compile something: leave to start a compiler, and a source that parses -/
def Cold (c : Config) (E : Op → Prop) : Prop :=
  (∀ s o, E (.exec s o)) ∧ c.parseOk = true

omit hE in
theorem needed_present {fs : FS} (h : Pr c [] (needed c) fs) : ∀ q ∈ needed c, fs.present q = true := by
  intro q hq
  refine h.2 q hq ?_
  unfold needed at hq
  split at hq <;> simp only [List.mem_cons, List.mem_nil_iff, or_false] at hq
  · rcases hq with rfl | rfl | rfl | rfl <;> rfl
  · subst hq; rfl

omit hE in
theorem triple_exec (src : Path) (X : List (Path × Nat)) (hs : src ∈ L) (hf : src.tmp = none)
    (hX : E (.exec src (X.map fun x => x.1.withTok (c.toks x.2)))) :
    Triple S c E (Pr c [] L) (op (.exec src (X.map fun x => x.1.withTok (c.toks x.2))))
      (fun ok fs => ok = true ∧ Pr c X L fs) :=
  triple_op _ _ hX Pr.stable fun fs h => ⟨h.2 src hs hf,
    fun x hx => present_exec fs src _ _ (h.2 src hs hf) (List.mem_map_of_mem hx), (h.step rfl fun _ _ e => by cases e).2⟩

theorem triple_compilerVendor (n : Nat) (hcw : Cold c E ∨ c.v "output" ∈ L) :
    Triple S c E (Pr c [] L) (compilerVendor c n) (fun _ fs => Pr c [] (c.v "output" :: L) fs) := by
  unfold compilerVendor
  refine triple_bind (triple_cacheFile hE _ n c.vsrc none rfl (by intro s h; cases h)) (fun _ => ?_)
  refine triple_branch hE (.inr rfl) ?_ fun hf => ?_
  · exact triple_bind (triple_known hE (.inl rfl) (List.mem_cons_self ..) rfl) fun found => triple_if_true found
      (triple_mono (triple_readFile hE (List.mem_cons_self ..) rfl) fun _ fs h => h.drop (.cons_cons _ (.cons _ (.refl _))))
  · obtain ⟨hEx, _⟩ := hcw.resolve_right fun hv => hf (List.mem_cons_of_mem _ hv) rfl
    simp only [Bool.false_eq_true, if_false, Prog.pure_bind]
    -- the two names staged together differ in their base names: no assumption on the tokens is needed
    refine triple_bind (triple_stageFiles2 hE (c.v "binary") (n + 1) (c.v "build.log") (n + 2) true _ rfl rfl
      (.inr ⟨fun e => absurd (show "build.log" = "binary" from congrArg Path.base e) (by decide), ?_⟩)) (fun _ => ?_)
    · refine triple_bind (triple_exec _ [(c.v "binary", n + 1), (c.v "build.log", n + 2)] (List.mem_cons_self ..) rfl (hEx _ _)) (fun _ => ?_)
      refine triple_bind (triple_op (.stat _) (fun ok fs => ok = true ∧ Pr c [(c.v "binary", n + 1), (c.v "build.log", n + 2)] (c.v "findCompilerVendor.cpp" :: L) fs)
        (hE _ rfl) (Pr.stable.and_const _) fun fs h => ⟨h.2.1 _ (List.mem_cons_self ..), h.2⟩) (fun ok => ?_)
      exact triple_if_true ok (triple_ret true fun _ h => ⟨rfl, h⟩)
    · refine triple_bind (triple_neutral hE (.run (c.v "binary")) rfl) (fun _ => ?_)
      exact triple_mono (triple_stageWrite hE (c.v "output") (n + 3) false c.vout rfl)
        (fun _ fs h => h.drop (.cons_cons _ (.cons _ (.cons _ (.cons _ (.refl _))))))

theorem triple_ompCompilerFlag (n : Nat) (hcw : Cold c E ∨ (c.o "binary" ∈ L ∧ c.o "output" ∈ L)) :
    Triple S c E (Pr c [] L) (ompCompilerFlag c n) (fun _ fs => Pr c [] (c.o "output" :: c.o "binary" :: L) fs) := by
  unfold ompCompilerFlag
  refine triple_bind (triple_cacheFile hE _ n c.osrc none rfl (by intro s h; cases h)) (fun _ => ?_)
  refine triple_bind (triple_stageFiles2 hE (c.o "binary") (n + 1) (c.o "output") (n + 2) true _ rfl rfl
    (hcw.symm.imp (fun ⟨m1, m2⟩ => ⟨rfl, .tail _ m1, .tail _ m2⟩) fun hc =>
      ⟨fun e => absurd (show "output" = "binary" from congrArg Path.base e) (by decide), ?_⟩)) (fun _ => ?_)
  · refine triple_bind (triple_exec _ [(c.o "binary", n + 1)] (List.mem_cons_self ..) rfl (hc.1 _ _)) (fun ok => triple_pure fun _ => ?_)
    refine triple_bind (triple_ioWrite hE (c.o "output") (n + 2) (if ok = true then c.oout else c.ooutNA)) (fun _ => ?_)
    exact triple_ret true fun fs h => ⟨rfl, fun x hx => h.1 x ((List.Perm.swap _ _ _).mem_iff.1 hx), h.2⟩
  · exact triple_mono (triple_readFile hE (List.mem_cons_self ..) rfl)
      (fun _ fs h => h.drop (.cons_cons _ (.cons_cons _ (.cons _ (.refl _)))))

theorem triple_loadCached (hb : c.k "binary" ∈ L) : Triple S c E (Pr c [] L) (loadCached c) (fun _ fs => Pr c [] L fs) := by
  unfold loadCached
  refine triple_bind (triple_neutral hE (.stat _) rfl) fun e => ?_
  refine triple_bind (triple_ite (fun _ => triple_applyDependencyHash hE) fun _ => triple_skip ()) fun _ => ?_
  exact triple_bind (triple_known hE (.inr rfl) hb rfl) fun ok => triple_if_true ok (triple_skip ())

theorem triple_serialBuild (n : Nat) (hcw : Cold c E ∨ c.k "binary" ∈ L)
    (hstr : c.fromString = true → c.k "string_source.cpp" ∈ L) :
    Triple S c E (Pr c [] L) (serialBuild c n) (fun r fs => r = true ∧ Pr c [] (c.k "binary" :: L) fs) := by
  unfold serialBuild
  refine triple_branch hE (.inl rfl)
    (triple_bind (triple_loadCached hE (List.mem_cons_self ..)) fun _ => triple_ret true fun _ h => ⟨rfl, h⟩) fun hf => ?_
  have hc := hcw.resolve_right fun hb => hf hb rfl
  refine triple_bind (triple_compilerVendor hE n (.inl hc)) (fun _ => ?_)
  refine triple_bind (triple_cacheFile hE (c.k c.rawBase) (n + 4) c.raw _ rfl ?_) (fun _ => ?_)
  · intro s h
    split at h
    · rename_i hfs
      cases h
      exact ⟨List.mem_cons_of_mem _ (hstr hfs), rfl⟩
    · cases h
  refine triple_bind (triple_readFile hE (List.mem_cons_self ..) rfl) (fun _ => ?_)
  simp only [hc.2, if_true]
  refine triple_bind (triple_stageWrite hE (c.k c.cppBase) (n + 5) true c.cpp rfl) (fun _ => ?_)
  refine triple_bind (triple_stageWrite hE (c.k "build.json") (n + 6) true c.json rfl) (fun _ => ?_)
  refine triple_bind (triple_stageFile hE (c.k "binary") (n + 7) true _ rfl ?_) (fun _ => ?_)
  · refine triple_bind (triple_exec (c.k c.cppBase) [(c.k "binary", n + 7)]
      (List.mem_cons_of_mem _ (List.mem_cons_self ..)) rfl (hc.1 _ _)) (fun ok => ?_)
    exact triple_if_true ok (triple_ret true fun _ h => ⟨rfl, h⟩)
  · refine triple_bind (triple_sync hE (c.k "binary")) (fun _ => ?_)
    refine triple_bind (triple_known hE (.inr rfl) (List.mem_cons_self ..) rfl) (fun ok => ?_)
    exact triple_if_true ok (triple_ret true fun _ h => ⟨rfl, h.drop (.cons_cons _ (.cons _ (.cons _ (.cons _ (.cons _ (.refl _))))))⟩)

/-- The build returns its kernel and leaves everything a later build needs.  Starting with those artefacts
    known to be in place (`L ⊇ needed c`) nothing more is assumed: no compiler is started, so `E` may forbid
    `exec`. -/
theorem triple_buildProg (hcw : Cold c E ∨ ∀ q ∈ needed c, q ∈ L) :
    Triple S c E (Pr c [] L) (buildProg c) (fun r fs => r = true ∧ Pr c [] (needed c) fs) := by
  unfold buildProg
  refine triple_bind (triple_applyDependencyHash hE) (fun _ => ?_)
  refine triple_bind (Q := fun _ fs => Pr c [] (if c.fromString = true then c.k "string_source.cpp" :: L else L) fs) ?_ (fun _ => ?_)
  · by_cases hfs : c.fromString = true
    · simp only [hfs, if_true]
      refine triple_bind (triple_stageWrite hE (c.k "string_source.cpp") 0 true c.str rfl) (fun _ => ?_)
      exact triple_bind (triple_readFile hE (List.mem_cons_self ..) rfl) (fun _ => triple_applyDependencyHash hE)
    · simp only [hfs]
      exact triple_skip ()
  · generalize hL' : (if c.fromString = true then c.k "string_source.cpp" :: L else L) = L'
    have hcw' : Cold c E ∨ ∀ q ∈ needed c, q ∈ L' := hcw.imp_right fun h q hq => by
      subst hL'; split <;> simp [h q hq]
    have hstr : c.fromString = true → c.k "string_source.cpp" ∈ L' := by
      intro h; subst hL'; simp [h]
    refine triple_bind (Q := fun r fs => r = true ∧ Pr c [] (needed c) fs) ?_
      (fun ok => triple_if_true ok (triple_ret true fun _ h => ⟨rfl, h⟩))
    refine triple_ite (fun hom => ?_) fun hom => ?_
    · have hn : needed c = [c.k "binary", c.v "output", c.o "binary", c.o "output"] := by simp [needed, hom]
      refine triple_bind (triple_compilerVendor hE 1 (hcw'.imp_right fun h => h _ (by simp [hn]))) (fun _ => ?_)
      refine triple_bind (triple_ompCompilerFlag hE 5
        (hcw'.imp_right fun h => ⟨.tail _ (h _ (by simp [hn])), .tail _ (h _ (by simp [hn]))⟩)) (fun _ => ?_)
      refine triple_mono (triple_serialBuild hE 8 (hcw'.imp_right fun h => .tail _ (.tail _ (.tail _ (h _ (by simp [hn])))))
          fun h => .tail _ (.tail _ (.tail _ (hstr h))))
        (fun _ fs h => ⟨h.1, h.2.1, fun q hq => h.2.2 q ?_⟩)
      simp only [hn, List.mem_cons, List.mem_nil_iff, or_false] at hq
      simp only [List.mem_cons]
      rcases hq with h | h | h | h <;> simp [h]
    · have hn : needed c = [c.k "binary"] := by simp [needed, hom]
      rw [hn]
      exact triple_mono (triple_serialBuild hE 8 (hcw'.imp_right fun h => h _ (by simp [hn])) hstr)
        (fun _ fs h => ⟨h.1, h.2.drop (.cons_cons _ (List.nil_sublist _))⟩)

end progress

theorem wp_buildProg {S : Spec} {c : Config} (hpo : c.parseOk = true) (fs : FS) :
    Wp S c (fun _ => True) (buildProg c) (fun r fs => r = true ∧ Pr c [] (needed c) fs) fs :=
  triple_buildProg (fun _ _ => trivial) (L := []) (.inl ⟨fun _ _ => trivial, hpo⟩) fs (Pr.nil fs)

/-- with the artefacts in place the build returns its kernel without starting a compiler, whatever the other
    processes do in between -/
theorem reuse_under_interference {S : Spec} (c : Config) (pid : Nat) (es : List (FS → FS)) (fs : FS)
    (hp : ∀ q ∈ needed c, fs.present q = true) (hes : EnvOK S c (buildProg c) es fs) :
    ∃ fs' t es', runE S pid (buildProg c) es fs = (some true, fs', t, es') ∧ noExec t = true := by
  obtain ⟨a, fs', t, es', hrun, ha, hE⟩ := wp_runE (pid := pid) es
    (triple_buildProg (S := S) (c := c) (E := fun o => isExec o = false) (fun _ h => h)
      (.inr fun _ hq => hq) fs ⟨fun _ h => (by cases h), fun q hq _ => hp q hq⟩) hes
  refine ⟨fs', t, es', ha.1 ▸ hrun, ?_⟩
  simp only [noExec, List.all_eq_true]
  intro e he
  simp [hE e he]

section alone
variable {S : Spec} {pid : Nat}

theorem run_eq_runE {α : Type} (m : Prog α) (fs : FS) :
    run S pid m fs = ((runE S pid m [] fs).1, (runE S pid m [] fs).2.1, (runE S pid m [] fs).2.2.1) := by
  induction m generalizing fs with
  | ret a => rfl
  | fail => rfl
  | act o k ih =>
    simp only [run, runE, List.headD_nil, List.tail_nil, id]
    rw [ih]

theorem wp_run {c : Config} {E : Op → Prop} {α : Type} {Q : α → FS → Prop} {m : Prog α} {fs : FS}
    (hm : Wp S c E m Q fs) : ∃ a fs' t, run S pid m fs = (some a, fs', t) ∧ Q a fs' ∧ ∀ e ∈ t, E e.op := by
  obtain ⟨a, fs', t, es', h1, h2, h3⟩ := wp_runE (pid := pid) [] hm (EnvOK.nil S c m fs)
  exact ⟨a, fs', t, by rw [run_eq_runE, h1], h2, h3⟩

end alone
end Occa.BuildFS
