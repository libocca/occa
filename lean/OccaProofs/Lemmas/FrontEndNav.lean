/-
C16, navigation on a token context: what `setup` leaves behind (`Good`) is kept by every call that
moves the window or the stack, and under it every read and `getNextOperator` stay inside the vectors.
-/
import OccaProofs.Lemmas.FrontEnd

namespace Occa.FrontEnd

/-- what the statement parser may rely on after a `setup` that reported no error (`hasError = false`) -/
structure Good (c : Ctx) : Prop where
  valid : Valid c
  bounded : PairsBounded c
  covered : Covered c

theorem setup_good {tokens : Array Tok} (ht : Typed tokens) {c : Ctx} (hs : setup tokens = .ok c)
    (he : c.hasError = false) : Good c :=
  let ⟨hv, hb, _, h⟩ := setup_spec ht hs
  ⟨hv, hb, (h he).1⟩

theorem indexInRange_iff (c : Ctx) (i : Int) :
    c.indexInRange i = true ↔ (0 ≤ i ∧ c.tp.start + i < c.tp.stop) := by
  simp [Ctx.indexInRange]

theorem set2_same (c : Ctx) (a b : Int) :
    (c.set2 a b).pairs = c.pairs ∧ (c.set2 a b).tokens = c.tokens ∧ (c.set2 a b).tokenIndices = c.tokenIndices := by
  unfold Ctx.set2
  split
  · dsimp only; split <;> exact ⟨rfl, rfl, rfl⟩
  · exact ⟨rfl, rfl, rfl⟩

/-- The outcome the property allows of a call: occa::exception, or a normal return with `P`;
    neither a trap nor a hang. -/
def Safe {α : Type} (P : α → Prop) (x : Res α) : Prop := x = .err ∨ ∃ a, x = .ok a ∧ P a

namespace Safe
variable {α β : Type} {P : α → Prop} {Q : β → Prop} {x : Res α} {f : α → Res β}

theorem ok {a : α} (h : P a) : Safe P (.ok a) := .inr ⟨a, rfl, h⟩

theorem bind (hx : Safe P x) (hf : ∀ a, P a → Safe Q (f a)) : Safe Q (x >>= f) := by
  rcases hx with rfl | ⟨a, rfl, h⟩
  · exact .inl rfl
  · exact hf a h

theorem bind_ok (hx : ∃ a, x = .ok a) (hf : ∀ a, Safe Q (f a)) : Safe Q (x >>= f) := by
  obtain ⟨a, rfl⟩ := hx
  exact hf a

end Safe

namespace Good
variable {c : Ctx}

/-! The calls that move the window or the stack touch neither the vectors nor the pair map, so only `Valid`'s
bounds are at stake. -/

theorem window (hg : Good c) {s e : Int} (h0 : 0 ≤ s) (h1 : s ≤ e) (h2 : e ≤ (c.tokenIndices.size : Int)) :
    Good { c with tp := ⟨s, e⟩ } :=
  ⟨⟨hg.valid.idx, hg.valid.typed, h0, h1, h2, hg.valid.stk⟩, hg.bounded, hg.covered⟩

theorem set1 (hg : Good c) (a : Int) : Good (c.set1 a) := by
  have := hg.valid.lo; have := hg.valid.mid; have := hg.valid.hi
  unfold Ctx.set1
  split
  · next h =>
    rw [indexInRange_iff] at h
    exact hg.window (by omega) (by omega) (by omega)
  · exact hg.window (by omega) (Int.le_refl _) (by omega)

theorem set2 (hg : Good c) (a b : Int) : Good (c.set2 a b) := by
  have := hg.valid.lo; have := hg.valid.mid; have := hg.valid.hi
  unfold Ctx.set2
  split
  · next h =>
    rw [indexInRange_iff] at h
    dsimp only
    split
    · next h2 =>
      simp only [indexInRange_iff] at h2
      exact hg.window (by omega) (by omega) (by omega)
    · exact hg.window (by omega) (by omega) (by omega)
  · exact hg.window (by omega) (Int.le_refl _) (by omega)

theorem push0 (hg : Good c) : Good c.push0 :=
  ⟨⟨hg.valid.idx, hg.valid.typed, hg.valid.lo, hg.valid.mid, hg.valid.hi, fun r hr => by
    rcases List.mem_cons.mp hr with rfl | hr
    · exact ⟨hg.valid.lo, hg.valid.mid, hg.valid.hi⟩
    · exact hg.valid.stk r hr⟩, hg.bounded, hg.covered⟩

theorem pop (hg : Good c) : Safe (fun a => Good a.1) c.pop := by
  unfold Ctx.pop
  cases hs : c.stack with
  | nil => exact .inl rfl
  | cons r rest =>
    have hr := hg.valid.stk r (hs ▸ List.mem_cons_self)
    exact .ok ⟨⟨hg.valid.idx, hg.valid.typed, hr.1, hr.2.1, hr.2.2,
      fun r' hr' => hg.valid.stk r' (hs ▸ List.mem_cons_of_mem _ hr')⟩, hg.bounded, hg.covered⟩

theorem popAndSkip (hg : Good c) : Safe Good c.popAndSkip :=
  hg.pop.bind fun ⟨_, _⟩ h => .ok (h.set1 _)

theorem pushPairRange (hg : Good c) : Safe Good c.pushPairRange := by
  unfold Ctx.pushPairRange
  dsimp only
  split
  · exact .ok (hg.push0.set2 1 _)
  · exact .inl rfl

theorem read (hg : Good c) {p : Int} (h0 : 0 ≤ p) (h1 : p < (c.tokenIndices.size : Int)) :
    ∃ t, (do let t ← c.getToken p; .ok (some t) : Res (Option Tok)) = .ok t :=
  let ⟨t, h, _⟩ := getToken_ok c hg.valid.idx hg.valid.typed p h0 h1
  ⟨some t, by rw [h]; rfl⟩

theorem at_ok (hg : Good c) (i : Int) : ∃ t, c.at i = .ok t := by
  have := hg.valid.lo; have := hg.valid.hi
  unfold Ctx.at
  by_cases h : c.indexInRange i = true
  · rw [h]
    rw [indexInRange_iff] at h
    exact hg.read (by omega) (by omega)
  · rw [Bool.not_eq_true] at h
    rw [h]
    exact ⟨none, rfl⟩

theorem endTok_ok (hg : Good c) : ∃ t, c.endTok = .ok t := by
  have := hg.valid.lo; have := hg.valid.hi
  unfold Ctx.endTok
  split
  · next h =>
    rw [indexInRange_iff] at h
    exact hg.read (by omega) (by omega)
  · exact ⟨none, rfl⟩

theorem getClosingPair_range (hg : Good c) :
    c.getClosingPair = -1 ∨ (0 < c.getClosingPair ∧ c.tp.start + c.getClosingPair < (c.tokenIndices.size : Int)) := by
  unfold Ctx.getClosingPair
  split
  · exact .inl rfl
  · split
    · next e hl =>
      have := hg.bounded _ _ (lookup_mem _ _ _ hl)
      exact .inr (by omega)
    · exact .inl rfl

theorem getClosingPairToken_ok (hg : Good c) : ∃ t, c.getClosingPairToken = .ok t := by
  have := hg.valid.lo
  unfold Ctx.getClosingPairToken
  dsimp only
  split
  · exact hg.read (by omega) (by have := hg.getClosingPair_range; omega)
  · exact ⟨none, rfl⟩

theorem getPrintToken_ok (hg : Good c) (atEnd : Bool) : ∃ t, c.getPrintToken atEnd = .ok t := by
  unfold Ctx.getPrintToken
  by_cases h : c.size = 0
  · exact ⟨none, by simp [h]⟩
  · have := hg.valid.lo; have := hg.valid.mid; have := hg.valid.hi
    unfold Ctx.size at h
    -- `atEnd`: the emptied window makes `indexInRange 0` fail and the token before the end is taken
    cases atEnd with
    | true =>
      obtain ⟨t, ht⟩ := hg.read (p := c.tp.stop + -1) (by omega) (by omega)
      exact ⟨t, by simpa [Ctx.size, h, Ctx.indexInRange, show (0 : Int) < c.tp.stop by omega] using ht⟩
    | false =>
      obtain ⟨t, ht⟩ := hg.read (p := c.tp.start) (by omega) (by omega)
      exact ⟨t, by simpa [Ctx.size, h, Ctx.indexInRange, show c.tp.start < c.tp.stop by omega] using ht⟩

/-- From a position inside the window the loop needs at most one iteration per remaining token:
    an opener is left through its binding, which goes forward (`Covered`); the map is not touched. -/
theorem getNextOperatorLoop_ok (hg : Good c) (m : Bitfield) :
    ∀ (fuel : Nat) (pos : Int), c.tp.start ≤ pos → c.tp.stop - pos ≤ fuel →
      ∃ r, getNextOperatorLoop c m (fuel + 1) pos c.pairs = .ok (r, c.pairs) ∧ (r = -1 ∨ (0 ≤ r ∧ r < c.size)) := by
  intro fuel
  induction fuel with
  | zero =>
    intro pos _ h
    unfold getNextOperatorLoop
    rw [if_neg (by omega)]
    exact ⟨_, rfl, .inl rfl⟩
  | succ fuel ih =>
    intro pos hlo hfuel
    unfold getNextOperatorLoop
    by_cases hp : pos < c.tp.stop
    · rw [if_pos hp]
      have h0 : 0 ≤ pos := Int.le_trans hg.valid.lo hlo
      obtain ⟨n, rfl⟩ := Int.eq_ofNat_of_zero_le h0
      have next := fun pos' (h : (n : Int) < pos') => ih pos' (by omega) (by omega)
      have hn : n < c.tokenIndices.size := Int.ofNat_lt.mp (Int.lt_of_lt_of_le hp hg.valid.hi)
      obtain ⟨t, hget, hknown⟩ := getToken_ok c hg.valid.idx hg.valid.typed n h0 (Int.ofNat_lt.mpr hn)
      simp only [hget, ok_bind]
      cases t with
      | other s => exact next _ (Int.lt_succ _)
      | op o =>
        dsimp only
        by_cases hm : (o.opType.and m).toBool = true
        · rw [if_pos hm]
          exact ⟨_, rfl, .inr ⟨Int.sub_nonneg_of_le hlo, Int.sub_lt_sub_right hp _⟩⟩
        · rw [if_neg hm]
          by_cases hs : (o.opType.and pairStartM).toBool = true
          · rw [if_pos hs]
            have hk := hknown o rfl
            obtain ⟨b, hb, hlt⟩ := hg.covered n hn
              ((opener_iff hget).mpr ⟨hs, knownOps_pair_isPairOp o hk (knownOps_start_pair o hk hs)⟩)
            simp only [hb]
            exact next _ (Int.lt_add_one_of_le (Int.le_of_lt hlt))
          · rw [if_neg hs]
            exact next _ (Int.lt_succ _)
    · rw [if_neg hp]
      exact ⟨_, rfl, .inl rfl⟩

theorem getNextOperator_ok (hg : Good c) (m : Bitfield) :
    ∃ r, c.getNextOperator m (c.size.toNat + 1) = .ok (c, r) ∧ (r = -1 ∨ (0 ≤ r ∧ r < c.size)) := by
  obtain ⟨r, hr, hrange⟩ := hg.getNextOperatorLoop_ok m c.size.toNat c.tp.start (Int.le_refl _) (Int.self_le_toNat _)
  exact ⟨r, by simp only [Ctx.getNextOperator, hr, ok_bind], hrange⟩

theorem step (hg : Good c) (o : NavOp) : Safe (fun a => Good a.1) (c.step o) := by
  cases o with
  | set1 a => exact .ok (hg.set1 a)
  | set2 a b => exact .ok (hg.set2 a b)
  | push0 => exact .ok hg.push0
  | push1 a => exact .ok (hg.push0.set1 a)
  | push2 a b => exact .ok (hg.push0.set2 a b)
  | pop => exact hg.pop.bind fun ⟨_, _⟩ h => .ok h
  | popAndSkip => exact hg.popAndSkip.bind fun _ h => .ok h
  | pushPairRange => exact hg.pushPairRange.bind fun _ h => .ok h
  | «at» i => exact .bind_ok (hg.at_ok i) fun _ => .ok hg
  | endTok => exact .bind_ok hg.endTok_ok fun _ => .ok hg
  | closing => exact .ok hg
  | closingTok => exact .bind_ok hg.getClosingPairToken_ok fun _ => .ok hg
  | printTok e => exact .bind_ok (hg.getPrintToken_ok e) fun _ => .ok hg
  | next m =>
    obtain ⟨r, hr, _⟩ := hg.getNextOperator_ok m
    exact .inr ⟨_, hr, hg⟩

theorem run (hg : Good c) (ops : List NavOp) : ∃ c', c.run ops = .ok c' ∧ Good c' := by
  induction ops generalizing c with
  | nil => exact ⟨c, rfl, hg⟩
  | cons o r ih =>
    unfold Ctx.run
    rcases hg.step o with h | ⟨⟨c', x⟩, h, hg'⟩
    · rw [h]; exact ih hg
    · rw [h]; exact ih hg'

theorem of_run (hg : Good c) {ops : List NavOp} {c' : Ctx} (hr : c.run ops = .ok c') : Good c' := by
  obtain ⟨c'', h, hg'⟩ := hg.run ops
  cases hr.symm.trans h
  exact hg'

end Good

end Occa.FrontEnd
