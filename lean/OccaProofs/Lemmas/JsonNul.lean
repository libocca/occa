/-
Lemmas for C24: the dumped text of a covered value without NUL bytes (`NoNul`) has none, so what the parser sees of it
(`cstr`) is the whole text.
-/
import OccaProofs.Lemmas.JsonCovered

namespace Occa.Json

mutual
def NoNul : Json → Prop
  | .str s => NoNulB s
  | .arr xs => NoNulL xs
  | .obj kvs => NoNulO kvs
  | _ => True
def NoNulL : List Json → Prop
  | [] => True
  | x :: xs => NoNul x ∧ NoNulL xs
def NoNulO : Obj → Prop
  | [] => True
  | (k, v) :: r => NoNulB k ∧ NoNul v ∧ NoNulO r
end

theorem noNulB_escByte {a : UInt8} (ha : a ≠ 0) : NoNulB (escByte a) := by
  by_cases h : a ∈ [cQuote, cBackslash, cBs, cFf, cNl, cCr, cTab]
  · simp only [List.mem_cons, List.not_mem_nil, or_false] at h
    rcases h with rfl | rfl | rfl | rfl | rfl | rfl | rfl <;> exact noNulB_of_all (by decide)
  · simp only [List.mem_cons, List.not_mem_nil, or_false, not_or] at h
    simp only [escByte, h, if_false]
    exact noNulB_cons ha nofun

theorem noNulB_escBytes {s : Bytes} (h : NoNulB s) : NoNulB (escBytes s) := by
  induction s with
  | nil => exact nofun
  | cons a t ih =>
    obtain ⟨ha, ht⟩ := List.forall_mem_cons.mp h
    exact noNulB_append (noNulB_escByte ha) (ih ht)

theorem noNulB_dumpStr {s : Bytes} (h : NoNulB s) : NoNulB (dumpStr s) :=
  noNulB_cons (by decide) (noNulB_append (noNulB_escBytes h) (noNulB_of_all (by decide)))

theorem noNulB_toStr {p : Prim} (h : p.IsInt ∨ p = ⟨.bool, 0, []⟩ ∨ p = ⟨.bool, 1, []⟩) : NoNulB p.toStr := by
  rcases h with h | rfl | rfl
  · rw [toStr_isInt h]
    refine noNulB_append ?_ (noNulB_append ?_ ?_)
    · split <;> exact noNulB_of_all (by decide)
    · intro c hc; exact (digit_char_facts (natDec_allDigits _ c hc)).1
    · split <;> exact noNulB_of_all (by decide)
  · exact noNulB_of_all (by decide)
  · exact noNulB_of_all (by decide)

theorem noNulB_sepAfter (ind : Bytes) (b : Bool) : NoNulB (sepAfter ind b) := by
  unfold sepAfter
  split <;> split <;> exact noNulB_of_all (by decide)

mutual
theorem noNul_dump : ∀ (v : Json), RT v → NoNul v → ∀ (ind cur : Bytes), AllWs ind → AllWs cur → NoNulB (dump ind cur v)
  | .none, hv, _, _, _, _, _ => absurd hv not_rt_none
  | .null, _, _, _, _, _, _ => noNulB_of_all (s := sNull) (by decide)
  | .str _, _, hn, _, _, _, _ => noNulB_dumpStr hn
  | .num _, hv, _, _, _, _, _ => noNulB_toStr hv
  | .arr xs, hv, hn, ind, cur, hi, hc => by
    simp only [dump]
    split
    · exact noNulB_of_all (by decide)
    · exact noNulB_cons (by decide) (noNulB_append (noNulB_append (noNulB_append (noNulB_sepAfter ind true)
        (noNul_dumpArr xs hv hn ind (cur ++ ind) hi (allWs_append hc hi))) (noNulB_of_allWs hc)) (noNulB_of_all (by decide)))
  | .obj kvs, hv, hn, ind, cur, hi, hc => by
    simp only [dump]
    split
    · exact noNulB_of_all (by decide)
    · refine noNulB_cons (by decide) (noNulB_append (noNulB_append (noNulB_append (noNulB_sepAfter ind true)
        (noNul_dumpObj kvs hv.2 hn ind (cur ++ ind) hi (allWs_append hc hi))) ?_) (noNulB_of_all (by decide)))
      split
      · exact nofun
      · exact noNulB_of_allWs hc
theorem noNul_dumpArr : ∀ (xs : List Json), RTL xs → NoNulL xs → ∀ (ind ni : Bytes), AllWs ind → AllWs ni → NoNulB (dumpArr ind ni xs)
  | [], _, _, _, _, _, _ => by intro c hc; simp [dumpArr] at hc
  | x :: xs, hv, hn, ind, ni, hi, hni => by
    simp only [dumpArr]
    exact noNulB_append (noNulB_append (noNulB_append (noNulB_of_allWs hni) (noNul_dump x hv.1 hn.1 ind ni hi hni))
      (noNulB_sepAfter _ _)) (noNul_dumpArr xs hv.2 hn.2 ind ni hi hni)
theorem noNul_dumpObj : ∀ (kvs : Obj), RTO kvs → NoNulO kvs → ∀ (ind ni : Bytes), AllWs ind → AllWs ni → NoNulB (dumpObj ind ni kvs)
  | [], _, _, _, _, _, _ => by intro c hc; simp [dumpObj] at hc
  | (k, v) :: r, hv, hn, ind, ni, hi, hni => by
    simp only [dumpObj, isNone_of_rt hv.2.1, Bool.false_eq_true, if_false]
    exact noNulB_append (noNulB_append (noNulB_append (noNulB_append (noNulB_append (noNulB_of_allWs hni) (noNulB_dumpStr hn.1))
      (noNulB_of_all (by decide))) (noNul_dump v hv.2.1 hn.2.1 ind ni hi hni)) (noNulB_sepAfter _ _)) (noNul_dumpObj r hv.2.2 hn.2.2 ind ni hi hni)
end

end Occa.Json
