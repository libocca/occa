/-
Helper lemmas for C12: the common frame of the per-kind re-read lemmas.  On a position that starts a token
`getToken` is `dispatch` at the type that `peek` finds; `peek` is determined by the first character, or, when that
is an identifier start, by the leading word and the character after it (`wordKind`, `getToken_idStart`).
Before that, what the proofs use of a separator character (`IsWs`): `isWs_iff` for the token loop, `ws_ends_word`
for words and literals, `ws_load` for `primitive::load`.
-/
import OccaProofs.Lemmas.LexProgress

namespace Occa.Lex
open Occa.Gen

/-- the separator characters of the round trip: `charcodes::whitespace` -/
abbrev IsWs (c : Char) : Prop := c ∈ whitespace

theorem isWs_iff {c : Char} : IsWs c ↔ c = '\n' ∨ c ∈ whitespaceNoNewline := by
  simp only [IsWs, whitespace, whitespaceNoNewline, List.mem_cons, List.not_mem_nil, or_false]
  exact or_left_comm

/-- a separator character ends a word, a literal and a udf -/
structure EndsWord (c : Char) : Prop where
  nb : c ≠ '\\'
  nn : c ≠ NUL
  nid : c ∉ identifier
  nids : c ∉ identifierStart
  ndq : c ≠ '"'
  nsq : c ≠ '\''
  nus : c ≠ '_'

theorem ws_ends_word {c : Char} (hc : IsWs c) : EndsWord c :=
  have ⟨h1, h2, h3, h4, h5, h6, h7⟩ := (by decide +kernel : ∀ c ∈ whitespace,
    c ≠ '\\' ∧ c ≠ NUL ∧ c ∉ identifier ∧ c ∉ identifierStart ∧ c ≠ '"' ∧ c ≠ '\'' ∧ c ≠ '_') c hc
  ⟨h1, h2, h3, h4, h5, h6, h7⟩

/-- no test of `primitive::load` accepts a separator character: the digit loop with the `0b` / `0x` look-ahead, `true` /
    `false`, the suffix loop, the hex and binary digits -/
structure NotLoaded (c : Char) : Prop where
  digits : isDigitOrDot c = false ∧ c ≠ 'b' ∧ c ≠ 'B' ∧ c ≠ 'x' ∧ c ≠ 'X'
  bool : c ∉ ['t', 'r', 'u', 'e'] ∧ c ∉ ['f', 'a', 'l', 's', 'e']
  sfx : isLU c = false ∧ isE c = false ∧ isF c = false
  hex : isHex c = false
  bin : isBin c = false

theorem ws_load {c : Char} (hc : IsWs c) : NotLoaded c :=
  have ⟨h1, h2, h3, h4, h5⟩ := (by decide : ∀ c ∈ whitespace,
    (isDigitOrDot c = false ∧ c ≠ 'b' ∧ c ≠ 'B' ∧ c ≠ 'x' ∧ c ≠ 'X') ∧
    (c ∉ ['t', 'r', 'u', 'e'] ∧ c ∉ ['f', 'a', 'l', 's', 'e']) ∧
    (isLU c = false ∧ isE c = false ∧ isF c = false) ∧ isHex c = false ∧ isBin c = false) c hc
  ⟨h1, h2, h3, h4, h5⟩

theorem prefix_of_append_sep {p w : Str} {c : Char} {r : Str} (h : p <+: w ++ c :: r) (hc : c ∉ p) : p <+: w := by
  rcases List.prefix_or_prefix_of_prefix h (List.prefix_append w (c :: r)) with h1 | ⟨u, rfl⟩
  · exact h1
  · -- `p = w ++ u` with `u` a prefix of `c :: r` that does not hold `c`
    rw [List.prefix_append_right_inj] at h
    cases u with
    | nil => simp
    | cons y u => exact absurd (by simp [(List.cons_prefix_cons.mp h).1]) hc

theorem ident_facts : ∀ x ∈ identifier, x ≠ '\\' ∧ x ≠ NUL ∧ x ∉ whitespace := by decide +kernel

/-- the identifier characters without the digits, in the same order: a linear check -/
theorem idStart_sublist : identifierStart.Sublist identifier := by decide +kernel

theorem idStart_facts (x : Char) (h : x ∈ identifierStart) :
    x ∈ identifier ∧ isDigitOrDot x = false ∧ x ≠ '+' ∧ x ≠ '-' ∧ x ≠ '0' :=
  ⟨idStart_sublist.subset h,
    (by decide +kernel : ∀ x ∈ identifierStart, isDigitOrDot x = false ∧ x ≠ '+' ∧ x ≠ '-' ∧ x ≠ '0') x h⟩

/-- a character at which `getToken` finds a token: `skipWhitespace` stops there and it is not the terminator -/
structure Starts (a : Char) : Prop where
  nb : a ≠ '\\'
  nws : a ∉ whitespaceNoNewline
  nn : a ≠ NUL

instance (a : Char) : Decidable (Starts a) :=
  decidable_of_iff (a ≠ '\\' ∧ a ∉ whitespaceNoNewline ∧ a ≠ NUL) ⟨fun ⟨x, y, z⟩ => ⟨x, y, z⟩, fun ⟨x, y, z⟩ => ⟨x, y, z⟩⟩

theorem Starts.of_not_ws {a : Char} (h1 : a ∉ whitespace) (h2 : a ≠ NUL) (h3 : a ≠ '\\') : Starts a :=
  ⟨h3, fun h => h1 (isWs_iff.mpr (.inr h)), h2⟩

theorem Starts.of_ident {a : Char} (h : a ∈ identifier) : Starts a :=
  have ⟨h1, h2, h3⟩ := ident_facts a h
  .of_not_ws h3 h2 h1

theorem Starts.of_registered {sp : Str} (h : sp ∈ registered) : Starts (hd sp) := by
  obtain ⟨a, t, rfl⟩ := List.exists_cons_of_ne_nil (registered_nonempty h)
  have ⟨h1, h2, h3, _⟩ := registered_clean h (c := a) (by simp)
  exact .of_not_ws h1 h2 h3

theorem skipWhitespace_at {a : Char} (ha : Starts a) (t : Str) : skipWhitespace (a :: t) = .ok (a :: t) :=
  skipUntil_stop t ha.nb (by simpa using ha.nws)

theorem getToken_of_peek {a : Char} {rest : Str} {k : Kind} (ha : Starts a)
    (hp : peek (a :: rest) = .ok (k, false, a :: rest)) : getToken (a :: rest) = dispatch k (a :: rest) := by
  simp only [getToken, skipWhitespace_at ha, hp, ok_bind, List.isEmpty_cons]
  cases dispatch k (a :: rest) <;> simp [bind, Except.bind]

theorem shallowPeek_at {a : Char} (ha : Starts a) (rest : Str) :
    shallowPeek (a :: rest) = .ok (if isPrimitiveAt (a :: rest) then .prim else classifyChar a, a :: rest) := by
  rw [shallowPeek_eq (skipWhitespace_at ha rest), hd_cons, if_neg ha.nn]

theorem peek_prim {a : Char} {rest : Str} (ha : Starts a) (hp : isPrimitiveAt (a :: rest) = true) :
    peek (a :: rest) = .ok (.prim, false, a :: rest) := by
  simp only [peek, shallowPeek_at ha, hp, if_true, ok_bind, pure_ok]

theorem peek_class {a : Char} {rest : Str} {k : Kind} (ha : Starts a) (hp : isPrimitiveAt (a :: rest) = false)
    (hk : classifyChar a = k) (h1 : k ≠ .ident) (h2 : k ≠ .op) : peek (a :: rest) = .ok (k, false, a :: rest) := by
  simp only [peek, shallowPeek_at ha, hp, hk, Bool.false_eq_true, if_false, ok_bind]
  cases k <;> first | rfl | contradiction

theorem peek_op {a : Char} {rest : Str} (ha : Starts a) (hp : isPrimitiveAt (a :: rest) = false)
    (hk : classifyChar a = .op) (hl : longestOp (a :: rest) ≠ none) : peek (a :: rest) = .ok (.op, false, a :: rest) := by
  simp only [peek, shallowPeek_at ha, hp, hk, Bool.false_eq_true, if_false, ok_bind]
  cases h : longestOp (a :: rest) with
  | none => exact absurd h hl
  | some p => rfl

theorem peek_ident {a : Char} {rest : Str} {k : Kind} (ha : Starts a) (hp : isPrimitiveAt (a :: rest) = false)
    (hk : classifyChar a = .ident) (hw : peekForIdentifier (a :: rest) = .ok k) :
    peek (a :: rest) = .ok (k, false, a :: rest) := by
  simp only [peek, shallowPeek_at ha, hp, hk, hw, Bool.false_eq_true, if_false, ok_bind, pure_ok]

/-- a first character that begins neither a literal of `primitive::load`, a word nor an operator: its class decides -/
theorem getToken_at {a : Char} (ha : Starts a) (hl : a ≠ 't' ∧ a ≠ 'f' ∧ a ≠ '+' ∧ a ≠ '-') (hd' : isDigitOrDot a = false)
    {k : Kind} (hk : classifyChar a = k) (h1 : k ≠ .ident) (h2 : k ≠ .op) (rest : Str) :
    getToken (a :: rest) = dispatch k (a :: rest) :=
  getToken_of_peek ha (peek_class ha (not_primitive_of_first rest hl hd') hk h1 h2)

/-- a word other than the literals `true`, `false` -/
structure Word (w : Str) : Prop where
  start : hd w ∈ identifierStart
  rest : ∀ x ∈ w, x ∈ identifier
  notTrue : w ≠ ['t', 'r', 'u', 'e']
  notFalse : w ≠ ['f', 'a', 'l', 's', 'e']

theorem Word.ne_nil {w : Str} (hw : Word w) : w ≠ [] := by
  rintro rfl
  exact absurd hw.start (by decide)

/-- what `peekForIdentifier` makes of the word `w` followed by the character `c` -/
def wordKind (w : Str) (c : Char) : Kind :=
  if registered.contains w then .op
  else if c = '"' ∧ getStringEncoding w ≠ 0 then .str (getStringEncoding w)
  else if c = '\'' ∧ getCharacterEncoding w ≠ 0 then .chr (getCharacterEncoding w)
  else .ident

theorem skipFrom_identifier {t : Str} (R : Str) (ht : ∀ x ∈ t, x ∈ identifier) (hR1 : hd R ≠ '\\')
    (hR2 : hd R ∉ identifier) : skipFrom identifier (t ++ R) = .ok R := by
  rw [skipFrom, skipUntil_units R (.of_all fun x hx => ⟨(ident_facts x (ht x hx)).1, by simp [ht x hx]⟩)]
  cases R with
  | nil => rfl
  | cons c r => exact skipUntil_stop r hR1 (by simpa using hR2)

theorem getIdentifier_word {a : Char} {t : Str} {c : Char} (r : Str) (ht : ∀ x ∈ t, x ∈ identifier) (hc1 : c ≠ '\\')
    (hc2 : c ∉ identifier) (ha : a ∈ identifierStart) : getIdentifier (a :: t ++ c :: r) = .ok (a :: t, c :: r) := by
  simp [getIdentifier, ha, skipFrom_identifier (c :: r) ht hc1 hc2, consumed_cons_append]

/-- `hb`: over a backslash after the leading word the identifier loop would step on, by two characters -/
theorem peekForIdentifier_eq (a : Char) {x : Str} (hb : hd (x.dropWhile isIdCh) ≠ '\\') :
    peekForIdentifier (a :: x) = .ok (wordKind (a :: x.takeWhile isIdCh) (hd (x.dropWhile isIdCh))) := by
  have hR : hd (x.dropWhile isIdCh) ∉ identifier := by
    have := List.head?_dropWhile_not isIdCh x
    cases hdw : x.dropWhile isIdCh with
    | nil => exact fun h => (ident_facts _ h).2.1 rfl
    | cons y l => rw [hdw] at this; simpa [isIdCh] using this
  have hsk := skipFrom_identifier (t := x.takeWhile isIdCh) (x.dropWhile isIdCh)
    (fun y hy => by simpa [isIdCh] using mem_takeWhile_imp hy) hb hR
  have hcons := consumed_cons_append a (x.takeWhile isIdCh) (x.dropWhile isIdCh)
  rw [List.takeWhile_append_dropWhile] at hsk hcons
  simp only [peekForIdentifier, adv_cons_one, ok_bind, hsk, hcons, pure_ok, wordKind]
  rw [apply_ite Except.ok, apply_ite Except.ok, apply_ite Except.ok]

/-- `load` on a word followed by a character that ends it: refused, or `true`/`false` followed by more identifier
    characters (FL3) -/
theorem isPrimitiveAt_word {w : Str} (hw : Word w) {c : Char} (hc : c ∉ identifier) (r : Str) :
    isPrimitiveAt (w ++ c :: r) = false := by
  have hst := hw.start
  obtain ⟨_, hdd, hplus, hminus, hzero⟩ := idStart_facts _ hst
  rw [← hd_append hw.ne_nil (c :: r)] at hst hdd hplus hminus hzero
  by_cases h : ∃ p, (p = ['t', 'r', 'u', 'e'] ∨ p = ['f', 'a', 'l', 's', 'e']) ∧ startsWith p (w ++ c :: r) = true
  · obtain ⟨p, hp, hpre⟩ := h
    have hpi : ∀ x ∈ p, x ∈ identifier := by rcases hp with rfl | rfl <;> decide
    obtain ⟨w', rfl⟩ := prefix_of_append_sep (List.isPrefixOf_iff_prefix.mp hpre) fun hm => hc (hpi c hm)
    cases w' with
    | nil =>
      rcases hp with rfl | rfl
      · exact absurd (List.append_nil _) hw.notTrue
      · exact absurd (List.append_nil _) hw.notFalse
    | cons y w' =>
      have hy : y ∈ identifier := hw.rest y (by simp)
      simp only [List.append_assoc, List.cons_append] at hst ⊢
      simp [isPrimitiveAt, loadScan_bool false hp, hy, hst]
  · have h1 : startsWith ['t', 'r', 'u', 'e'] (w ++ c :: r) = false := Bool.eq_false_iff.mpr fun e => h ⟨_, Or.inl rfl, e⟩
    have h2 : startsWith ['f', 'a', 'l', 's', 'e'] (w ++ c :: r) = false := Bool.eq_false_iff.mpr fun e => h ⟨_, Or.inr rfl, e⟩
    refine isPrimitiveAt_of_none (loadF_none _ _ _ h1 h2 (isSigned_of_hd ⟨hplus, hminus⟩) hzero ?_)
    rw [takeWhile_nil_of_hd hdd]
    simp

theorem getToken_idStart {a : Char} {x : Str} (ha : a ∈ identifierStart) (hp : isPrimitiveAt (a :: x) = false)
    (hb : hd (x.dropWhile isIdCh) ≠ '\\') :
    getToken (a :: x) = dispatch (wordKind (a :: x.takeWhile isIdCh) (hd (x.dropWhile isIdCh))) (a :: x) :=
  have hs := Starts.of_ident (idStart_facts a ha).1
  getToken_of_peek hs (peek_ident hs hp (by simp [classifyChar, ha]) (peekForIdentifier_eq a hb))

theorem getToken_word {w : Str} (hw : Word w) {c : Char} (hc1 : c ≠ '\\') (hc2 : c ∉ identifier) (r : Str) :
    getToken (w ++ c :: r) = dispatch (wordKind w c) (w ++ c :: r) := by
  have hp := isPrimitiveAt_word hw hc2 r
  obtain ⟨a, t, rfl⟩ := List.exists_cons_of_ne_nil hw.ne_nil
  obtain ⟨e1, e2⟩ := takeWhile_run (p := isIdCh) (m := t) (T := c :: r)
    (fun x hx => by simpa [isIdCh] using hw.rest x (List.mem_cons_of_mem _ hx)) (by simpa [isIdCh] using hc2)
  have h := getToken_idStart (x := t ++ c :: r) hw.start hp (by rw [e2]; exact hc1)
  rwa [e1, e2] at h

end Occa.Lex
