/-
The state invariant `SInv` of the whole model (both pools, the counters, and the device buffers with the memory
objects over them: `MemsOK`, with its lemmas for one more memory object, one more buffer, a write, a release) and
the generic lemmas for replacing one pool / changing anything but the pools.
-/
import OccaProofs.Lemmas.PoolReserve

namespace Occa.Pool

def poolSize : Option Pool → Nat
  | none => 0
  | some p => p.size

/-- bytes of the live buffers that `memoryAllocated()` counts (not wrapped) -/
def countedBytes : List DBuf → Nat
  | [] => 0
  | b :: bs => (if b.counted then b.size else 0) + countedBytes bs

structure PoolOK (nf : Nat) (p : Pool) : Prop where
  inv : PInv p
  fams : ∀ r ∈ p.resv, r.fam < nf

theorem PoolOK.mono {nf nf' : Nat} {p : Pool} (h : PoolOK nf p) (hle : nf ≤ nf') : PoolOK nf' p :=
  ⟨h.inv, fun r hr => Nat.lt_of_lt_of_le (h.fams r hr) hle⟩

theorem setBufData_ids (i : Nat) (f : List Byte → List Byte) (l : List DBuf) :
    (setBufData i f l).map (·.id) = l.map (·.id) := by
  induction l with
  | nil => rfl
  | cons x xs ih =>
    unfold setBufData
    split
    · simp
    · simp [ih]

theorem mem_setBufData_id {i : Nat} {f : List Byte → List Byte} {l : List DBuf} {b : DBuf}
    (hb : b ∈ setBufData i f l) : ∃ b0 ∈ l, b0.id = b.id := by
  have hm : b.id ∈ (setBufData i f l).map (·.id) := List.mem_map.2 ⟨b, hb, rfl⟩
  rw [setBufData_ids] at hm
  obtain ⟨b0, hb0, he⟩ := List.mem_map.1 hm
  exact ⟨b0, hb0, he⟩

theorem nodup_map_concat {α : Type} {f : α → Nat} {l : List α} {x : α} (hn : (l.map f).Nodup)
    (hx : ∀ y ∈ l, f y ≠ f x) : ((l ++ [x]).map f).Nodup :=
  ((List.perm_append_singleton x l).map f).nodup_iff.2
    (List.nodup_cons.2 ⟨fun hm => let ⟨y, hy, e⟩ := List.mem_map.1 hm; hx y hy e, hn⟩)

/-- the device buffers and the memory objects over them (`nf`: the next buffer id) -/
structure MemsOK (nf : Nat) (bufs : List DBuf) (mems : List DMem) : Prop where
  bufIds : (bufs.map (·.id)).Nodup
  bufBelow : ∀ b ∈ bufs, b.id < nf
  /-- a buffer lives as long as a memory object refers to it -/
  bufLive : ∀ b ∈ bufs, ∃ m ∈ mems, m.buf = b.id
  memSlots : (mems.map (·.slot)).Nodup
  memBelow : ∀ m ∈ mems, m.slot < NSLOT

section
variable {nf nf' : Nat} {bufs bufs' : List DBuf} {mems mems' : List DMem}

theorem MemsOK.mono (h : MemsOK nf bufs mems) (hle : nf ≤ nf') : MemsOK nf' bufs mems :=
  { h with bufBelow := fun b hb => Nat.lt_of_lt_of_le (h.bufBelow b hb) hle }

theorem MemsOK.add_mem (h : MemsOK nf bufs mems) {x : DMem} (hk : x.slot < NSLOT)
    (hfree : ∀ m ∈ mems, m.slot ≠ x.slot) : MemsOK nf bufs (mems ++ [x]) :=
  { h with
    bufLive := fun b hb => let ⟨m, hm, e⟩ := h.bufLive b hb; ⟨m, List.mem_append_left _ hm, e⟩
    memSlots := nodup_map_concat h.memSlots hfree
    memBelow := List.forall_mem_append.2 ⟨h.memBelow, List.forall_mem_singleton.2 hk⟩ }

theorem MemsOK.add_buf (h : MemsOK nf bufs mems) {x : DBuf} (hid : x.id = nf) (hm : ∃ m ∈ mems, m.buf = x.id) :
    MemsOK (nf + 1) (bufs ++ [x]) mems :=
  { h with
    bufIds := nodup_map_concat h.bufIds fun y hy => hid ▸ Nat.ne_of_lt (h.bufBelow y hy)
    bufBelow := List.forall_mem_append.2 ⟨fun b hb => Nat.lt_succ_of_lt (h.bufBelow b hb),
      List.forall_mem_singleton.2 (hid ▸ Nat.lt_succ_self _)⟩
    bufLive := List.forall_mem_append.2 ⟨h.bufLive, List.forall_mem_singleton.2 hm⟩ }

theorem MemsOK.setBufData (h : MemsOK nf bufs mems) (i : Nat) (f : List Byte → List Byte) :
    MemsOK nf (setBufData i f bufs) mems :=
  { h with
    bufIds := setBufData_ids i f bufs ▸ h.bufIds
    bufBelow := fun _ hb => let ⟨b0, hb0, e⟩ := mem_setBufData_id hb; e ▸ h.bufBelow b0 hb0
    bufLive := fun _ hb => let ⟨b0, hb0, e⟩ := mem_setBufData_id hb; e ▸ h.bufLive b0 hb0 }

theorem MemsOK.sublist (h : MemsOK nf bufs mems) (hb : bufs'.Sublist bufs) (hm : mems'.Sublist mems)
    (hlive : ∀ b ∈ bufs', ∃ m ∈ mems', m.buf = b.id) : MemsOK nf bufs' mems' :=
  { bufIds := h.bufIds.sublist (hb.map _)
    bufBelow := fun b hb' => h.bufBelow b (hb.subset hb')
    bufLive := hlive
    memSlots := h.memSlots.sublist (hm.map _)
    memBelow := fun x hx => h.memBelow x (hm.subset hx) }

end

structure SInv (s : State) : Prop where
  pools : ∀ i p, s.pool i = some p → PoolOK s.nextFam p
  dev : DevOK s.dev
  /-- C05: the counter is the sum of the live counted buffers and the live pool buffers -/
  account : s.dev.alloc = countedBytes s.bufs + poolSize (s.pool 0) + poolSize (s.pool 1)
  mems : MemsOK s.nextFam s.bufs s.mems
  /-- a slot names one memory object: no device memory shares its slot with a pool reservation -/
  cross : ∀ m ∈ s.mems, ∀ i p, s.pool i = some p → findSlot m.slot p.resv = none

theorem sinv_init : SInv {} := by
  refine ⟨?_, devOK_init, rfl, ⟨by simp, by simp, by simp, by simp, by simp⟩, by simp⟩
  intro i p hp
  rcases i with _ | _ | i <;> cases hp

theorem pool_lt {s : State} {i : Nat} {p : Pool} (h : s.pool i = some p) : i < 2 := by
  rcases i with _ | _ | i
  · omega
  · omega
  · cases h

theorem pool_ge_two (s : State) (j : Nat) : s.pool (j + 2) = none := rfl

theorem pool_congr {s s' : State} (h0 : s'.pool0 = s.pool0) (h1 : s'.pool1 = s.pool1) (j : Nat) :
    s'.pool j = s.pool j := by
  rcases j with _ | _ | j
  · exact h0
  · exact h1
  · rfl

theorem pool_setPool {s : State} {i : Nat} (hi : i < 2) (q : Option Pool) (j : Nat) :
    (s.setPool i q).pool j = if j = i then q else s.pool j := by
  rcases i with _ | _ | i
  · rcases j with _ | _ | j <;> rfl
  · rcases j with _ | _ | j <;> rfl
  · omega

theorem setPool_mems (s : State) (i : Nat) (q : Option Pool) : (s.setPool i q).mems = s.mems := by
  rcases i with _ | _ | i <;> rfl

theorem setPool_dev (s : State) (i : Nat) (q : Option Pool) : (s.setPool i q).dev = s.dev := by
  rcases i with _ | _ | i <;> rfl

theorem setPool_nextFam (s : State) (i : Nat) (q : Option Pool) : (s.setPool i q).nextFam = s.nextFam := by
  rcases i with _ | _ | i <;> rfl

/-- `s'` is `s` with pool `i` replaced by `q` (the counters and `nextFam` are free) -/
structure PoolUpd (s s' : State) (i : Nat) (q : Option Pool) : Prop where
  pool : ∀ j, s'.pool j = if j = i then q else s.pool j
  bufs : s'.bufs = s.bufs
  mems : s'.mems = s.mems

theorem poolUpd_setPool {s : State} {i : Nat} (hi : i < 2) (q : Option Pool) (d : Dev) (nf : Nat) :
    PoolUpd s { s.setPool i q with dev := d, nextFam := nf } i q := by
  refine ⟨pool_setPool hi q, ?_, ?_⟩ <;> rcases i with _ | _ | i <;> rfl

theorem PoolUpd.lift {R : Pool → Pool → Prop} (hrefl : ∀ p, R p p) {s s' : State} {i : Nat} {p p' : Pool}
    (u : PoolUpd s s' i (some p')) (hp : s.pool i = some p) (hR : R p p') :
    ∀ j q q', s.pool j = some q → s'.pool j = some q' → R q q' := by
  intro j q q' h1 h2
  rw [u.pool j] at h2
  split at h2
  · rename_i hji
    rw [hji, hp] at h1
    cases h1; cases h2; exact hR
  · rw [h1] at h2; cases h2; exact hrefl q

theorem lift_of_pools_eq {R : Pool → Pool → Prop} (hrefl : ∀ p, R p p) {s s' : State}
    (h : ∀ j, s'.pool j = s.pool j) : ∀ j q q', s.pool j = some q → s'.pool j = some q' → R q q' := by
  intro j q q' h1 h2
  rw [h j, h1] at h2; cases h2; exact hrefl q

theorem sinv_poolUpd {s s' : State} (h : SInv s) {i : Nat} (hi : i < 2) {q : Option Pool} (u : PoolUpd s s' i q)
    (hnf : s.nextFam ≤ s'.nextFam)
    (hok : ∀ p, q = some p → PoolOK s'.nextFam p ∧ ∀ m ∈ s.mems, findSlot m.slot p.resv = none)
    (hd : DevOK s'.dev) (hbal : s'.dev.alloc + poolSize (s.pool i) = s.dev.alloc + poolSize q) : SInv s' := by
  refine {
    pools := ?pools
    dev := hd
    account := ?account
    mems := by rw [u.bufs, u.mems]; exact h.mems.mono hnf
    cross := ?cross }
  case pools =>
    intro j p hp
    rw [u.pool j] at hp
    split at hp
    · exact (hok p hp).1
    · exact (h.pools j p hp).mono hnf
  case account =>
    have hacc := h.account
    rw [u.bufs, u.pool 0, u.pool 1]
    rcases (show i = 0 ∨ i = 1 by omega) with rfl | rfl
    · rw [if_pos rfl, if_neg (by decide)]; omega
    · rw [if_neg (by decide), if_pos rfl]; omega
  case cross =>
    intro m hm j p hp
    rw [u.mems] at hm
    rw [u.pool j] at hp
    split at hp
    · exact (hok p hp).2 m hm
    · exact h.cross m hm j p hp

theorem SInv.pool_le {s : State} (h : SInv s) {i : Nat} {p : Pool} (hp : s.pool i = some p) :
    p.size ≤ s.dev.alloc := by
  rw [h.account]
  rcases (show i = 0 ∨ i = 1 by have := pool_lt hp; omega) with rfl | rfl
  · rw [hp]; exact Nat.le_trans (Nat.le_add_left _ _) (Nat.le_add_right _ _)
  · rw [hp]; exact Nat.le_add_left _ _

theorem poolHas_false {q : Option Pool} {k : Nat} (h : poolHas q k = false) {p : Pool} (hq : q = some p) :
    findSlot k p.resv = none := by
  subst hq
  simpa [poolHas] using h

theorem slotLive_false {s : State} {k : Nat} (h : s.slotLive k = false) :
    (∀ i p, s.pool i = some p → findSlot k p.resv = none) ∧ findMem k s.mems = none := by
  unfold State.slotLive at h
  simp only [Bool.or_eq_false_iff] at h
  refine ⟨?_, ?_⟩
  · intro i p hp
    rcases i with _ | _ | i
    · exact poolHas_false h.1.1 hp
    · exact poolHas_false h.1.2 hp
    · cases hp
  · simpa using h.2

theorem countedBytes_perm {l l' : List DBuf} (h : l.Perm l') : countedBytes l = countedBytes l' := by
  induction h with
  | nil => rfl
  | cons x _ ih => simp [countedBytes, ih]
  | swap x y l => simp [countedBytes]; omega
  | trans _ _ ih1 ih2 => exact ih1.trans ih2

theorem countedBytes_append (l l' : List DBuf) : countedBytes (l ++ l') = countedBytes l + countedBytes l' := by
  induction l with
  | nil => simp [countedBytes]
  | cons x xs ih => simp [countedBytes, ih]; omega

theorem countedBytes_setBufData (i : Nat) (f : List Byte → List Byte) (l : List DBuf) :
    countedBytes (setBufData i f l) = countedBytes l := by
  induction l with
  | nil => rfl
  | cons x xs ih => unfold setBufData; split <;> simp [countedBytes, ih]

theorem sinv_of_pools_eq {s s' : State} (h : SInv s) (hnf : s.nextFam ≤ s'.nextFam)
    (hpools : ∀ j, s'.pool j = s.pool j) (hdev : DevOK s'.dev)
    (hacc : s'.dev.alloc + countedBytes s.bufs = s.dev.alloc + countedBytes s'.bufs)
    (hmems : MemsOK s'.nextFam s'.bufs s'.mems)
    (hcross : ∀ m ∈ s'.mems, ∀ i p, s.pool i = some p → findSlot m.slot p.resv = none) : SInv s' := by
  refine {
    pools := fun j q hq => (h.pools j q (hpools j ▸ hq)).mono hnf
    dev := hdev
    account := ?_
    mems := hmems
    cross := fun m hm i p hp => hcross m hm i p (hpools i ▸ hp) }
  have := h.account
  rw [hpools 0, hpools 1]
  omega

end Occa.Pool
