/-
Helper lemmas for C12: raw string literals (printed with a delimiter: fix FL6) are read back.
-/
import OccaProofs.Lemmas.LexKinds

namespace Occa.Lex
open Occa.Gen

theorem hasInfix_iff {p : Str} : ∀ {s : Str}, hasInfix p s = true ↔ p <:+: s
  | [] => by simp [hasInfix]
  | c :: t => by
    simp only [hasInfix, Bool.or_eq_true, List.isPrefixOf_iff_prefix, hasInfix_iff (s := t), List.infix_cons_iff]

/-- FL6: the delimiter chosen by the printer is a run of `_` and `)delimiter"` does not occur in the value -/
theorem pickDelim_spec (v : Str) : ∀ (fuel : Nat) (d : Str), (∀ x ∈ d, x = '_') → v.length + 1 ≤ fuel + d.length →
    (∀ x ∈ pickDelim v fuel d, x = '_') ∧ hasInfix (')' :: (pickDelim v fuel d ++ ['"'])) v = false := by
  intro fuel
  induction fuel with
  | zero =>
    intro d hd' hl
    refine ⟨hd', ?_⟩
    cases h : hasInfix (')' :: (pickDelim v 0 d ++ ['"'])) v with
    | false => rfl
    | true =>
      have := (hasInfix_iff.mp h).length_le
      simp [pickDelim] at this
      omega
  | succ f ih =>
    intro d hd' hl
    unfold pickDelim
    split
    · exact ih ('_' :: d) (fun x hx => by
        rcases List.mem_cons.mp hx with rfl | hx
        · rfl
        · exact hd' x hx) (by simp; omega)
    · rename_i hn
      exact ⟨hd', by simpa using hn⟩

theorem rawPattern_no_straddle {d v : Str} (hd' : ∀ x ∈ d, x = '_') (hinf : hasInfix (')' :: (d ++ ['"'])) v = false)
    (a b : Str) (hab : v = a ++ b) (hb : b ≠ []) (rest : Str) :
    (')' :: (d ++ ['"'])).isPrefixOf (b ++ ((')' :: (d ++ ['"'])) ++ rest)) = false := by
  refine Bool.eq_false_iff.mpr fun h => ?_
  have h := List.isPrefixOf_iff_prefix.mp h
  rcases Nat.lt_or_ge b.length (')' :: (d ++ ['"'])).length with hlt | hge
  · -- the pattern runs over the end of `b`: what is left of it begins the pattern that follows, so with ')',
    -- and sits inside the pattern after its first character
    obtain ⟨u, hu⟩ := List.prefix_of_prefix_length_le (List.prefix_append b _) h (Nat.le_of_lt hlt)
    rw [← hu, List.prefix_append_right_inj] at h
    cases b with
    | nil => exact hb rfl
    | cons b0 b' =>
      cases u with
      | nil => rw [← hu] at hlt; simp at hlt
      | cons u0 u' =>
        obtain rfl : u0 = ')' := (List.cons_prefix_cons.mp h).1.trans (List.cons.inj hu).1
        have hmem : ')' ∈ d ++ ['"'] := (List.cons.inj hu).2 ▸ by simp
        rcases List.mem_append.mp hmem with hm | hm
        · exact absurd (hd' _ hm) (by decide)
        · simp at hm
  · -- the pattern lies inside `b`, so inside the value
    obtain ⟨t, ht⟩ := List.prefix_of_prefix_length_le h (List.prefix_append b _) hge
    exact Bool.eq_false_iff.mp hinf (hasInfix_iff.mpr ⟨a, t, by rw [hab, ← ht, List.append_assoc]⟩)

theorem rawLoop_find {pat : Str} (hpat : NoNul pat) (rest : Str) :
    ∀ v : Str, (∀ a b, v = a ++ b → b ≠ [] → pat.isPrefixOf (b ++ (pat ++ rest)) = false) →
      rawLoop pat (v ++ (pat ++ rest)) = .ok (pat ++ rest) := by
  intro v
  induction v with
  | nil =>
    intro _
    cases h : pat ++ rest with
    | nil => rfl
    | cons x t => rw [List.nil_append, rawLoop_cons hpat, ← h, if_pos (isPrefixOf_append _ _)]
  | cons x v ih =>
    intro h
    have h0 : ¬ pat.isPrefixOf (x :: (v ++ (pat ++ rest))) = true := Bool.eq_false_iff.mp (h [] (x :: v) rfl (by simp))
    rw [List.cons_append, rawLoop_cons hpat, if_neg h0]
    exact ih (fun a b hab hb => h (x :: a) b (by rw [hab]; rfl) hb)

/-- the text of a raw string between its opening quote and the udf: `delimiter(value)delimiter"` -/
def rawBody (d v : Str) : Str := d ++ '(' :: (v ++ (')' :: (d ++ ['"'])))

theorem getRawString_body {d v : Str} (hd' : ∀ x ∈ d, x = '_') (hinf : hasInfix (')' :: (d ++ ['"'])) v = false)
    (rest : Str) :
    getRawString ('"' :: (rawBody d v ++ rest)) = .ok (v, rest) := by
  have hdn : NoNul d := fun c hc => by rw [hd' c hc]; decide
  have hpat : NoNul (')' :: (d ++ ['"'])) := noNul_cons (by decide) (noNul_append hdn (by decide))
  have e2 : skipTo ['(', '\n'] (d ++ '(' :: (v ++ ((')' :: (d ++ ['"'])) ++ rest))) = .ok ('(' :: (v ++ ((')' :: (d ++ ['"'])) ++ rest))) :=
    skipUntil_reads _ (.of_all fun x hx => by rw [hd' x hx]; exact ⟨by decide, by decide⟩) (by decide) (by decide)
  have e4 := rawLoop_find hpat rest v (fun a b hab hb => rawPattern_no_straddle hd' hinf a b hab hb rest)
  have e5 : adv ((')' :: (d ++ ['"'])) ++ rest) (')' :: (d ++ ['"'])).length = .ok rest := adv_append _ _
  have hshape : rawBody d v ++ rest = d ++ '(' :: (v ++ ((')' :: (d ++ ['"'])) ++ rest)) := by simp [rawBody]
  have hh : hd ((')' :: (d ++ ['"'])) ++ rest) ≠ NUL := by simp; decide
  rw [hshape]
  simp only [getRawString, hd_cons, adv_cons_one, ok_bind, e2, consumed_append, e4, hh, e5]
  simp

theorem rawPrefix_lit : ∀ enc ∈ [encR, encR ||| encu8, encR ||| encu, encR ||| encU, encR ||| encL],
    LitPrefix .str '"' enc (encPrefix enc ++ ['R']) ∧ enc &&& encR ≠ 0 := by decide +kernel

/-- a raw string literal: encoding R, u8R, uR, UR or LR, any NUL-free value, an optional udf -/
structure RawWF (enc : Nat) (v udf : Str) : Prop where
  enc : enc ∈ [encR, encR ||| encu8, encR ||| encu, encR ||| encU, encR ||| encL]
  val : NoNul v
  udf : UdfWF udf

theorem printTok_raw {enc : Nat} (h : enc &&& encR ≠ 0) (v udf : Str) :
    printTok (.str enc v udf) = (encPrefix enc ++ ['R']) ++ '"' :: (rawBody (pickDelim v (v.length + 1) []) v ++ udf) := by
  simp [printTok, h, rawBody]

theorem getToken_rawstr {enc : Nat} {v udf : Str} (h : RawWF enc v udf) {c : Char} (hc : IsWs c) (r : Str) :
    getToken (printTok (.str enc v udf) ++ c :: r) = .ok (some (.str enc v udf), 0, c :: r) := by
  obtain ⟨hl, hr1⟩ := rawPrefix_lit enc h.enc
  obtain ⟨hdel, hinf⟩ := pickDelim_spec v (v.length + 1) [] (by simp) (by simp)
  rw [printTok_raw hr1]
  generalize pickDelim v (v.length + 1) [] = d at hdel hinf
  have hshape : (encPrefix enc ++ ['R']) ++ '"' :: (rawBody d v ++ udf) ++ c :: r
      = (encPrefix enc ++ ['R']) ++ '"' :: (rawBody d v ++ (udf ++ c :: r)) := by simp
  rw [hshape, getToken_lit .str hl]
  simp only [dispatch, getStringToken, strip_lit .str hl, ok_bind, hd_cons, getString, getRawString_body hdel hinf]
  simp [hr1, getUdf_eq h.udf hc]

end Occa.Lex
