/-
C29, scalar values.  Each generated table of `OccaGen/CTypes` is read once, as an equation in the tag
`(ctorSpec c).1` of `newOccaType<c>` with `bool` as the one exception (`*_spec`); a round trip through the union,
`occa::primitive`, json or a kernel argument is then a chain of these.  Two's complement is core's `Int.bmod`
(`intVal_bmod`).  What the scalar statements of Props/C29.lean need beyond the model is defined here:
`CTy.lo` / `CTy.hi`, `fromLE`.
-/
import OccaModel.CApi

namespace Occa.CApi
open Occa.Gen.CTypes

theorem readField_writeField (c : CTy) (g v : Nat) : readField c (writeField c g v) = v % 2 ^ c.bits := by
  unfold readField writeField
  rw [Nat.add_comm, Nat.add_mul_mod_self_right, Nat.mod_mod]

/-! The generated tables, each lemma one sweep over the 11 C types (`ctorTarget_eq`: over the 19 constructors): `ctorSpec`
    column by column, every other table as an equation in its tag column.  The proofs below read a table through these
    (the `bool` case of `inferJsonPlain_ofScalar` also evaluates `ctorSpec .bool`). -/

theorem field_bits (c : CTy) : ((ctorSpec c).2.2.1).bits = c.bits := by cases c <;> rfl

theorem spec_bytes (c : CTy) : (ctorSpec c).2.1 = c.bytes := by cases c <;> rfl

theorem spec_needsFree (c : CTy) : (ctorSpec c).2.2.2 = false := by cases c <;> rfl

theorem typedPrim_spec (c : CTy) : typedPrim (ctorSpec c).1 = some c := by cases c <;> rfl

theorem primField_spec (c : CTy) : primField (ctorSpec c).1 = if c = .bool then none else some c := by
  cases c <;> rfl

theorem kernelArgCase_spec (c : CTy) : kernelArgCase (ctorSpec c).1 = if c = .bool then .error else .field c := by
  cases c <;> rfl

theorem inferJsonCase_spec (c : CTy) : inferJsonCase (ctorSpec c).1 = if c = .bool then .bool else .prim := by
  cases c <;> rfl

theorem untypedPrim_eq (c : CTy) : untypedPrim c = some c := by cases c <;> rfl

theorem ctorTarget_eq (k : Ctor) : ctorTarget k = some k.cParam := by cases k <;> rfl

theorem spec_tag_injective (c c' : CTy) (h : (ctorSpec c).1 = (ctorSpec c').1) : c = c' :=
  Option.some.inj (by rw [← typedPrim_spec c, h, typedPrim_spec])

theorem bits_eq (c : CTy) : c.bits = 8 * c.bytes := by cases c <;> rfl

theorem argBits_of_ne_bool (c : CTy) (hc : c ≠ .bool) (v : Nat) : argBits c v = v % 2 ^ c.bits := by
  cases c
  · exact absurd rfl hc
  all_goals rfl

theorem argBits_bool {P : Nat → Prop} (h0 : P 0) (h1 : P 1) (v : Nat) : P (argBits .bool v) := by
  show P (if v % 2 ^ 8 = 0 then 0 else 1)
  split
  · exact h0
  · exact h1

theorem argBits_lt (c : CTy) (v : Nat) : argBits c v < 2 ^ c.bits := by
  by_cases hc : c = .bool
  · subst hc; exact argBits_bool (P := (· < 2 ^ 8)) (by decide) (by decide) v
  · rw [argBits_of_ne_bool c hc]; exact Nat.mod_lt _ (Nat.two_pow_pos _)

theorem argBits_idem (c : CTy) (v : Nat) : argBits c (argBits c v) = argBits c v := by
  by_cases hc : c = .bool
  · subst hc; exact argBits_bool (P := fun b => argBits .bool b = b) rfl rfl v
  · rw [argBits_of_ne_bool c hc, Nat.mod_eq_of_lt (argBits_lt c v)]

theorem ofScalar_argBits (c : CTy) (g x : Nat) : ofScalar c g (argBits c x) = ofScalar c g x := by
  rw [ofScalar, argBits_idem]; rfl

theorem fromOcca_ofScalar (c : CTy) (g v : Nat) : fromOcca c (ofScalar c g v) = argBits c v := by
  show readField (ctorSpec c).2.2.1 (writeField (ctorSpec c).2.2.1 g (argBits c v)) = argBits c v
  rw [readField_writeField, field_bits]
  exact Nat.mod_eq_of_lt (argBits_lt c v)

/-- also for `bool`: the member written has the width of the type -/
theorem readField_ofScalar (c : CTy) (g v : Nat) : readField c (ofScalar c g v).raw = argBits c v := by
  have := fromOcca_ofScalar c g v
  rwa [fromOcca, readField, field_bits] at this

theorem two_pow_bits (c : CTy) : 2 ^ c.bits = 2 * 2 ^ (c.bits - 1) := by
  have : c.bits = c.bits - 1 + 1 := by cases c <;> rfl
  rw [this, Nat.pow_succ, Nat.mul_comm]; rfl

theorem intVal_eq (c : CTy) (hc : c ≠ .bool) (raw : Nat) :
    intVal c raw = if c.isSigned && 2 ^ (c.bits - 1) ≤ raw % 2 ^ c.bits
      then ((raw % 2 ^ c.bits : Nat) : Int) - (2 ^ c.bits : Nat) else (raw % 2 ^ c.bits : Nat) := by
  cases c
  · exact absurd rfl hc
  all_goals rfl

/-- two's complement is core's balanced remainder: below, for a signed type `intVal_emod` is `Int.bmod_emod` and
    `intVal_wrap` is `Int.bmod_eq_of_le` (for an unsigned one `Int.emod_emod` and `Int.emod_eq_of_lt`) -/
theorem intVal_bmod (c : CTy) (hc : c ≠ .bool) (raw : Nat) :
    intVal c raw = if c.isSigned then (raw : Int).bmod (2 ^ c.bits) else (raw : Int) % (2 ^ c.bits : Nat) := by
  rw [intVal_eq c hc, Int.bmod, two_pow_bits, Int.natCast_emod]
  generalize 2 ^ (c.bits - 1) = m
  cases c.isSigned
  · rfl
  · -- both conditions become `m ≤ raw % (2 * m)` and its negation
    have key : (((2 * m : Nat) : Int) + 1) / 2 = m := by omega
    simp only [Bool.true_and, decide_eq_true_eq, if_true, key, ← Int.natCast_emod, Int.ofNat_lt, ← Nat.not_le]
    split <;> simp_all

theorem intVal_emod (c : CTy) (hc : c ≠ .bool) (raw : Nat) :
    intVal c raw % ((2 ^ c.bits : Nat) : Int) = (raw % 2 ^ c.bits : Nat) := by
  rw [intVal_bmod c hc, Int.natCast_emod]
  split
  · exact Int.bmod_emod
  · exact Int.emod_emod ..

/-- smallest / largest value of an integer C type -/
def CTy.lo (c : CTy) : Int := if c.isSigned then -(2 ^ (c.bits - 1) : Nat) else 0
def CTy.hi (c : CTy) : Int := if c.isSigned then (2 ^ (c.bits - 1) : Nat) - 1 else (2 ^ c.bits : Nat) - 1

theorem intVal_wrap (dst : CTy) (n : Int) (hdb : dst ≠ .bool)
    (hfit : dst.lo ≤ n ∧ n ≤ dst.hi) : intVal dst ((n % ((2 ^ dst.bits : Nat) : Int)).toNat) = n := by
  obtain ⟨hlo, hhi⟩ := hfit
  unfold CTy.lo at hlo
  unfold CTy.hi at hhi
  rw [intVal_bmod dst hdb, Int.toNat_of_nonneg (Int.emod_nonneg n (Int.natCast_ne_zero.2 (Nat.ne_of_gt (Nat.two_pow_pos _))))]
  rw [two_pow_bits] at hhi ⊢
  generalize 2 ^ (dst.bits - 1) = m at *
  generalize dst.isSigned = sg at *
  cases sg
  · simp only [Bool.false_eq_true, if_false] at hlo hhi ⊢
    rw [Int.emod_emod, Int.emod_eq_of_lt hlo (by omega)]
  · simp only [if_true] at hlo hhi ⊢
    rw [Int.emod_bmod, Int.bmod_eq_of_le (by omega) (by omega)]

theorem convTo_int_eq (dst src : CTy) (raw : Nat) (hs : src.isFloat = false) (hd : dst.isFloat = false) (hdb : dst ≠ .bool) :
    convTo dst src raw = (intVal src raw % ((2 ^ dst.bits : Nat) : Int)).toNat := by
  unfold convTo
  simp only [hs, Bool.false_eq_true, if_false]
  cases dst <;> cases hd
  · exact absurd rfl hdb
  all_goals rfl

/-- `bool`: 0/1; float/double: the C++ cast to the same type is the identity and so is the model, by definition -/
theorem convTo_self (c : CTy) (x : Nat) : convTo c c x = argBits c x := by
  by_cases hc : c = .bool
  · subst hc
    show (if (if x % 2 ^ 8 = 0 then (0 : Int) else 1) = 0 then 0 else 1) = if x % 2 ^ 8 = 0 then 0 else 1
    split <;> rfl
  · rw [argBits_of_ne_bool c hc]
    cases hf : c.isFloat
    · rw [convTo_int_eq c c x hf hf hc, intVal_emod c hc, Int.toNat_natCast]
    · cases c <;> cases hf <;> rfl

theorem ofScalar_tag (c : CTy) (g v : Nat) : (ofScalar c g v).tag = (ctorSpec c).1 := rfl

theorem toPrim_ofScalar (c : CTy) (hc : c ≠ .bool) (g v : Nat) :
    toPrim (ofScalar c g v) = some ⟨some c, argBits c v⟩ := by
  rw [toPrim, ofScalar_tag, primField_spec, if_neg hc]
  exact congrArg (fun r => some (Prim.mk (some c) r)) (readField_ofScalar c g v)

/-- the conversion `primitive::to<c>` of a value of type `c` is not seen in the result -/
theorem ofScalar_convTo_self (c : CTy) (g x : Nat) : ofScalar c g (convTo c c x) = ofScalar c g x := by
  rw [convTo_self, ofScalar_argBits]

theorem ofPrimTyped_self (c : CTy) (g x : Nat) : ofPrimTyped ⟨some c, x⟩ (ctorSpec c).1 g = .ok (ofScalar c g x) := by
  rw [ofPrimTyped, typedPrim_spec]
  exact congrArg Res.ok (ofScalar_convTo_self c g x)

theorem ofPrim_self (c : CTy) (g x : Nat) : ofPrim ⟨some c, x⟩ g = .ok (ofScalar c g x) := by
  simp only [ofPrim, untypedPrim_eq]
  exact congrArg Res.ok (ofScalar_convTo_self c g x)

theorem kernelArgOf_ofScalar (c : CTy) (hc : c ≠ .bool) (g v : Nat) :
    kernelArgOf (ofScalar c g v) = .bytes (leBytes c.bytes (argBits c v)) := by
  rw [kernelArgOf, ofScalar_tag, kernelArgCase_spec, if_neg hc]
  exact congrArg (fun r => KArg.bytes (leBytes c.bytes r)) (readField_ofScalar c g v)

/-- `bool` goes through `occa::json((bool) value.value.int8_)` -/
theorem inferJsonPlain_ofScalar (c : CTy) (g v : Nat) :
    inferJsonPlain (ofScalar c g v) = .ok (.num ⟨some c, argBits c v⟩) := by
  rw [inferJsonPlain, ofScalar_tag, inferJsonCase_spec]
  by_cases hc : c = .bool
  · subst hc
    -- `value.int8_` is the member `newOccaType<bool>` wrote, the one `fromOcca .bool` reads
    show Res.ok (J.num ⟨_, if fromOcca .bool (ofScalar .bool g v) = 0 then 0 else 1⟩) = _
    rw [fromOcca_ofScalar]
    exact congrArg (fun b => Res.ok (J.num ⟨_, b⟩)) (argBits_bool (P := fun b => (if b = 0 then 0 else 1) = b) rfl rfl v)
  · rw [if_neg hc]
    simp only [toPrim_ofScalar c hc]

def fromLE : List Nat → Nat
  | [] => 0
  | b :: r => b + 256 * fromLE r

theorem leBytes_length (n v : Nat) : (leBytes n v).length = n := by
  induction n generalizing v with
  | zero => rfl
  | succ n ih => simp [leBytes, ih]

theorem leBytes_lt (n v : Nat) : ∀ b ∈ leBytes n v, b < 256 := by
  induction n generalizing v with
  | zero => intro b hb; simp [leBytes] at hb
  | succ n ih =>
    intro b hb
    simp only [leBytes, List.mem_cons] at hb
    rcases hb with rfl | hb
    · exact Nat.mod_lt _ (by decide)
    · exact ih _ b hb

theorem fromLE_leBytes (n v : Nat) : fromLE (leBytes n v) = v % 256 ^ n := by
  induction n generalizing v with
  | zero => simp [leBytes, fromLE, Nat.mod_one]
  | succ n ih =>
    simp only [leBytes, fromLE, ih]
    rw [Nat.pow_succ, Nat.mul_comm (256 ^ n) 256, Nat.mod_mul]

private theorem c7 : ((128 : Nat) : Int) = 128 := rfl
private theorem c8 : ((256 : Nat) : Int) = 256 := rfl
private theorem c15 : ((32768 : Nat) : Int) = 32768 := rfl
private theorem c16 : ((65536 : Nat) : Int) = 65536 := rfl
private theorem c31 : ((2147483648 : Nat) : Int) = 2147483648 := rfl
private theorem c32 : ((4294967296 : Nat) : Int) = 4294967296 := rfl
private theorem c63 : ((9223372036854775808 : Nat) : Int) = 9223372036854775808 := rfl
private theorem c64 : ((18446744073709551616 : Nat) : Int) = 18446744073709551616 := rfl

end Occa.CApi
