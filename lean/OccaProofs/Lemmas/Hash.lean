/-
Lemmas for C27 (and, through Lemmas/HashExact.lean, for the exact forms of C06/C07): `fromHex` reads back what
`toHex` wrote, `chunk4` the bytes of the lanes, hence `fromString_fullString`; hashes of bytes and xors of
hashes are well-formed; xor with a well-formed hash undoes itself.  On a byte the generated
`toHexChar`/`fromHexChar` and the bit operations are finite tables.
-/
import OccaModel.Hash
import OccaProofs.Lemmas.CInt

namespace Occa.Hash
open Occa Occa.Gen

/-- the values of a C++ `int` -/
abbrev IsLane (x : Int) : Prop := -2147483648 ≤ x ∧ x < 2147483648

theorem wrapS32_eq (x : Int) : wrapS 32 x = (x + 2147483648) % 4294967296 - 2147483648 := rfl

theorem wrapS32_lane (x : Int) : IsLane (wrapS 32 x) := by
  have := wrapS_range (n := 32) (by decide) x
  omega

theorem wrapS32_id {x : Int} (h : IsLane x) : wrapS 32 x = x := wrapS_of_lt 31 x (by omega)

theorem laneBytes_lt (x : Int) : ∀ b ∈ laneBytes x, b < 256 := by
  simp only [laneBytes, List.mem_cons, List.not_mem_nil, or_false]
  omega

private theorem digits256 (u : Nat) (h : u < 4294967296) :
    u % 256 + 256 * (u / 256 % 256) + 65536 * (u / 65536 % 256) + 16777216 * (u / 16777216 % 256) = u := by
  -- nested quotients by 256 are much cheaper for `omega` than three unrelated divisors
  rw [show u / 65536 = u / 256 / 256 by rw [Nat.div_div_eq_div_mul],
    show u / 16777216 = u / 256 / 256 / 256 by rw [Nat.div_div_eq_div_mul, Nat.div_div_eq_div_mul]]
  omega

theorem bytesLane_laneBytes (x : Int) (hx : IsLane x) : bytesLane (laneBytes x) = x := by
  have hu : (wrapU 32 x).toNat < 4294967296 := by
    have := wrapU_lt 32 x
    omega
  have hx' : ((wrapU 32 x).toNat : Int) = x % 4294967296 := Int.toNat_of_nonneg (wrapU_lt 32 x).1
  unfold bytesLane laneBytes
  simp only [List.getD_cons_zero, List.getD_cons_succ]
  rw [digits256 _ hu, Int.ofNat_eq_natCast, wrapS32_eq, hx']
  omega

/-- the sixteen hex digits are ASCII characters that `fromHexChar` reads back -/
theorem hexDigit : ∀ n : Nat, n < 16 →
    (0 ≤ toHexChar n ∧ toHexChar n < 128) ∧ fromHexChar (toHexChar n) = n := by
  decide +kernel

/-- `(ci >> 4) & 0xF` and `ci & 0xF` of a byte read through a signed char are its two nibbles -/
theorem nibbles : ∀ b : Nat, b < 256 →
    wrapS 8 (cand (wrapS 8 b / 16) 15) = ↑(b / 16) ∧ wrapS 8 (cand (wrapS 8 b) 15) = ↑(b % 16) := by
  decide +kernel

/-- `(c1 << 4) | c2` stored into a char joins two nibbles -/
theorem joinNibbles : ∀ h : Nat, h < 16 → ∀ l : Nat, l < 16 →
    (wrapU 8 (cor (↑h * 16) ↑l)).toNat = h * 16 + l := by
  decide +kernel

theorem hexOfByte_eq {b : Nat} (hb : b < 256) :
    hexOfByte b = [toHexChar ↑(b / 16), toHexChar ↑(b % 16)] := by
  show [toHexChar (wrapS 8 (cand (wrapS 8 b / 16) 15)), toHexChar (wrapS 8 (cand (wrapS 8 b) 15))] = _
  rw [(nibbles b hb).1, (nibbles b hb).2]

theorem byteOfHex_hexOfByte {b : Nat} (hb : b < 256) :
    byteOfHex (toHexChar ↑(b / 16)) (toHexChar ↑(b % 16)) = b := by
  unfold byteOfHex
  rw [(hexDigit _ (by omega)).2, (hexDigit _ (by omega)).2, joinNibbles _ (by omega) _ (by omega)]
  omega

private theorem length_flatMap_const {α β : Type} {f : α → List β} {k : Nat} (hf : ∀ a, (f a).length = k) :
    ∀ l : List α, (l.flatMap f).length = k * l.length
  | [] => rfl
  | a :: t => by
    rw [List.flatMap_cons, List.length_append, hf, length_flatMap_const hf t, List.length_cons, Nat.mul_succ,
      Nat.add_comm]

theorem toHexBytes_length (bs : List Nat) : (toHexBytes bs).length = 2 * bs.length :=
  length_flatMap_const (f := hexOfByte) (fun _ => rfl) bs

theorem flat_length (h : Lanes) : (h.flatMap laneBytes).length = 4 * h.length :=
  length_flatMap_const (f := laneBytes) (fun _ => rfl) h

theorem go_toHex (bs : List Nat) (hb : ∀ b ∈ bs, b < 256) :
    fromHexBytes.go bs.length (toHexBytes bs) = bs := by
  induction bs with
  | nil => rfl
  | cons b t ih =>
    have hb' : b < 256 := hb b List.mem_cons_self
    rw [toHexBytes, List.flatMap_cons, hexOfByte_eq hb']
    simp only [List.length_cons, List.cons_append, List.nil_append, fromHexBytes.go]
    rw [byteOfHex_hexOfByte hb', ← toHexBytes, ih fun x hx => hb x (List.mem_cons_of_mem _ hx)]

theorem chunk4_flat (h : Lanes) : chunk4 (h.flatMap laneBytes) = h.map laneBytes := by
  induction h with
  | nil => rfl
  | cons x t ih =>
    rw [List.flatMap_cons, List.map_cons, ← ih]
    rfl

theorem fromString_fullString (h : Lanes) (wf : WellFormed h) : fromString (fullString h) = h := by
  obtain ⟨hl, hr⟩ := wf
  have hfl : (h.flatMap laneBytes).length = 32 := by rw [flat_length, hl]
  have hgo := go_toHex (h.flatMap laneBytes) (fun b hb =>
    let ⟨x, _, hx⟩ := List.mem_flatMap.mp hb
    laneBytes_lt x b hx)
  rw [hfl] at hgo
  -- 64 characters: `fromHex` reads all of them and pads nothing
  have hlen : ¬ (toHexBytes (h.flatMap laneBytes)).length > 2 * 32 ∧
      (toHexBytes (h.flatMap laneBytes)).length / 2 = 32 := by
    rw [toHexBytes_length, hfl]; omega
  unfold fromString fullString fromHexBytes
  simp only [hlen.1, if_false, hlen.2, hgo, hfl, Nat.sub_self, List.replicate_zero, List.append_nil,
    chunk4_flat, List.map_map]
  exact (List.map_congr_left fun x hx => bytesLane_laneBytes x (hr x hx)).trans (List.map_id h)

private theorem zipWith_wf (f : Int → Int → Int) (hf : ∀ a b, IsLane (f a b))
    (a b : List Int) (hl : a.length = 8) (hb : b.length = 8) : WellFormed (List.zipWith f a b) := by
  refine ⟨by simp [hl, hb], fun x hx => ?_⟩
  obtain ⟨i, hi, rfl⟩ := List.mem_iff_getElem.mp hx
  rw [List.getElem_zipWith]
  exact hf _ _

theorem hashBytes_wf (bs : List Nat) : WellFormed (hashBytes bs) :=
  List.foldlRecOn bs _ (by unfold WellFormed; decide) fun h wf _ _ =>
    zipWith_wf _ (fun _ _ => wrapS32_lane _) h hashPrimes wf.1 rfl

theorem xor_wf (a b : Lanes) (ha : a.length = 8) (hb : b.length = 8) : WellFormed (xor a b) :=
  zipWith_wf _ (fun _ _ => wrapS32_lane _) a b ha hb

theorem xor_involutive (a c : Lanes) (ha : ∀ x ∈ a, IsLane x) (hc : ∀ y ∈ c, IsLane y)
    (hl : a.length = c.length) : xor (xor a c) c = a := by
  refine List.ext_getElem (by simp [xor, hl]) fun i _ h => ?_
  have hx := ha _ (List.getElem_mem h)
  simp only [xor, List.getElem_zipWith]
  rw [wrapS32_id (cxor_int32 hx (hc _ (List.getElem_mem _))), cxor_cancel hx, wrapS32_id hx]

theorem xor_right_inj {a b c : Lanes} (ha : WellFormed a) (hb : WellFormed b) (hc : WellFormed c)
    (h : xor a c = xor b c) : a = b := by
  rw [← xor_involutive a c ha.2 hc.2 (ha.1.trans hc.1.symm), h, xor_involutive b c hb.2 hc.2 (hb.1.trans hc.1.symm)]

theorem fullString_ascii (h : Lanes) : ∀ c ∈ fullString h, 0 ≤ c ∧ c < 128 := by
  intro c hc
  unfold fullString toHexBytes at hc
  obtain ⟨b, hb, hcb⟩ := List.mem_flatMap.mp hc
  obtain ⟨x, _, hx⟩ := List.mem_flatMap.mp hb
  have hb256 := laneBytes_lt x b hx
  rw [hexOfByte_eq hb256] at hcb
  simp only [List.mem_cons, List.not_mem_nil, or_false] at hcb
  rcases hcb with e | e <;> rw [e] <;> exact (hexDigit _ (by omega)).1

end Occa.Hash
