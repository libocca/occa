/-
The JSON dump of OccaModel/CacheKey.lean is injective on well-formed values: no two different
well-formed values have the same dump.  (This is what the hypothesis `enc` injective of C06/C07
stands for when `enc` is instantiated with the model of json::dumpToString.)

Well-formed: no uninitialised json inside a value, literal tokens (numbers, true/false) are
non-empty words over letters, digits, `+ - .` that do not start with `n`, object keys contain no
`"` (json::dumpToString does not escape keys).

The proof reads a dump from the left: the first character tells the kind of value, a token or a
key is a maximal word, an escaped string ends at the first bare quote, and what follows a member
of an array or object is a delimiter.
-/
import OccaModel.CacheKey

namespace Occa.CacheKey

def tokChar (c : Char) : Bool := c.isAlphanum || c == '-' || c == '+' || c == '.'

/-- `r` does not continue a word over `p` -/
def Stops (p : Char → Bool) (r : List Char) : Prop := ∀ c t, r = c :: t → p c = false

theorem stops_cons {p : Char → Bool} {c : Char} (h : p c = false) (r : List Char) : Stops p (c :: r) :=
  fun _ _ e => (List.cons.inj e).1 ▸ h

theorem takeWhile_stops {p : Char → Bool} {l r : List Char} (hl : ∀ c ∈ l, p c = true) (hr : Stops p r) :
    (l ++ r).takeWhile p = l := by
  rw [List.takeWhile_append_of_pos hl]
  cases r with
  | nil => exact List.append_nil l
  | cons c t => rw [List.takeWhile_cons_of_neg (hr c t rfl ▸ Bool.false_ne_true), List.append_nil]

theorem span_unique (p : Char → Bool) (l₁ l₂ r₁ r₂ : List Char) (h1 : ∀ c ∈ l₁, p c = true)
    (h2 : ∀ c ∈ l₂, p c = true) (h3 : Stops p r₁) (h4 : Stops p r₂) (h : l₁ ++ r₁ = l₂ ++ r₂) :
    l₁ = l₂ ∧ r₁ = r₂ := by
  have e : l₁ = l₂ := by rw [← takeWhile_stops h1 h3, h, takeWhile_stops h2 h4]
  exact ⟨e, List.append_cancel_left (e ▸ h)⟩

/-- what may follow a complete value inside a dump: nothing, or `,` `]` `}` — no token character -/
abbrev Delim : List Char → Prop := Stops tokChar

/-- the character that the escape `\x` stands for -/
def unesc (x : Char) : Char :=
  if x = 'b' then '\x08' else if x = 'f' then '\x0c' else if x = 'n' then '\n'
  else if x = 'r' then '\r' else if x = 't' then '\t' else x

theorem escCharL_spec (c : Char) :
    (escCharL c = [c] ∧ c ≠ '"' ∧ c ≠ '\\') ∨ ∃ x, escCharL c = ['\\', x] ∧ c = unesc x := by
  by_cases h : c = '"' ∨ c = '\\' ∨ c = '\x08' ∨ c = '\x0c' ∨ c = '\n' ∨ c = '\r' ∨ c = '\t'
  · rcases h with rfl | rfl | rfl | rfl | rfl | rfl | rfl <;> exact Or.inr ⟨_, rfl, by decide⟩
  · simp only [not_or] at h
    exact Or.inl ⟨by simp only [escCharL, h, if_false], h.1, h.2.1⟩

/-- reads the body of a JSON string up to its closing quote: the characters it stands for, and what
    follows the quote -/
def unq : List Char → List Char × List Char
  | [] => ([], [])
  | [_] => ([], [])
  | c :: x :: r =>
    if c = '"' then ([], x :: r)
    else if c = '\\' then (unesc x :: (unq r).1, (unq r).2)
    else (c :: (unq (x :: r)).1, (unq (x :: r)).2)

theorem unq_escL (s r : List Char) : unq (escL s ++ '"' :: r) = (s, r) := by
  induction s with
  | nil => cases r <;> simp [escL, unq]
  | cons c s ih =>
    rw [escL, List.flatMap_cons, List.append_assoc, ← escL]
    rcases escCharL_spec c with ⟨ec, c1, c2⟩ | ⟨x, ec, hx⟩ <;> rw [ec]
    · cases hs : escL s ++ '"' :: r with
      | nil => simp at hs
      | cons d u => rw [List.singleton_append, unq, if_neg c1, if_neg c2, ← hs, ih]
    · rw [List.cons_append, List.cons_append, List.nil_append, unq, if_neg (by decide), if_pos rfl, ih, hx]

theorem escL_cancel (s t r₁ r₂ : List Char) (h : escL s ++ '"' :: r₁ = escL t ++ '"' :: r₂) :
    s = t ∧ r₁ = r₂ :=
  Prod.mk.inj (by rw [← unq_escL s r₁, h, unq_escL])

def litOk (t : String) : Prop :=
  t.toList ≠ [] ∧ (∀ c ∈ t.toList, tokChar c = true) ∧ ∀ r, t.toList ≠ 'n' :: r

def keyOk (k : String) : Prop := ∀ c ∈ k.toList, (c != '"') = true

instance (k : String) : Decidable (keyOk k) := by unfold keyOk; infer_instance

mutual
def J.WF : J → Prop
  | .none => False
  | .null => True
  | .lit t => litOk t
  | .str _ => True
  | .arr xs => WFs xs
  | .obj kvs => WFo kvs
def WFs : List J → Prop
  | [] => True
  | x :: t => x.WF ∧ WFs t
def WFo : List (String × J) → Prop
  | [] => True
  | (k, v) :: t => keyOk k ∧ v.WF ∧ WFo t
end

theorem wfo_iff : ∀ (l : List (String × J)), WFo l ↔ ∀ kv ∈ l, keyOk kv.1 ∧ kv.2.WF
  | [] => by simp [WFo]
  | (k, v) :: t => by simp [WFo, wfo_iff t, and_assoc]

theorem dumpArrL_nil : dumpArrL [] = [] := by rw [dumpArrL]

theorem dumpArrL_cons (x : J) (t : List J) :
    dumpArrL (x :: t) = dumpL x ++ ((if t.isEmpty then [] else [',', ' ']) ++ dumpArrL t) := by
  rw [dumpArrL]

theorem dumpObjL_nil : dumpObjL [] = [] := by rw [dumpObjL]

theorem dumpObjL_cons (k : String) (v : J) (t : List (String × J)) (h : v.WF) :
    dumpObjL ((k, v) :: t) =
      '"' :: (k.toList ++ ('"' :: ':' :: ' ' ::
        (dumpL v ++ ((if t.isEmpty then [] else [',', ' ']) ++ dumpObjL t)))) := by
  cases v with
  | none => exact h.elim
  | _ => rw [dumpObjL]; nofun

theorem dumpL_str (s : String) : dumpL (.str s) = '"' :: (escL s.toList ++ ['"']) := by rw [dumpL]
theorem dumpL_arr (xs : List J) : dumpL (.arr xs) = '[' :: (dumpArrL xs ++ [']']) := by rw [dumpL]
theorem dumpL_obj (kvs : List (String × J)) : dumpL (.obj kvs) = '{' :: (dumpObjL kvs ++ ['}']) := by rw [dumpL]
theorem dumpL_lit (t : String) : dumpL (.lit t) = t.toList := by rw [dumpL]
theorem dumpL_null : dumpL .null = ['n', 'u', 'l', 'l'] := by rw [dumpL]
theorem dumpL_none : dumpL .none = [] := by rw [dumpL]

def tag : J → Nat
  | .none => 0
  | .null => 1
  | .lit _ => 2
  | .str _ => 3
  | .arr _ => 4
  | .obj _ => 5

/-- the `tag` of the values whose dump can start with `c`; 0: no well-formed value does -/
def kindOf (c : Char) : Nat :=
  if c = 'n' then 1 else if c = '"' then 3 else if c = '[' then 4 else if c = '{' then 5
  else if tokChar c then 2 else 0

theorem dumpL_head (a : J) (h : a.WF) : ∃ c r, dumpL a = c :: r ∧ kindOf c = tag a ∧ kindOf c ≠ 0 := by
  cases a with
  | none => exact h.elim
  | null => exact ⟨'n', _, dumpL_null, by decide⟩
  | str s => exact ⟨'"', _, dumpL_str s, rfl, by decide⟩
  | arr xs => exact ⟨'[', _, dumpL_arr xs, rfl, by decide⟩
  | obj kvs => exact ⟨'{', _, dumpL_obj kvs, rfl, by decide⟩
  | lit t =>
    obtain ⟨h1, h2, h3⟩ := h
    rw [dumpL_lit]
    cases ht : t.toList with
    | nil => exact absurd ht h1
    | cons c r =>
      have htok : tokChar c = true := h2 c (ht ▸ List.mem_cons_self)
      -- a token character other than `n` is none of the four marks
      have hk : kindOf c = 2 := by
        unfold kindOf
        rw [if_neg fun (e : c = 'n') => h3 r (e ▸ ht), if_neg, if_neg, if_neg, if_pos htok] <;>
          exact fun e => absurd (e ▸ htok) (by decide)
      exact ⟨c, r, rfl, hk, hk ▸ by decide⟩

theorem tag_eq_of_dumpL_append_eq {a b : J} (ha : a.WF) (hb : b.WF) {r₁ r₂ : List Char}
    (h : dumpL a ++ r₁ = dumpL b ++ r₂) : tag a = tag b := by
  obtain ⟨c, r, e1, t1, _⟩ := dumpL_head a ha
  obtain ⟨d, r', e2, t2, _⟩ := dumpL_head b hb
  rw [e1, e2] at h
  rw [← t1, ← t2, (List.cons.inj h).1]

theorem dumpL_ne_close (a : J) (h : a.WF) (u r : List Char) : dumpL a ++ u ≠ ']' :: r := by
  obtain ⟨c, r', e, _, hc⟩ := dumpL_head a h
  rw [e]
  exact fun hh => hc ((List.cons.inj hh).1 ▸ by decide)

theorem delim_rest {α : Type} {f : List α → List Char} (hf : f [] = []) {close : Char}
    (hc : tokChar close = false) (t : List α) (r : List Char) :
    Delim ((if t.isEmpty then [] else [',', ' ']) ++ (f t ++ close :: r)) := by
  cases t with
  | nil => rw [hf]; exact stops_cons hc r
  | cons _ _ => exact stops_cons (by decide) _

theorem strip_sep {α : Type} {f : List α → List Char} (hf : f [] = []) {close : Char} (hc : close ≠ ',') :
    ∀ {t u : List α} {r₁ r₂ : List Char},
      (if t.isEmpty then [] else [',', ' ']) ++ (f t ++ close :: r₁) =
        (if u.isEmpty then [] else [',', ' ']) ++ (f u ++ close :: r₂) →
      f t ++ close :: r₁ = f u ++ close :: r₂
  | [], [], _, _, h => h
  | [], _ :: _, _, _, h => by rw [hf] at h; exact absurd (List.cons.inj h).1 hc
  | _ :: _, [], _, _, h => by rw [hf] at h; exact absurd (List.cons.inj h).1.symm hc
  | _ :: _, _ :: _, _, _, h => (List.cons.inj (List.cons.inj h).2).2

def PJ (a : J) : Prop :=
  ∀ (b : J) (r₁ r₂ : List Char), a.WF → b.WF → dumpL a ++ r₁ = dumpL b ++ r₂ →
    Delim r₁ → Delim r₂ → a = b ∧ r₁ = r₂

def PA (xs : List J) : Prop :=
  ∀ (ys : List J) (r₁ r₂ : List Char), WFs xs → WFs ys →
    dumpArrL xs ++ ']' :: r₁ = dumpArrL ys ++ ']' :: r₂ → xs = ys ∧ r₁ = r₂

def PO (kvs : List (String × J)) : Prop :=
  ∀ (lws : List (String × J)) (r₁ r₂ : List Char), WFo kvs → WFo lws →
    dumpObjL kvs ++ '}' :: r₁ = dumpObjL lws ++ '}' :: r₂ → kvs = lws ∧ r₁ = r₂

mutual
/-- a dump followed by a delimiter (or nothing) determines the value and the rest -/
theorem dumpL_cancel : ∀ (a : J), PJ a := fun a b r₁ r₂ ha hb h d1 d2 =>
  -- the first character tells the constructor: only the diagonal is left
  match a, b, tag_eq_of_dumpL_append_eq ha hb h with
  | .null, .null, _ => ⟨rfl, List.append_cancel_left h⟩
  | .lit t, .lit t', _ => by
    rw [dumpL_lit, dumpL_lit] at h
    obtain ⟨e1, e2⟩ := span_unique tokChar _ _ r₁ r₂ ha.2.1 hb.2.1 d1 d2 h
    exact ⟨by rw [String.toList_inj.mp e1], e2⟩
  | .str s, .str s', _ => by
    rw [dumpL_str, dumpL_str] at h
    simp only [List.cons_append, List.append_assoc, List.nil_append] at h
    obtain ⟨e1, e2⟩ := escL_cancel _ _ _ _ (List.cons.inj h).2
    exact ⟨by rw [String.toList_inj.mp e1], e2⟩
  | .arr xs, .arr ys, _ => by
    rw [dumpL_arr, dumpL_arr] at h
    simp only [List.cons_append, List.append_assoc, List.nil_append] at h
    obtain ⟨e1, e2⟩ := dumpArrL_cancel xs ys r₁ r₂ ha hb (List.cons.inj h).2
    exact ⟨by rw [e1], e2⟩
  | .obj kvs, .obj lws, _ => by
    rw [dumpL_obj, dumpL_obj] at h
    simp only [List.cons_append, List.append_assoc, List.nil_append] at h
    obtain ⟨e1, e2⟩ := dumpObjL_cancel kvs lws r₁ r₂ ha hb (List.cons.inj h).2
    exact ⟨by rw [e1], e2⟩

theorem dumpArrL_cancel : ∀ (xs : List J), PA xs
  | [] => by
    intro ys r₁ r₂ _ hys h
    rw [dumpArrL_nil] at h
    cases ys with
    | nil => exact ⟨rfl, (List.cons.inj h).2⟩
    | cons y u =>
      rw [dumpArrL_cons, List.append_assoc] at h
      exact absurd h.symm (dumpL_ne_close y hys.1 _ _)
  | x :: t => by
    intro ys r₁ r₂ hxs hys h
    rw [dumpArrL_cons, List.append_assoc, List.append_assoc] at h
    cases ys with
    | nil =>
      rw [dumpArrL_nil] at h
      exact absurd h (dumpL_ne_close x hxs.1 _ _)
    | cons y u =>
      rw [dumpArrL_cons, List.append_assoc, List.append_assoc] at h
      obtain ⟨e1, e2⟩ := dumpL_cancel x y _ _ hxs.1 hys.1 h
        (delim_rest dumpArrL_nil (by decide) t r₁) (delim_rest dumpArrL_nil (by decide) u r₂)
      obtain ⟨e3, e4⟩ := dumpArrL_cancel t u r₁ r₂ hxs.2 hys.2 (strip_sep dumpArrL_nil (by decide) e2)
      exact ⟨by rw [e1, e3], e4⟩

theorem dumpObjL_cancel : ∀ (kvs : List (String × J)), PO kvs
  | [] => by
    intro lws r₁ r₂ _ hl h
    rw [dumpObjL_nil] at h
    cases lws with
    | nil => exact ⟨rfl, (List.cons.inj h).2⟩
    | cons kv u =>
      rw [dumpObjL_cons kv.1 kv.2 u hl.2.1] at h
      exact absurd (List.cons.inj h).1 (by decide)
  | (k, v) :: t => by
    intro lws r₁ r₂ hk hl h
    rw [dumpObjL_cons k v t hk.2.1] at h
    cases lws with
    | nil =>
      rw [dumpObjL_nil] at h
      exact absurd (List.cons.inj h).1 (by decide)
    | cons kv u =>
      obtain ⟨k', v'⟩ := kv
      rw [dumpObjL_cons k' v' u hl.2.1] at h
      simp only [List.cons_append, List.append_assoc] at h
      -- the key is the word up to the next quote
      obtain ⟨ek, e1⟩ := span_unique (· != '"') k.toList k'.toList _ _ hk.1 hl.1
        (stops_cons (by decide) _) (stops_cons (by decide) _) (List.cons.inj h).2
      obtain ⟨ev, e2⟩ := dumpL_cancel v v' _ _ hk.2.1 hl.2.1
        (List.cons.inj (List.cons.inj (List.cons.inj e1).2).2).2
        (delim_rest dumpObjL_nil (by decide) t r₁) (delim_rest dumpObjL_nil (by decide) u r₂)
      obtain ⟨e3, e4⟩ := dumpObjL_cancel t u r₁ r₂ hk.2.2 hl.2.2 (strip_sep dumpObjL_nil (by decide) e2)
      exact ⟨by rw [String.toList_inj.mp ek, ev, e3], e4⟩
end

/-- top-level values: well-formed, or the uninitialised json (whose dump is empty) -/
def J.WFtop (a : J) : Prop := a = J.none ∨ a.WF

theorem dump_injective (a b : J) (ha : a.WFtop) (hb : b.WFtop) (h : dump a = dump b) : a = b := by
  have h : dumpL a = dumpL b := String.ofList_injective h
  rcases ha with ha | ha <;> rcases hb with hb | hb
  · rw [ha, hb]
  · obtain ⟨c, r, e, _⟩ := dumpL_head b hb
    rw [ha, e, dumpL_none] at h
    cases h
  · obtain ⟨c, r, e, _⟩ := dumpL_head a ha
    rw [hb, e, dumpL_none] at h
    cases h
  · exact (dumpL_cancel a b [] [] ha hb (by rw [List.append_nil, List.append_nil, h]) nofun nofun).1

end Occa.CacheKey
