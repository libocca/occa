/-
Helper lemmas for C12: every token function returns without a trap and leaves a suffix; getToken
consumes at least one character; getHeader.
-/
import OccaProofs.Lemmas.LexLoad

namespace Occa.Lex
open Occa.Gen

theorem skipFrom_ok (ds : List Char) (r : Str) : Ok (skipFrom ds r) (Suffix · r) := skipUntil_ok _ r
theorem skipTo_ok (ds : List Char) (r : Str) : Ok (skipTo ds r) (Suffix · r) := skipUntil_ok _ r
theorem skipToChar_ok (d : Char) (r : Str) : ∃ r', skipToChar d r = .ok r' ∧ Suffix r' r := skipUntil_ok _ r
theorem skipWhitespace_ok (r : Str) : Ok (skipWhitespace r) (Suffix · r) := skipUntil_ok _ r

theorem scan_ok {q : Char} (hq : q ≠ '\\') (hn : q ≠ NUL) (hnl : q ≠ '\n') (r : Str) (hr : NoNul r) :
    Ok (skipTo [q, '\n'] r) fun r2 => Suffix r2 r ∧ (r2 ≠ [] → ValUnits q (unescape q (consumed r r2))) := by
  obtain ⟨r2, e, s⟩ := skipTo_ok [q, '\n'] r
  refine ⟨r2, e, s, fun hne => ?_⟩
  obtain ⟨w, rfl, hw⟩ := skipUntil_crossed e hr hne
  rw [consumed_append]
  exact unescape_valUnits hq hn hnl (fun c hc => hr c (List.mem_append_left _ hc))
    (hw.mono (fun c hc => by simpa using hc) (fun _ h => h))

theorem getIdentifier_ok (r : Str) : Ok (getIdentifier r) fun (_, r1) =>
    Suffix r1 r ∧ (identifierStart.contains (hd r) = true → r1.length < r.length) := by
  unfold getIdentifier
  refine .ite (fun h => .pure ⟨.refl r, fun h' => by simp_all⟩) fun h => ?_
  obtain ⟨c, t, rfl⟩ := nonempty_of_idStart (by simpa using h)
  rw [adv_cons_one, ok_bind]
  exact .bind (skipFrom_ok identifier t) fun r1 s => .pure ⟨s.cons c, fun _ => Nat.lt_succ_of_le s.length_le⟩

theorem getUdf_ok (r : Str) : Ok (getUdf r) fun (_, r1) => Suffix r1 r := by
  exact .ite (fun _ => (getIdentifier_ok r).mono fun _ h => h.1) fun _ => .pure (.refl r)

theorem blockLoop_ok (r : Str) : Ok (blockLoop r) (Suffix · r) := by
  induction r with
  | nil => exact .pure (.refl _)
  | cons c t ih =>
    have ih' := ih.mono fun _ s => s.cons c
    rw [blockLoop, rd_cons_one]
    refine .ite (fun _ => .ite (fun h => ?_) fun _ => ih') fun _ => ih'
    obtain ⟨t', rfl⟩ := ne_nil_of_hd h (by decide)
    exact .pure (((Suffix.refl t').cons _).cons _)

/-- the comparison loop of getRawString reads up to the terminator and no further -/
theorem matchAt_eq (r : Str) : ∀ (m : Str) (k : Nat), NoNul m → k ≤ r.length →
    matchAt r m k = .ok (m.isPrefixOf (r.drop k)) := by
  intro m
  induction m with
  | nil => intro k _ _; simp [matchAt]
  | cons x m ih =>
    intro k hm hk
    have hx : x ≠ NUL := hm x (by simp)
    rw [matchAt]
    simp only [rd, hk, if_true]
    rcases Nat.lt_or_ge k r.length with hlt | hge
    · have hdrop : r.drop k = r[k] :: r.drop (k + 1) := List.drop_eq_getElem_cons hlt
      have hget : r.getD k NUL = r[k] := by simp [List.getD_eq_getElem?_getD, hlt]
      rw [hdrop, hget, ih (k + 1) (fun c hc => hm c (by simp [hc])) hlt]
      by_cases hxe : r[k] = x
      · rw [List.isPrefixOf_cons_cons, hxe]; simp
      · have : (x == r[k]) = false := by simpa using fun e => hxe e.symm
        rw [List.isPrefixOf_cons_cons, this, Bool.false_and]; simp [hxe]
    · have hk' : k = r.length := by omega
      subst hk'
      have hget : r.getD r.length NUL = NUL := by simp [List.getD_eq_getElem?_getD]
      rw [hget]
      have : (NUL != x) = true := by simpa using fun e => hx e.symm
      simp [this]

theorem rawLoop_cons {m : Str} (hm : NoNul m) (c : Char) (t : Str) :
    rawLoop m (c :: t) = if m.isPrefixOf (c :: t) then .ok (c :: t) else rawLoop m t := by
  rw [rawLoop, matchAt_eq _ m 0 hm (Nat.zero_le _), List.drop_zero]
  cases m.isPrefixOf (c :: t) <;> rfl

theorem rawLoop_ok (m : Str) (hm : NoNul m) (r : Str) :
    Ok (rawLoop m r) fun r4 => Suffix r4 r ∧ (r4 = [] ∨ m.length ≤ r4.length) := by
  induction r with
  | nil => exact .pure ⟨.refl _, .inl rfl⟩
  | cons c t ih =>
    rw [rawLoop_cons hm]
    exact .ite (fun h => .pure ⟨.refl _, .inr (List.isPrefixOf_iff_prefix.mp h).length_le⟩)
      fun _ => ih.mono fun _ ⟨s, h4⟩ => ⟨s.cons c, h4⟩

theorem getRawString_ok (r : Str) (hn : NoNul r) : Ok (getRawString r) fun (_, r') => Suffix r' r := by
  unfold getRawString
  refine .ite (fun _ => .pure (.refl r)) fun h0 => ?_
  obtain ⟨t, rfl⟩ := ne_nil_of_hd (Decidable.of_not_not h0) (by decide)
  rw [adv_cons_one, ok_bind]
  refine .bind (skipTo_ok _ t) fun r2 s2 => .ite (fun _ => .pure (.refl _)) fun h2 => ?_
  obtain ⟨t2, rfl⟩ := ne_nil_of_hd (Decidable.of_not_not h2) (by decide)
  have hm : NoNul (')' :: (consumed t ('(' :: t2) ++ ['"'])) :=
    noNul_cons (by decide) (noNul_append (hn.tail.consumed _) (by decide))
  simp only [adv_cons_one, ok_bind]
  refine .bind (rawLoop_ok _ hm t2) fun r4 ⟨s4, h4⟩ => .ite (fun _ => .pure (.refl _)) fun h4n => ?_
  rw [adv_ok_of_le (h4.resolve_left fun e => h4n (e ▸ rfl)), ok_bind]
  exact .pure (((((Suffix.drop r4 _).trans s4).cons '(').trans s2).cons '"')

theorem getString_ok (enc : Nat) (r : Str) (hn : NoNul r) : Ok (getString enc r) fun (v, ok, _, r') =>
    Suffix r' r ∧ (enc &&& encR = 0 → (hd r = '"' → r'.length < r.length) ∧ (ok = true → ValUnits '"' v)) := by
  unfold getString
  refine .ite (fun hr => .bind (getRawString_ok r hn) fun (_, r') s => .pure ⟨s, fun h => absurd h hr⟩) fun _ => ?_
  refine .ite (fun h0 => .pure ⟨.refl r, fun _ => ⟨fun h => absurd h h0, nofun⟩⟩) fun h0 => ?_
  obtain ⟨t, rfl⟩ := ne_nil_of_hd (Decidable.of_not_not h0) (by decide)
  rw [adv_cons_one, ok_bind]
  refine .bind (scan_ok (by decide) (by decide) (by decide) t hn.tail) fun r2 ⟨s2, v2⟩ => ?_
  have hl : r2.length < ('"' :: t).length := Nat.lt_succ_of_le s2.length_le
  refine .ite (fun _ => .pure ⟨s2.cons _, fun _ => ⟨fun _ => hl, nofun⟩⟩) fun h2 => ?_
  obtain ⟨t2, rfl⟩ := ne_nil_of_hd (Decidable.of_not_not h2) (by decide)
  exact .pure ⟨(((Suffix.refl t2).cons _).trans s2).cons _, fun _ => ⟨fun _ => Nat.lt_of_succ_lt hl, fun _ => v2 nofun⟩⟩

/-- what `peek` has established where a string or character token begins: the quote, or (with an encoding) a word -/
abbrev LitInv (q : Char) (enc : Nat) (r : Str) : Prop :=
  (enc = 0 ∧ hd r = q) ∨ (enc ≠ 0 ∧ identifierStart.contains (hd r) = true)

/-- what `peek` guarantees about the position for each token type -/
def PeekInv : Kind → Str → Prop
  | .ident, r => identifierStart.contains (hd r) = true
  | .prim, r => ∃ x, loadScan false r = some x
  | .op, r => longestOp r ≠ none
  | .str enc, r => LitInv '"' enc r
  | .chr enc, r => LitInv '\'' enc r
  | .newline, _ => True
  | .none, _ => True

/-- the outcome of a token function that is neither a trap nor a stall -/
def Fine (r : Str) (x : M Step) : Prop := Ok x fun (_, _, r') => Suffix r' r ∧ r'.length < r.length

theorem getIdentifierToken_fine (r : Str) (h : identifierStart.contains (hd r) = true) : Fine r (getIdentifierToken r) := by
  unfold getIdentifierToken
  rw [if_neg (by simpa using h)]
  exact .bind (getIdentifier_ok r) fun (_, r1) ⟨s, hl⟩ => .pure ⟨s, hl h⟩

theorem getPrimitiveToken_fine (r : Str) (h : ∃ x, loadScan false r = some x) : Fine r (getPrimitiveToken r) := by
  obtain ⟨x, hx⟩ := h
  have hx' : loadScan true r = some x := loadF_true_of_false _ r x hx
  obtain ⟨⟨w, rfl, hw⟩, hl⟩ := loadScan_suffix hx'
  -- `load` moved over no backslash, so `countSkippedLines` reads nothing
  have hb : (consumed (w ++ x) x).contains '\\' = false := by
    rw [consumed_append]
    exact Bool.eq_false_iff.mpr fun hc => (hw '\\' (by simpa using hc)).1 rfl
  simp only [getPrimitiveToken, hx', countSkippedLines, hb, Bool.false_eq_true, if_false, ok_bind]
  exact .pure ⟨⟨w, rfl⟩, hl⟩

theorem getOperatorToken_fine (r : Str) (h : longestOp r ≠ none) : Fine r (getOperatorToken r) := by
  unfold getOperatorToken
  cases hl : longestOp r with
  | none => exact absurd hl h
  | some p =>
    obtain ⟨id, len⟩ := p
    obtain ⟨sp, h1, h2, rfl, h4, -⟩ := longestOp_some hl
    obtain ⟨t, rfl⟩ := List.isPrefixOf_iff_prefix.mp h2
    refine .ite (fun hid => ?_) fun _ => .ite (fun hid => ?_) fun _ => ?_
    · subst hid
      obtain rfl : ['/', '/'] = sp := Option.some.inj (registered_lineComment.symm.trans h1)
      refine .bind (skipUntil_progress (stop := (· == '\n')) (c := '/') ('/' :: t) (by decide) (by decide)) fun r1 s => ?_
      exact .pure ⟨s.cons '/', Nat.lt_succ_of_le s.length_le⟩
    · subst hid
      obtain rfl : ['/', '*'] = sp := Option.some.inj (registered_blockComment.symm.trans h1)
      rw [List.cons_append, List.cons_append, adv_cons_two, ok_bind]
      refine .bind (blockLoop_ok _) fun r1 s => .pure ⟨(s.cons '*').cons '/', ?_⟩
      exact Nat.lt_succ_of_le (Nat.le_succ_of_le s.length_le)
    · rw [adv_append, ok_bind]
      exact .pure ⟨⟨sp, rfl⟩, by simp; omega⟩

theorem encR_zero : (0 : Nat) &&& encR = 0 := by decide

/-- the first step of `getStringToken` and `getCharToken`; `K` is the rest of the function, which the `do` block
    carries in both branches.  `peek`'s precondition is only needed for progress, so it is passed on as a premise. -/
theorem strip_ok {α : Type} {enc : Nat} {r : Str} {q : Char} {K : Str × Str → M α} {Q : α → Prop}
    (hK : ∀ w r1, Suffix r1 r → (LitInv q enc r → r1.length < r.length ∨ enc = 0 ∧ hd r1 = q) → Ok (K (w, r1)) Q) :
    Ok (if enc ≠ 0 then getIdentifier r >>= K else pure ([], r) >>= K) Q := by
  by_cases he : enc ≠ 0
  · rw [if_pos he]
    exact .bind (getIdentifier_ok r) fun (w, r1) ⟨s, hl⟩ => hK w r1 s fun inv => .inl (hl (inv.resolve_left fun h => he h.1).2)
  · rw [if_neg he]
    exact hK [] r (.refl r) fun inv => .inr ⟨Decidable.of_not_not he, (inv.resolve_right fun h => he h.1).2⟩

theorem getStringToken_fine (enc : Nat) (r : Str) (hn : NoNul r) (inv : LitInv '"' enc r) : Fine r (getStringToken enc r) := by
  unfold getStringToken
  refine strip_ok (q := '"') fun w r1 s1 h1 => ?_
  have h1 := h1 inv
  refine .ite (fun hq => .pure ⟨s1, h1.resolve_right fun h => hq h.2⟩) fun _ => ?_
  refine .bind (getString_ok enc r1 (hn.suffix s1)) fun (v, ok, e, r2) ⟨s2, l2⟩ => ?_
  have hl : r2.length < r.length := by
    rcases h1 with h1 | ⟨rfl, hq⟩
    · exact Nat.lt_of_le_of_lt s2.length_le h1
    · exact Nat.lt_of_lt_of_le ((l2 encR_zero).1 hq) s1.length_le
  refine .ite (fun _ => .pure ⟨s2.trans s1, hl⟩) fun _ => ?_
  exact .bind (getUdf_ok r2) fun (_, r3) s3 => .pure ⟨(s3.trans s2).trans s1, Nat.lt_of_le_of_lt s3.length_le hl⟩

theorem getCharToken_ok (enc : Nat) (r : Str) (hn : NoNul r) : Ok (getCharToken enc r) fun (t, _, r') =>
    Suffix r' r ∧ (LitInv '\'' enc r → r'.length < r.length) ∧ ∀ enc' v udf, t = some (.chr enc' v udf) → ValUnits '\'' v := by
  unfold getCharToken
  refine strip_ok (q := '\'') fun w r1 s1 h1 => ?_
  refine .ite (fun hq => .pure ⟨s1, fun i => (h1 i).resolve_right fun h => hq h.2, nofun⟩) fun hq => ?_
  obtain ⟨t, rfl⟩ := ne_nil_of_hd (Decidable.of_not_not hq) (by decide)
  have hlt : t.length < r.length := Nat.lt_of_lt_of_le (Nat.lt_succ_self _) s1.length_le
  rw [adv_cons_one, ok_bind]
  refine .bind (scan_ok (by decide) (by decide) (by decide) t (hn.suffix s1).tail) fun r3 ⟨s3, v3⟩ => ?_
  refine .ite (fun _ => .pure ⟨((Suffix.refl t).cons _).trans s1, fun _ => hlt, nofun⟩) fun h3 => ?_
  obtain ⟨t3, rfl⟩ := ne_nil_of_hd (Decidable.of_not_not h3) (by decide)
  rw [adv_cons_one, ok_bind]
  refine .bind (getUdf_ok t3) fun (_, r5) s5 => .pure ⟨(((s5.cons _).trans s3).cons _).trans s1, fun _ => ?_, ?_⟩
  · exact Nat.lt_of_le_of_lt ((s5.cons _).trans s3).length_le hlt
  · rintro _ _ _ ⟨⟩; exact v3 nofun

theorem getCharToken_fine (enc : Nat) (r : Str) (hn : NoNul r) (inv : LitInv '\'' enc r) : Fine r (getCharToken enc r) :=
  (getCharToken_ok enc r hn).mono fun _ h => ⟨h.1, h.2.1 inv⟩

theorem dispatch_fine (k : Kind) (r : Str) (hn : NoNul r) (hr : r ≠ []) (inv : PeekInv k r) : Fine r (dispatch k r) := by
  obtain ⟨c, t, rfl⟩ := List.exists_cons_of_ne_nil hr
  cases k with
  | ident => exact getIdentifierToken_fine _ inv
  | prim => exact getPrimitiveToken_fine _ inv
  | op => exact getOperatorToken_fine _ inv
  | str enc => exact getStringToken_fine enc _ hn inv
  | chr enc => exact getCharToken_fine enc _ hn inv
  | newline | none => exact .pure ⟨(Suffix.refl t).cons c, Nat.lt_succ_self _⟩

theorem peekForIdentifier_ok (r : Str) (h : identifierStart.contains (hd r) = true) :
    Ok (peekForIdentifier r) (PeekInv · r) := by
  obtain ⟨c, t, rfl⟩ := nonempty_of_idStart h
  simp only [peekForIdentifier, adv_cons_one, ok_bind]
  refine .bind (skipFrom_ok identifier t) fun r1 s1 => .ite (fun hreg => ?_) fun _ =>
    .ite (fun hs => .pure (.inr ⟨hs.2, h⟩)) fun _ => .ite (fun hc => .pure (.inr ⟨hc.2, h⟩)) fun _ => .pure h
  -- the identifier is a registered spelling and a prefix of the input
  obtain ⟨w, hw⟩ := s1.cons c
  refine .pure (longestOp_ne_none (by simpa using hreg) ?_)
  rw [hw, consumed_append]
  exact isPrefixOf_append _ _

theorem classifyChar_cases (c : Char) :
    classifyChar c = .ident ∧ identifierStart.contains c = true ∨ classifyChar c = .op ∨ classifyChar c = .newline ∨
    classifyChar c = .str 0 ∧ c = '"' ∨ classifyChar c = .chr 0 ∧ c = '\'' ∨ classifyChar c = .none := by
  unfold classifyChar
  by_cases h1 : identifierStart.contains c = true
  · rw [if_pos h1]; exact .inl ⟨rfl, h1⟩
  rw [if_neg h1]
  by_cases h2 : operatorCharcodes.contains c = true
  · rw [if_pos h2]; exact .inr (.inl rfl)
  rw [if_neg h2]
  by_cases h3 : c = '\n'
  · rw [if_pos h3]; exact .inr (.inr (.inl rfl))
  rw [if_neg h3]
  by_cases h4 : c = '"'
  · rw [if_pos h4]; exact .inr (.inr (.inr (.inl ⟨rfl, h4⟩)))
  rw [if_neg h4]
  by_cases h5 : c = '\''
  · rw [if_pos h5]; exact .inr (.inr (.inr (.inr (.inl ⟨rfl, h5⟩))))
  rw [if_neg h5]; exact .inr (.inr (.inr (.inr (.inr rfl))))

theorem shallowPeek_eq {r r1 : Str} (h : skipWhitespace r = .ok r1) : shallowPeek r =
    .ok (if hd r1 = NUL then .none else if isPrimitiveAt r1 then .prim else classifyChar (hd r1), r1) := by
  rw [shallowPeek, h, ok_bind]
  split
  · rfl
  split <;> rfl

/-- `hi` holds where `peek` is called: `getToken` has skipped already -/
theorem peek_ok (r : Str) (hi : skipWhitespace r = .ok r) : Ok (peek r) fun (k, _, r') => r' = r ∧ PeekInv k r := by
  rw [peek, shallowPeek_eq hi, ok_bind]
  by_cases h0 : hd r = NUL
  · rw [if_pos h0]
    exact .pure ⟨rfl, trivial⟩
  rw [if_neg h0]
  by_cases hp : isPrimitiveAt r = true
  · rw [if_pos hp]
    exact .pure ⟨rfl, Option.ne_none_iff_exists'.mp fun h => by simp [isPrimitiveAt_of_none h] at hp⟩
  rw [if_neg hp]
  rcases classifyChar_cases (hd r) with ⟨hk, hid⟩ | hk | hk | ⟨hk, hq⟩ | ⟨hk, hq⟩ | hk <;> rw [hk]
  · exact .bind (peekForIdentifier_ok r hid) fun k inv => .pure ⟨rfl, inv⟩
  · dsimp only
    cases hl : longestOp r with
    | none => exact .pure ⟨rfl, trivial⟩
    | some p => exact .pure ⟨rfl, by simp [PeekInv, hl]⟩
  · exact .pure ⟨rfl, trivial⟩
  · exact .pure ⟨rfl, .inl ⟨rfl, hq⟩⟩
  · exact .pure ⟨rfl, .inl ⟨rfl, hq⟩⟩
  · exact .pure ⟨rfl, trivial⟩

theorem getToken_progress (r : Str) (hn : NoNul r) (hr : r ≠ []) : Fine r (getToken r) := by
  obtain ⟨r1, e1, s1⟩ := skipWhitespace_ok r
  rw [getToken, e1, ok_bind]
  refine .ite (fun h1 => ?_) fun h1 => ?_
  · rw [List.isEmpty_iff.mp h1]
    exact .pure ⟨.nil r, List.length_pos_iff.mpr hr⟩
  refine .bind (peek_ok r1 (skipUntil_idem e1)) fun (k, err, r2) ⟨e2, inv⟩ => ?_
  subst e2
  refine .bind (dispatch_fine k r2 (hn.suffix s1) (by simpa using h1) inv) fun (t, e, r') ⟨sd, ld⟩ => ?_
  exact .pure ⟨sd.trans s1, Nat.lt_of_lt_of_le ld s1.length_le⟩

/-- `getHeader` (the `#include` path; repaired together with FL1) stays inside the buffer -/
theorem getHeader_ok (r : Str) (hn : NoNul r) : Ok (getHeader r) fun (_, _, r') => Suffix r' r := by
  obtain ⟨r1, e1, s1⟩ := skipWhitespace_ok r
  rw [getHeader, shallowPeek_eq e1, ok_bind]
  generalize hk : (if hd r1 = NUL then Kind.none else if isPrimitiveAt r1 then .prim else classifyChar (hd r1)) = k
  cases k with
  | str enc => exact .bind (getString_ok 0 r1 (hn.suffix s1)) fun (_, _, _, r2) ⟨s2, _⟩ => .pure (s2.trans s1)
  | op =>
    -- the position is not the end: there `shallowPeek` answers `none`
    have h0 : r1 ≠ [] := fun h0 => by simp [h0] at hk
    obtain ⟨c, t, rfl⟩ := List.exists_cons_of_ne_nil h0
    simp only [Bool.not_false, Bool.not_true, Bool.and_false, Bool.false_eq_true, if_false, adv_cons_one, ok_bind]
    refine .bind (skipTo_ok _ t) fun r3 s3 => .ite (fun _ => .pure ((s3.cons c).trans s1)) fun h3 => ?_
    obtain ⟨t3, rfl⟩ := ne_nil_of_hd (Decidable.of_not_not h3) (by decide)
    exact .pure (((((Suffix.refl t3).cons _).trans s3).cons c).trans s1)
  | none | ident | prim | newline | chr enc => exact .pure s1

end Occa.Lex
