/-
`device::free()`: `freeResources(); delete modeDevice;` (`deleteDev`); `delete` and `removeXRef` for
every handle class.
-/
import OccaProofs.Lemmas.GcDelObj

namespace Occa.Gc

/-- `delete modeDevice` after `freeResources()`: `~modeDevice_t` NULLs the wrappers, then the member
    `currentStream` is destroyed -/
def devTail (s : St) (d : Nat) : St :=
  ((dropRefWith (deleteChild .str) (nullWrappers ((s.died d).ring d).length (s.died d) d) (.cur d)).setPtr
    (.cur d) none).setVLive (.cur d) false

theorem deleteDev_unfold {s : St} {d : Nat} (ha : s.alive d = true) :
    deleteDev s d =
      let s1 := freeRing .ker (s.chGet .ker d).length s d
      let s2 := freeRing .buf (s1.chGet .buf d).length s1 d
      let s3 := freeRing .str (s2.chGet .str d).length s2 d
      devTail s3 d := by
  unfold deleteDev devTail
  simp only [St.touch_alive ha]

/-- `~modeDevice_t` once the device's rings are empty.  `s` is the state `s0` with the non-device objects `K`
    destroyed (by `freeResources()`), so that the frame facts come out relative to `s0`.  These are a `DelOut` and no
    `Killed`: the member `currentStream` may refer to a stream of another device, which survives with a shorter ring -/
theorem devTail_inv {ex : Var → Prop} {s0 s : St} {K : List Nat} {d : Nat} (hi : InvX ex s)
    (ha : s.alive d = true) (hk : s.kind d = .dev) (hempty : ∀ k, s.chGet k d = [])
    (hexc : ∀ d', ¬ ex (Var.cur d')) (hK : Killed s0 K s) (hKd : ∀ x ∈ K, s0.kind x ≠ .dev) :
    InvX ex (devTail s d) ∧ DelOut s0 (devTail s d) d := by
  unfold devTail
  rw [nullWrappers_died_eq ha (hi.ring_nodup d)]
  have hkd : s.kind d ≠ .buf ∧ s.kind d ≠ .pool := by rw [hk]; exact ⟨by decide, by decide⟩
  have hkil : Killed s [d] (killForm s d) := killForm_killed
  have hal : Alone s d := ⟨hi.kids_nil hkd, hempty, by rw [hk]; decide, by rw [hk]; decide⟩
  have hcl : Closed s [d] := hal.closed hi.toInv00 ha (by rw [hk]; decide)
  have hpur : Purged (killForm s d) [d] := by
    refine .single (fun b hx => ?_) fun k' d' hx => ?_
    · exact kind_clash hk (hi.kids_kind hx).1
    · rw [killForm_chGet] at hx
      exact (hi.ch_kind hx).2.1 hk
  have hi5 : InvX ex (killForm s d) := hi.kill hkil hcl hpur
  obtain ⟨hi6, hdo⟩ := hi5.drop_ref (v := Var.cur d) (del := deleteChild .str) (hexc d) (by
    intro o hp hi1
    have hpo := hi5.ptr_ok (Var.cur d) o hp (hexc d)
    obtain ⟨h1, h2⟩ := InvX.del_child (k := .str) hi1 hpo.1 hpo.2.1 (Or.inr rfl)
    exact ⟨h1, DelOut.of_killed h2 (List.mem_singleton_self o) fun x hx => Or.inl (List.mem_singleton.mp hx)⟩)
  -- everything destroyed so far, relative to `s0`
  have hk0 : s0.kind d = .dev := by rw [← hK.kind]; exact hk
  have hk5 : Killed s0 (K ++ [d]) (killForm s d) := hK.trans hkil
  have d5 : DelOut s0 (killForm s d) d := DelOut.of_killed hk5 (by simp) fun x hx => by
    rcases List.mem_append.mp hx with h | h
    · exact Or.inr ⟨by rw [hk0]; exact hKd x h, hKd x h⟩
    · exact Or.inl (List.mem_singleton.mp h)
  generalize killForm s d = s5 at *
  generalize hs6 : (dropRefWith (deleteChild Kind.str) s5 (Var.cur d)).setPtr (Var.cur d) none = s6 at *
  refine ⟨hi6.set_vlive hdo.ptr false (by intro h; cases h), ?_⟩
  have dead6 : s6.alive d = false := by
    cases h : s6.alive d
    · rfl
    · have := hdo.alive_sub d h
      rw [d5.dead] at this; cases this
  -- the member `currentStream` points to a stream, so its destruction spares every device
  have keep : ∀ t, s0.alive t = true → s0.kind t = .dev → t ≠ d → s6.alive t = true := by
    intro t hta htk htd
    have htk5 : s5.kind t = .dev := by rw [d5.kind]; exact htk
    exact hdo.devs t (d5.keep t hta (Or.inr htk) htd) htk5 fun hp =>
      kind_clash (b := .str) htk5 (hi5.ptr_ok (Var.cur d) t hp (hexc d)).2.1
  have ring_sub : ∀ w, (∀ x, w ∉ s0.ring x) → ∀ x, w ∉ s5.ring x :=
    fun w hw x hx => hw x (hk5.mem_ring.mp hx).2
  have sh := d5.toShrink.trans hdo.shrink
  refine ⟨⟨fun w hw => ?_, sh.kind, sh.next, sh.alive_sub⟩, dead6,
    fun t hta htk => keep t hta (htk.elim (fun h => h.trans hk0) id), ?_, ?_⟩
  · have hwd : w ≠ Var.cur d := fun h => by have : s6.alive d = true := hw d h; rw [dead6] at this; cases this
    exact (upd_other _ _ hwd).trans (sh.vlive w hw)
  · intro w hw
    by_cases hwc : w = Var.cur d
    · right; rw [hwc]; exact hdo.ptr
    · rcases hdo.ptr_out w hwc (ring_sub w hw) with h | h
      · exact (d5.ptr_out w hw).imp h.trans h.trans
      · exact Or.inr h
  · intro w hw
    by_cases hwc : w = Var.cur d
    · rw [hwc]; exact hdo.ptr
    · have e5 := d5.ptr_in w hw
      rcases hdo.ptr_out w hwc (fun x hx => by rw [hi5.ring_ptr w x hx] at e5; cases e5) with h | h
      · exact h.trans e5
      · exact h

theorem InvX.del_dev {ex : Var → Prop} {s : St} {d : Nat} (hi : InvX ex s) (ha : s.alive d = true)
    (hk : s.kind d = .dev) (hexc : ∀ d', ¬ ex (Var.cur d')) :
    InvX ex (deleteDev s d) ∧ DelOut s (deleteDev s d) d := by
  rw [deleteDev_unfold ha]
  dsimp only
  -- `freeResources()`: three loops, each leaving the device alive and destroying no device
  have loop : ∀ {t : St} {K : List Nat} (k : Kind), k = .ker ∨ k = .buf ∨ k = .str → InvX ex t → Killed s K t →
      (∀ y ∈ K, s.kind y ≠ .dev) →
      InvX ex (freeRing k (t.chGet k d).length t d) ∧ (freeRing k (t.chGet k d).length t d).chGet k d = []
        ∧ (∀ k', t.chGet k' d = [] → (freeRing k (t.chGet k d).length t d).chGet k' d = [])
        ∧ ∃ K', Killed s K' (freeRing k (t.chGet k d).length t d) ∧ ∀ y ∈ K', s.kind y ≠ .dev := by
    intro t K k hks hit hKt hKd
    obtain ⟨i1, e1, K1, k1, hK1⟩ := freeRing_inv (d := d) hks _ t hit (Nat.le_refl _)
    refine ⟨i1, e1, fun k' e => ?_, K ++ K1, hKt.trans k1, fun y hy => ?_⟩
    · exact List.eq_nil_iff_forall_not_mem.mpr fun x hx => by have := k1.chS k' d x hx; rw [e] at this; cases this
    · rcases List.mem_append.mp hy with h | h
      · exact hKd y h
      · rw [← hKt.kind]; exact hK1 y h
  obtain ⟨i1, e1, _, K1, k1, hK1⟩ := loop .ker (Or.inl rfl) hi (Killed.refl s) (by simp)
  generalize freeRing .ker (s.chGet .ker d).length s d = s1 at *
  obtain ⟨i2, e2, m2, K2, k2, hK2⟩ := loop .buf (Or.inr (Or.inl rfl)) i1 k1 hK1
  generalize freeRing .buf (s1.chGet .buf d).length s1 d = s2 at *
  obtain ⟨i3, e3, m3, K3, k3, hK3⟩ := loop .str (Or.inr (Or.inr rfl)) i2 k2 hK2
  generalize freeRing .str (s2.chGet .str d).length s2 d = s3 at *
  have hempty : ∀ k, s3.chGet k d = [] := by
    intro k
    rw [chGet_slot]
    cases k <;> first | exact m3 _ (m2 _ e1) | exact m3 _ e2 | exact e3
  exact devTail_inv i3 ((k3.alive_iff d).mpr ⟨ha, fun h => hK3 d h hk⟩) (by rw [k3.kind]; exact hk) hempty hexc k3 hK3

/-- `delete modeX` for each handle class.  `hexc`: a device takes its member `currentStream` with it, so that handle is
    not in transit.  `hexp`: a memory object whose pool is referenced only by a handle in transit would take the pool
    with it (`needsFreeBuf` of a pool reads the ring); the handle in transit refers to no pool -/
theorem InvX.del_obj {ex : Var → Prop} {s : St} {o : Nat} (hk : HKind) (hi : InvX ex s)
    (ha : s.alive o = true) (hko : s.kind o = hk.obj)
    (hexc : hk = .dev → ∀ d', ¬ ex (Var.cur d'))
    (hexp : hk = .mem → ∀ w b, ex w → s.ptr w = some b → s.kind b ≠ .pool) :
    InvX ex (deleteObj hk s o) ∧ DelOut s (deleteObj hk s o) o := by
  cases hk with
  | dev => exact hi.del_dev ha hko (hexc rfl)
  | mem =>
    have hpool : ∀ b, s.par o = some b → s.kind b = .pool → s.useRefs b = true → s.ring b ≠ [] := by
      intro b hb hbk hbu
      obtain ⟨b', hb'1, hb'2⟩ := hi.mem_par o ha hko
      rw [hb] at hb'1
      cases hb'1
      have hba := (hi.kids_alive hb'2).2
      rcases hi.ring_ne b hba (by rw [hbk]; decide) hbu with h | ⟨w, hw1, hw2⟩
      · exact h
      · exact absurd hbk (hexp rfl w b hw1 hw2)
    obtain ⟨h1, K, hK, hoK, hKk⟩ := hi.del_mem ha hko hpool
    refine ⟨h1, DelOut.of_killed hK hoK fun x hx => (hKk x hx).imp id fun h => ?_⟩
    rw [h, hko]; exact ⟨by decide, by decide⟩
  | pool =>
    obtain ⟨h1, hK⟩ := hi.toN.del_buf nofun ha (Or.inr hko) (hi.pool_not_inner hko)
    refine ⟨h1, DelOut.of_killed hK (self_mem_bufK s o) fun x hx => ?_⟩
    rcases bufK_cases hi.toInv00 ha hx with h | ⟨_, _, h, _, _⟩ | ⟨_, h, _⟩
    · exact Or.inl h
    · right; rw [h, hko]; exact ⟨by decide, by decide⟩
    · right; rw [h, hko]; exact ⟨by decide, by decide⟩
  | ker =>
    obtain ⟨h1, hK⟩ := InvX.del_child (k := .ker) hi ha hko (Or.inl rfl)
    exact ⟨h1, DelOut.of_killed hK (List.mem_singleton_self o) fun x hx => Or.inl (List.mem_singleton.mp hx)⟩
  | str =>
    obtain ⟨h1, hK⟩ := InvX.del_child (k := .str) hi ha hko (Or.inr rfl)
    exact ⟨h1, DelOut.of_killed hK (List.mem_singleton_self o) fun x hx => Or.inl (List.mem_singleton.mp hx)⟩

theorem InvX.detach {s : St} {v : Var} (hi : InvX (fun _ => False) s) :
    InvX (fun _ => False) ((dropRef s v).setPtr v none) ∧ DropOut s ((dropRef s v).setPtr v none) v := by
  unfold dropRef
  apply hi.drop_ref (fun h => h)
  intro o hp hi1
  have hpo := hi.ptr_ok v o hp (fun h => h)
  apply hi1.del_obj v.kind hpo.1 hpo.2.1
  · intro hvk d' hex
    rcases hex with h | h
    · exact h
    · rw [← h] at hvk
      cases hvk
  · intro hvk w b hex hwb
    rcases hex with h | h
    · exact h.elim
    · subst h
      have e : (s.setRing o (Ring.remove (s.ring o) w)).ptr w = s.ptr w := rfl
      rw [e, hp] at hwb
      cases hwb
      show s.kind o ≠ .pool
      rw [hpo.2.1, hvk]
      decide

end Occa.Gc
