/-
The representation invariant of `trie<TM>` against its specification (an association list with
distinct keys: a new key goes last, an overwritten one keeps its place), its preservation by every
operation, and what the queries return under it.  Core Lean only.
-/
import OccaProofs.Lemmas.TrieFreeze

set_option linter.unusedSectionVars false

namespace Occa.Trie
variable {α V : Type} [DecidableEq α] [LT α] [DecidableRel (α := α) (· < ·)] [Inhabited α] [TotalLT α]

/-- `t` represents the finite map `M`:
    the node at key `k` holds the position of `k` in `M`, `values` are `M`'s values in order,
    keys are distinct, every child map is sorted and holds no empty subtree, and the frozen
    arrays (if any) are the flattening of the current tree. -/
structure Inv (t : Trie α V) (M : List (List α × V)) : Prop where
  look : ∀ k, lookupN k t.root = idxOf k M
  vals : t.values = M.map (·.2)
  nodup : NodupKeys M
  wf : WF t.root
  frozen : ∀ f, t.frozen = some f → FrozenOK f t.root

/-- the clauses of `Inv` about the tree and the values; the operations are followed on these, the arrays are
    rebuilt or dropped whenever the tree changes (`refreeze_spec`) -/
structure Rep (root : Node α) (values : List V) (M : List (List α × V)) : Prop where
  look : ∀ k, lookupN k root = idxOf k M
  vals : values = M.map (·.2)
  nodup : NodupKeys M
  wf : WF root

theorem Inv.rep {t : Trie α V} {M : List (List α × V)} (h : Inv t M) : Rep t.root t.values M :=
  ⟨h.look, h.vals, h.nodup, h.wf⟩

theorem Rep.inv {t : Trie α V} {M : List (List α × V)} (h : Rep t.root t.values M)
    (hf : ∀ f, t.frozen = some f → FrozenOK f t.root) : Inv t M :=
  ⟨h.look, h.vals, h.nodup, h.wf, hf⟩

section Rep
variable {r : Node α} {vs : List V} {M : List (List α × V)} {k : List α} {i : Nat}

theorem rep_empty : Rep (Node.empty : Node α) ([] : List V) [] :=
  ⟨lookupN_empty, rfl, List.nodup_nil, wf_empty⟩

theorem Rep.idx_lt (h : Rep r vs M) (hi : idxOf k M = some i) : i < vs.length := by
  rw [h.vals, List.length_map]; exact idxOf_lt hi

theorem rep_add_new (h : Rep r vs M) (hi : idxOf k M = none) (v : V) :
    Rep (addN k vs.length r) (vs ++ [v]) (specAdd M k v) := by
  refine ⟨fun k' => ?_, ?_, nodupKeys_specAdd h.nodup k v, wf_addN _ _ _ h.wf⟩
  · rw [specAdd_absent hi, lookupN_addN _ _ _ _ h.wf.sorted, idxOf_append_new hi, h.look, h.vals, List.length_map]
  · rw [specAdd_absent hi, List.map_append, ← h.vals]; rfl

theorem rep_add_old (h : Rep r vs M) (hi : idxOf k M = some i) (v : V) : Rep r (vs.set i v) (specAdd M k v) := by
  refine ⟨fun k' => ?_, ?_, nodupKeys_specAdd h.nodup k v, h.wf⟩
  · rw [specAdd_present hi, idxOf_map_update]; exact h.look k'
  · rw [specAdd_present hi, values_map_update h.nodup hi, h.vals]

theorem rep_remove (h : Rep r vs M) (hi : idxOf k M = some i) :
    Rep (removeN k i r) (vs.eraseIdx i) (specRemove M k) := by
  have hspec := specRemove_eq_eraseIdx h.nodup hi
  refine ⟨fun k' => ?_, ?_, hspec ▸ nodupKeys_eraseIdx h.nodup i, wf_removeN k i r h.wf⟩
  · rw [lookupN_removeN, hspec, idxOf_eraseIdx h.nodup hi, h.look]
  · rw [hspec, map_eraseIdx, ← h.vals]

end Rep

theorem inv_init : Inv ({} : Trie α V) [] := Rep.inv rep_empty fun _ h => nomatch h

theorem inv_freeze {t : Trie α V} {M : List (List α × V)} (h : Inv t M) :
    ∃ f, t.freeze = some { t with frozen := some f } ∧ Inv { t with frozen := some f } M := by
  obtain ⟨f, e, hf⟩ := freeze_spec t
  exact ⟨f, e, Rep.inv h.rep fun f' hf' => by cases hf'; exact hf⟩

theorem inv_defrost {t : Trie α V} {M : List (List α × V)} (h : Inv t M) : Inv t.defrost M :=
  Rep.inv h.rep fun _ hf => nomatch hf

theorem inv_add {t : Trie α V} {M : List (List α × V)} (h : Inv t M) (k : List α) (v : V) :
    ∃ t', t.add k v = some t' ∧ Inv t' (specAdd M k v) := by
  unfold Trie.add
  rw [getValueIndex_eq_lookupN, h.look]
  cases hi : idxOf k M with
  | none =>
    obtain ⟨t', e, hr, hv, hf⟩ := refreeze_spec
      ({ t.defrost with values := t.values ++ [v], root := addN k t.values.length t.root } : Trie α V) rfl
    exact ⟨t', e, Rep.inv (hr ▸ hv ▸ rep_add_new h.rep hi v) hf⟩
  | some i =>
    simp only [h.rep.idx_lt hi, if_true]
    exact ⟨_, rfl, Rep.inv (rep_add_old h.rep hi v) h.frozen⟩

theorem inv_remove {t : Trie α V} {M : List (List α × V)} (h : Inv t M) (k : List α) :
    ∃ t', t.remove k = some t' ∧ Inv t' (specRemove M k) := by
  unfold Trie.remove
  rw [getValueIndex_eq_lookupN, h.look]
  cases hi : idxOf k M with
  | none => exact ⟨t, rfl, by rw [specRemove_of_absent hi]; exact h⟩
  | some i =>
    obtain ⟨t', e, hr, hv, hf⟩ := refreeze_spec
      ({ t.defrost with root := removeN k i t.root } : Trie α V) rfl
    simp only [Trie.defrost] at e ⊢
    simp only [e, if_pos (hv ▸ h.rep.idx_lt hi : i < t'.values.length)]
    exact ⟨_, rfl, Rep.inv (hr ▸ hv ▸ rep_remove h.rep hi) hf⟩

theorem inv_step {t : Trie α V} {M : List (List α × V)} (h : Inv t M) (op : Op α V) :
    ∃ t', t.step op = some t' ∧ Inv t' (specStep M op) := by
  cases op with
  | add k v => exact inv_add h k v
  | remove k => exact inv_remove h k
  | freeze => obtain ⟨f, e, hi⟩ := inv_freeze h; exact ⟨_, e, hi⟩
  | defrost => exact ⟨_, rfl, inv_defrost h⟩
  | clear => exact ⟨_, rfl, Rep.inv rep_empty fun _ hf => nomatch hf⟩
  | setAuto b => exact ⟨_, rfl, Rep.inv h.rep h.frozen⟩

theorem inv_run {t : Trie α V} {M : List (List α × V)} (h : Inv t M) (ops : List (Op α V)) :
    ∃ t', t.run ops = some t' ∧ Inv t' (specRun M ops) := by
  induction ops generalizing t M with
  | nil => exact ⟨t, rfl, h⟩
  | cons op ops ih =>
    obtain ⟨t1, e1, h1⟩ := inv_step h op
    obtain ⟨t2, e2, h2⟩ := ih h1
    exact ⟨t2, by rw [Trie.run, e1]; exact e2, h2⟩

theorem inv_of_run {ops : List (Op α V)} {t : Trie α V} (h : Trie.run {} ops = some t) :
    Inv t (specRun [] ops) := by
  obtain ⟨t', e, hi⟩ := inv_run (inv_init (α := α) (V := V)) ops
  cases h.symm.trans e
  exact hi

theorem getLongest_eq {t : Trie α V} {M : List (List α × V)} (h : Inv t M) (q : List α) :
    t.getLongest q = some (trieGetLongest t.root q) := by
  unfold Trie.getLongest
  cases hf : t.frozen with
  | none => rfl
  | some f => exact getLongestFrozen_eq f t.root (h.frozen f hf) h.wf.sorted q

theorem values_get {t : Trie α V} {M : List (List α × V)} (h : Inv t M) {k : List α} {i : Nat}
    (hi : idxOf k M = some i) : ∃ v, t.values[i]? = some v ∧ lookup k M = some v := by
  obtain ⟨v, hv⟩ := idxOf_getElem hi
  have : (M.map (·.2))[i]? = some v := by rw [List.getElem?_map, hv]; rfl
  exact ⟨v, h.vals ▸ this, by rw [lookup_eq_idxOf, hi]; exact this⟩

theorem longest_eq {t : Trie α V} {M : List (List α × V)} (h : Inv t M) (q : List α) :
    t.longest q = some (longestPrefix M q) := by
  have hb := longestBy_bind (fun k => idxOf k M) (fun i => (M.map (·.2))[i]?)
    (fun k i hi => by obtain ⟨v, hv, _⟩ := values_get h hi; rw [← h.vals, hv]; rfl) q
  simp only [← lookup_eq_idxOf] at hb
  rw [Trie.longest, getLongest_eq h, trieGetLongest_eq, best, longestPrefix_eq_longestBy, hb]
  simp only [h.look]
  cases hl : longestBy (fun k => idxOf k M) q with
  | none => rfl
  | some r =>
    obtain ⟨v, hv, _⟩ := values_get h (longestBy_some hl)
    simp only [Trie.value, hv, Option.map_some, Option.bind_some, ← h.vals]

theorem get_length (root : Node α) (q : List α) :
    (if (trieGetLongest root q).length ≠ q.length then Result.fail else trieGetLongest root q).success = true →
    (if (trieGetLongest root q).length ≠ q.length then Result.fail else trieGetLongest root q).length = q.length := by
  by_cases e : (trieGetLongest root q).length = q.length
  · simp [e]
  · simp [e, Result.fail, Result.success]

theorem get_spec {t : Trie α V} {M : List (List α × V)} (h : Inv t M) (q : List α) :
    ∃ r, t.get q = some r ∧ r.valueIndex = idxOf q M :=
  ⟨_, by rw [Trie.get, getLongest_eq h]; rfl, by rw [get_valueIndex, h.look]⟩

theorem getValue_eq {t : Trie α V} {M : List (List α × V)} (h : Inv t M) (q : List α) :
    t.getValue q = some (lookup q M) := by
  obtain ⟨r, e, hr⟩ := get_spec h q
  simp only [Trie.getValue, e, hr]
  cases hi : idxOf q M with
  | none => rw [lookup_eq_idxOf, hi]; rfl
  | some i =>
    obtain ⟨v, hv, hl⟩ := values_get h hi
    simp only [Trie.value, hv, hl, Option.map_some]

theorem has_eq {t : Trie α V} {M : List (List α × V)} (h : Inv t M) (q : List α) :
    t.has q = some (lookup q M).isSome := by
  obtain ⟨r, e, hr⟩ := get_spec h q
  rw [Trie.has, e, lookup_isSome_eq, ← hr]; rfl

theorem hasSized_eq {t : Trie α V} {M : List (List α × V)} (h : Inv t M) (q : List α) :
    t.hasSized q = if q = [] then some none else some (some (lookup q M).isSome) := by
  obtain ⟨r, e, hr⟩ := get_spec h q
  rw [Trie.hasSized, e, lookup_isSome_eq, ← hr]
  cases q <;> rfl

theorem size_eq {t : Trie α V} {M : List (List α × V)} (h : Inv t M) : t.size = M.length := by
  unfold Trie.size
  cases t.frozen with
  | some f => simp only [h.vals, List.length_map]
  | none =>
    simp only [sizeN_eq_length t.root h.wf.sorted _ h.nodup fun k => by rw [h.look, idxOf_isSome_iff],
      List.length_map]

theorem child_iff_key {t : Trie α V} {M : List (List α × V)} (h : Inv t M) (c : α) :
    c ∈ t.root.kids.map (·.1) ↔ ∃ e ∈ M, e.1.head? = some c := by
  simp only [child_iff_lookupN _ h.wf, h.look, idxOf_isSome_iff, List.mem_map, List.head?_eq_some_iff]
  exact ⟨fun ⟨k, e, he, hk⟩ => ⟨e, he, k, hk⟩, fun ⟨e, he, k, hk⟩ => ⟨k, e, he, hk⟩⟩

theorem hasChar_kids {t : Trie α V} {M : List (List α × V)} (h : Inv t M) (c : α) :
    t.hasChar c = some ((t.root.kids.map (·.1)).contains c) := by
  unfold Trie.hasChar
  cases hf : t.frozen with
  | none => rfl
  | some f =>
    obtain ⟨hb, hi, hl⟩ := h.frozen f hf
    simp only [hb]
    exact scan_eq f.cells c t.root.kids _ _ _ ((laidN_iff ..).mp hl)

theorem hasChar_eq {t : Trie α V} {M : List (List α × V)} (h : Inv t M) (c : α) :
    t.hasChar c = some (M.any fun e => e.1.head? = some c) := by
  rw [hasChar_kids h, Option.some.injEq, Bool.eq_iff_iff]
  simp only [List.contains_eq_mem, decide_eq_true_eq, List.any_eq_true]
  exact child_iff_key h c

theorem isEmpty_eq {t : Trie α V} {M : List (List α × V)} (h : Inv t M) :
    t.isEmpty = M.all fun e => e.1 = [] := by
  rw [Trie.isEmpty, Bool.eq_iff_iff, List.isEmpty_iff, ← List.map_eq_nil_iff (f := (·.1)),
    List.eq_nil_iff_forall_not_mem]
  simp only [child_iff_key h, List.all_eq_true, decide_eq_true_eq, not_exists, not_and]
  -- no stored key has a first character: every stored key is empty
  exact ⟨fun H e he => List.head?_eq_none_iff.mp (Option.eq_none_iff_forall_ne_some.mpr fun c => H c e he),
    fun H c e he => by rw [H e he]; nofun⟩

end Occa.Trie
