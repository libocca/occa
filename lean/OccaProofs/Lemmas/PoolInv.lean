/-
`findSlot` after an insertion or an erasure; then the pool invariant `PInv` (layout of C03 + accounting of C04),
the relations `SameContents` and `SameAliasing` between two pool states (what C03 says a non-writing operation
preserves), and the preservation of `PInv` by addModeMemoryRef / removeModeMemoryRef / write, with what a write
changes in the buffer.
-/
import OccaProofs.Lemmas.PoolSweep

namespace Occa.Pool
open Finset

theorem findSlot_of_mem_nodup {l : List Resv} (hn : (l.map (·.slot)).Nodup) {r : Resv} (hr : r ∈ l) :
    findSlot r.slot l = some r := by
  induction l with
  | nil => simp at hr
  | cons x xs ih =>
    rw [List.map_cons, List.nodup_cons] at hn
    unfold findSlot
    rcases List.mem_cons.1 hr with rfl | hr
    · rw [if_pos rfl]
    · have : x.slot ≠ r.slot := by
        intro e
        exact hn.1 (List.mem_map.2 ⟨r, hr, e.symm⟩)
      rw [if_neg this]
      exact ih hn.2 hr

theorem findSlot_insertResv_ne {m : Resv} {k : Nat} (h : m.slot ≠ k) (l : List Resv) :
    findSlot k (insertResv m l) = findSlot k l := by
  obtain ⟨l₁, l₂, rfl, e⟩ := insertResv_split m l
  simp [e, findSlot_eq, h]

theorem findSlot_insertResv_self {m : Resv} {l : List Resv} (h : findSlot m.slot l = none) :
    findSlot m.slot (insertResv m l) = some m := by
  obtain ⟨l₁, l₂, rfl, e⟩ := insertResv_split m l
  rw [findSlot_eq, List.find?_append, Option.or_eq_none_iff] at h
  rw [findSlot_eq, e, List.find?_append, h.1, Option.none_or, List.find?_cons_of_pos (by simp)]

theorem findSlot_eraseSlot_ne {k k' : Nat} (h : k' ≠ k) (l : List Resv) :
    findSlot k (eraseSlot k' l) = findSlot k l := by
  induction l with
  | nil => simp [eraseSlot]
  | cons x xs ih =>
    unfold eraseSlot
    split
    · rename_i hx
      conv => rhs; unfold findSlot
      rw [if_neg (by omega)]
    · unfold findSlot; rw [ih]

theorem findSlot_eraseSlot_self {k : Nat} {l : List Resv} (hn : (l.map (·.slot)).Nodup) :
    findSlot k (eraseSlot k l) = none := by
  induction l with
  | nil => simp [eraseSlot, findSlot]
  | cons x xs ih =>
    rw [List.map_cons, List.nodup_cons] at hn
    unfold eraseSlot
    split
    · rename_i hx
      exact findSlot_none.2 (hx ▸ hn.1)
    · rename_i hx
      unfold findSlot; rw [if_neg hx]; exact ih hn.2

theorem nodup_insertResv {m : Resv} {l : List Resv} (hn : (l.map (·.slot)).Nodup)
    (hf : findSlot m.slot l = none) : ((insertResv m l).map (·.slot)).Nodup := by
  have hp := (insertResv_perm m l).map (·.slot)
  rw [hp.nodup_iff, List.map_cons, List.nodup_cons]
  exact ⟨findSlot_none.1 hf, hn⟩

theorem nodup_eraseSlot {k : Nat} {l : List Resv} (hn : (l.map (·.slot)).Nodup) :
    ((eraseSlot k l).map (·.slot)).Nodup :=
  hn.sublist ((eraseSlot_sublist k l).map _)

/-- no byte belongs to both memories -/
def NoShare (r r' : Resv) : Prop := ∀ i, i < r.size → ∀ j, j < r'.size → r.off + i ≠ r'.off + j

theorem NoShare.symm {r r' : Resv} (h : NoShare r r') : NoShare r' r :=
  fun i hi j hj e => h j hj i hi e.symm

structure PInv (p : Pool) : Prop where
  apos : 0 < p.align
  sorted : OffSorted p.resv
  /-- every reservation, rounded out to the alignment, lies inside the pool -/
  bounded : ∀ r ∈ p.resv, rup p.align (r.off + r.size) ≤ p.size
  buflen : p.buf.length = p.size
  /-- C04: `reserved` is the union measure -/
  reserved_eq : p.reserved = measure p.align p.resv
  /-- C03: memories of different allocations share no byte -/
  famDisj : ∀ r ∈ p.resv, ∀ r' ∈ p.resv, r.fam ≠ r'.fam → NoShare r r'
  nodup : (p.resv.map (·.slot)).Nodup
  hasBuf : p.hasBuf = true ∨ (p.resv = [] ∧ p.size = 0)

theorem PInv.inBounds {p : Pool} (h : PInv p) {r : Resv} (hr : r ∈ p.resv) : r.off + r.size ≤ p.size :=
  Nat.le_trans (le_rup h.apos _) (h.bounded r hr)

theorem PInv.hasBuf_of_ne_nil {p : Pool} (h : PInv p) (hne : p.resv ≠ []) : p.hasBuf = true :=
  h.hasBuf.resolve_right fun hb => hne hb.1

theorem PInv.hasBuf_of_mem {p : Pool} (h : PInv p) {r : Resv} (hr : r ∈ p.resv) : p.hasBuf = true :=
  h.hasBuf_of_ne_nil (List.ne_nil_of_mem hr)

theorem PInv.hasBuf_of_cons {p : Pool} (h : PInv p) {m : Resv} {ms : List Resv} (hl : p.resv = m :: ms) :
    p.hasBuf = true :=
  h.hasBuf_of_ne_nil (hl ▸ List.cons_ne_nil m ms)

theorem PInv.size_zero {p : Pool} (h : PInv p) (hb : ¬ p.hasBuf = true) : p.size = 0 :=
  (h.hasBuf.resolve_left hb).2

theorem PInv.reserved_le {p : Pool} (h : PInv p) : p.reserved ≤ p.size := by
  rw [h.reserved_eq]; exact measure_le_of_bounded h.bounded

theorem PInv.of_nil {p : Pool} (ha : 0 < p.align) (hn : p.resv = []) (hr : p.reserved = 0)
    (hb : p.buf.length = p.size) (hh : p.hasBuf = true ∨ p.size = 0) : PInv p := by
  exact {
    apos := ha
    sorted := hn ▸ .nil
    bounded := fun r hr => by rw [hn] at hr; cases hr
    buflen := hb
    reserved_eq := by rw [hr, hn, measure_nil]
    famDisj := fun r hr => by rw [hn] at hr; cases hr
    nodup := hn ▸ .nil
    hasBuf := hh.imp_right fun h => ⟨hn, h⟩ }

theorem pinv_new {a : Nat} (ha : 0 < a) : PInv { align := a } := .of_nil ha rfl rfl rfl (.inr rfl)

/-- every memory that is live in `p` is live in `p'`, with the same size, allocation and bytes -/
def SameContents (p p' : Pool) : Prop :=
  ∀ k r, findSlot k p.resv = some r → ∃ r', findSlot k p'.resv = some r' ∧ r'.size = r.size ∧
    r'.fam = r.fam ∧ readAt p'.buf r'.off r'.size = readAt p.buf r.off r.size

/-- two bytes of live memories are the same byte in `p'` iff they are the same byte in `p` -/
def SameAliasing (p p' : Pool) : Prop :=
  ∀ k₁ k₂ r₁ r₂ r₁' r₂', findSlot k₁ p.resv = some r₁ → findSlot k₂ p.resv = some r₂ →
    findSlot k₁ p'.resv = some r₁' → findSlot k₂ p'.resv = some r₂' →
    ∀ i j, i < r₁.size → j < r₂.size → (r₁'.off + i = r₂'.off + j ↔ r₁.off + i = r₂.off + j)

theorem same_of_nil {p : Pool} (hn : p.resv = []) (p' : Pool) : SameContents p p' ∧ SameAliasing p p' := by
  constructor <;> intro k <;> rw [hn] <;> intros <;> contradiction

theorem SameContents.refl (p : Pool) : SameContents p p := fun _ r h => ⟨r, h, rfl, rfl, rfl⟩
theorem SameAliasing.refl (p : Pool) : SameAliasing p p := by
  intro k₁ k₂ r₁ r₂ r₁' r₂' h1 h2 h1' h2' i j _ _
  rw [h1] at h1'; rw [h2] at h2'; cases h1'; cases h2'; rfl

theorem SameContents.trans {p q r : Pool} (h1 : SameContents p q) (h2 : SameContents q r) : SameContents p r := by
  intro k x hx
  obtain ⟨y, hy, a1, a2, a3⟩ := h1 k x hx
  obtain ⟨z, hz, b1, b2, b3⟩ := h2 k y hy
  exact ⟨z, hz, b1.trans a1, b2.trans a2, b3.trans a3⟩

theorem SameAliasing.trans {p q r : Pool} (hc : SameContents p q) (h1 : SameAliasing p q) (h2 : SameAliasing q r) :
    SameAliasing p r := by
  intro k₁ k₂ r₁ r₂ r₁' r₂' a1 a2 c1 c2 i j hi hj
  obtain ⟨y₁, hy₁, s1, _, _⟩ := hc k₁ r₁ a1
  obtain ⟨y₂, hy₂, s2, _, _⟩ := hc k₂ r₂ a2
  exact (h2 k₁ k₂ y₁ y₂ r₁' r₂' hy₁ hy₂ c1 c2 i j (by omega) (by omega)).trans
    (h1 k₁ k₂ r₁ r₂ y₁ y₂ a1 a2 hy₁ hy₂ i j hi hj)

theorem addRef_inv {c : Cfg} (hc : c.sweepAccumulatesGaps = true) {p : Pool} (h : PInv p) (m : Resv)
    (hfresh : findSlot m.slot p.resv = none)
    (hb : rup p.align (m.off + m.size) ≤ p.size)
    (hbuf : p.hasBuf = true)
    (hd : ∀ r ∈ p.resv, r.fam ≠ m.fam → NoShare r m) : PInv (p.addRef c m) := by
  unfold Pool.addRef
  refine {
    apos := h.apos
    sorted := offSorted_insertResv m _ h.sorted
    bounded := ?bounded
    buflen := h.buflen
    reserved_eq := ?reserved_eq
    famDisj := ?famDisj
    nodup := nodup_insertResv h.nodup hfresh
    hasBuf := .inl hbuf }
  case bounded =>
    intro r hr
    rcases (mem_insertResv m r _).1 hr with rfl | hr
    · exact hb
    · exact h.bounded r hr
  case reserved_eq =>
    show p.reserved + spanDelta c p.align m p.resv = measure p.align (insertResv m p.resv)
    rw [spanDelta_fixed hc h.apos m _ h.sorted, h.reserved_eq]
    unfold measure
    rw [spanU_perm (insertResv_perm m p.resv)]
    exact (measure_cons p.align m p.resv).symm
  case famDisj =>
    intro r hr r' hr' hne
    rcases (mem_insertResv m r _).1 hr with e1 | h1
    · rcases (mem_insertResv m r' _).1 hr' with e2 | h2
      · exact absurd (by rw [e1, e2]) hne
      · rw [e1] at hne ⊢; exact (hd r' h2 (Ne.symm hne)).symm
    · rcases (mem_insertResv m r' _).1 hr' with e2 | h2
      · rw [e2] at hne ⊢; exact hd r h1 hne
      · exact h.famDisj r h1 r' h2 hne

theorem addRef_same {c : Cfg} {p : Pool} (m : Resv) (hfresh : findSlot m.slot p.resv = none) :
    SameContents p (p.addRef c m) ∧ SameAliasing p (p.addRef c m) := by
  have key : ∀ k r, findSlot k p.resv = some r → findSlot k (insertResv m p.resv) = some r := by
    intro k r hr
    have : m.slot ≠ k := by
      intro e; rw [e] at hfresh; rw [hfresh] at hr; cases hr
    rw [findSlot_insertResv_ne this]; exact hr
  constructor
  · intro k r hr
    exact ⟨r, key k r hr, rfl, rfl, rfl⟩
  · intro k₁ k₂ r₁ r₂ r₁' r₂' h1 h2 h1' h2' i j _ _
    have e1 := key k₁ r₁ h1
    have e2 := key k₂ r₂ h2
    unfold Pool.addRef at h1' h2'
    simp only [] at h1' h2'
    rw [e1] at h1'; rw [e2] at h2'; cases h1'; cases h2'; rfl

theorem slice_ok {c : Cfg} {p : Pool} (hb : p.hasBuf = true) (slot fam off bytes : Nat) :
    p.slice c slot fam off bytes = .ok (p.addRef c ⟨slot, off, bytes, fam⟩) := by
  unfold Pool.slice; rw [if_neg (by simp [hb])]

theorem slice_size {c : Cfg} {p p' : Pool} {slot fam off bytes : Nat}
    (h : p.slice c slot fam off bytes = .ok p') : p'.size = p.size := by
  unfold Pool.slice at h
  split at h <;> cases h
  rfl

theorem removeRef_eq {c : Cfg} (hc : c.sweepAccumulatesGaps = true) {p : Pool} (h : PInv p) {r : Resv}
    (hr : findSlot r.slot p.resv = some r) :
    p.removeRef c r = { p with reserved := measure p.align (eraseSlot r.slot p.resv), resv := eraseSlot r.slot p.resv } := by
  have hsub := eraseSlot_sublist r.slot p.resv
  have hsorted : OffSorted (eraseSlot r.slot p.resv) := List.Pairwise.sublist hsub h.sorted
  have hperm := eraseSlot_perm hr
  have hm : measure p.align p.resv = measure p.align (eraseSlot r.slot p.resv) +
      (span p.align r \ spanU p.align (eraseSlot r.slot p.resv)).card := by
    unfold measure
    rw [spanU_perm hperm]
    exact measure_cons p.align r _
  unfold Pool.removeRef
  simp only []
  rw [spanDelta_fixed hc h.apos r _ hsorted, h.reserved_eq, hm, if_pos (by omega)]
  congr 1
  omega

theorem removeRef_inv {c : Cfg} (hc : c.sweepAccumulatesGaps = true) {p : Pool} (h : PInv p) {r : Resv}
    (hr : findSlot r.slot p.resv = some r) : PInv (p.removeRef c r) := by
  rw [removeRef_eq hc h hr]
  have hsub := eraseSlot_sublist r.slot p.resv
  exact {
    apos := h.apos
    sorted := h.sorted.sublist hsub
    bounded := fun x hx => h.bounded x (hsub.subset hx)
    buflen := h.buflen
    reserved_eq := rfl
    famDisj := fun x hx y hy => h.famDisj x (hsub.subset hx) y (hsub.subset hy)
    nodup := nodup_eraseSlot h.nodup
    hasBuf := .inl (h.hasBuf_of_mem (findSlot_some hr).1) }

theorem write_inv {p : Pool} (h : PInv p) (off : Nat) (data : List Byte) (hb : off + data.length ≤ p.size) :
    PInv (p.write off data) := by
  unfold Pool.write
  refine { h with buflen := ?_ }
  show (memcpy p.buf off data 0 data.length).length = p.size
  rw [length_memcpy _ _ _ _ _ (by rw [h.buflen]; exact hb) (by omega), h.buflen]

theorem write_get {p : Pool} (h : PInv p) {w : Resv} (hw : w ∈ p.resv) (off : Nat) (data : List Byte)
    (hlen : off + data.length ≤ w.size) (q : Nat) :
    (p.write (w.off + off) data).buf[q]? =
      if w.off + off ≤ q ∧ q < w.off + off + data.length then data[q - (w.off + off)]? else p.buf[q]? := by
  have hwb := h.inBounds hw
  show (memcpy p.buf (w.off + off) data 0 data.length)[q]? = _
  rw [getElem?_memcpy _ _ _ _ _ (by rw [h.buflen]; omega) (by omega)]
  simp

theorem write_reads_back {p : Pool} (h : PInv p) {w : Resv} (hw : w ∈ p.resv) (off : Nat) (data : List Byte)
    (hlen : off + data.length ≤ w.size) :
    readAt (p.write (w.off + off) data).buf (w.off + off) data.length = data := by
  have hwb := h.inBounds hw
  apply List.ext_getElem?
  intro i
  rw [getElem?_readAt]
  by_cases hi : i < data.length
  · rw [if_pos hi, write_get h hw off data hlen, if_pos ⟨by omega, by omega⟩]
    congr 1; omega
  · rw [if_neg hi, List.getElem?_eq_none (by omega)]

theorem write_other {p : Pool} (h : PInv p) {w x : Resv} (hw : w ∈ p.resv)
    (off : Nat) (data : List Byte) (hlen : off + data.length ≤ w.size) (hns : NoShare w x) :
    readAt (p.write (w.off + off) data).buf x.off x.size = readAt p.buf x.off x.size :=
  readAt_eq_of_forall _ _ _ _ _ fun i hi => by
    rw [write_get h hw off data hlen, if_neg]
    intro hc
    exact hns (x.off + i - w.off) (by omega) i hi (by omega)

end Occa.Pool
