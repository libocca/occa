/-
Facts about the generated operator table that the parser proofs use (all finite, checked by the
kernel on the table generated from the current lang/operator.cpp), the four code-shape switches
that the parser proofs depend on, `find?_str`: no spelling is registered twice in the tokenizer, and
the token tests of the shape automaton in terms of `opType`.
Every operator has a one-bit type, so each class of operators (binary, prefix, postfix, ...) fails
all the tests of `applyOperator` and `operatorIsLeftUnary` that are meant for the other classes:
one lemma per class lists what those tests see.
-/
import OccaModel.ExprShape
import OccaProofs.Lemmas.TableKeys

namespace Occa.Expr
open Occa.Gen

/-! ### the repaired code is what is modelled (these fail to check on an unrepaired tree) -/
@[simp] theorem flag_ternary : ternaryMode = 2 := by decide
@[simp] theorem flag_castEnd : castEndIsPrefix = true := by decide
@[simp] theorem flag_pairEnd : pairEndEndsOperand = true := by decide
@[simp] theorem flag_operand : operandThenBinary = true := by decide

theorem ctorIdx_lt (o : Op) : o.ctorIdx < 74 := by cases o <;> decide

theorem mem_all (o : Op) : o ∈ Op.all := by
  have h : (List.range 74).map Op.ofNat = Op.all := by decide +kernel
  exact h ▸ List.mem_map.2 ⟨o.ctorIdx, List.mem_range.2 (ctorIdx_lt o), Op.ofNat_ctorIdx o⟩

/-- a decidable statement about every operator is decided by running through `Op.all` (as core does for `Bool` and
    `Fin n`): the table facts below are one evaluation each, so they are checked again whenever operator.cpp changes -/
instance (priority := low) Op.decidableForall {P : Op → Prop} [DecidablePred P] : Decidable (∀ o, P o) :=
  decidable_of_iff (∀ o ∈ Op.all, P o) ⟨fun h o => h o (mem_all o), fun h o _ => h o⟩

/-- the parser's tests on an operator's type as predicates (the lemmas below write the tests out) -/
def isBin (o : Op) : Bool := has o.ty T.binary
def isLU (o : Op) : Bool := has o.ty T.leftUnary
def isRU (o : Op) : Bool := has o.ty T.rightUnary
def isPS (o : Op) : Bool := has o.ty T.pairStart
def isPE (o : Op) : Bool := has o.ty T.pairEnd
def isQ (o : Op) : Bool := o.ty == T.questionMark
def isC (o : Op) : Bool := o.ty == T.colon

/-- operators that may sit in a prefix frame: the prefix operator tokens and the cast operator that
    `transformLastPair` builds from `( type )` -/
def preOk (o : Op) : Bool := prefixOk o || o == .parenCast

/-- the chainable types of `operatorIsLeftUnary` -/
abbrev chainable : Ty :=
  (T.increment.1 ||| T.decrement.1 ||| T.parentheses.1, T.increment.2 ||| T.decrement.2 ||| T.parentheses.2)

theorem has_q_eq : ∀ o : Op, has o.ty T.questionMark = (o.ty == T.questionMark) := by
  decide +kernel
theorem has_c_eq : ∀ o : Op, has o.ty T.colon = (o.ty == T.colon) := by
  decide +kernel

theorem bin_class : ∀ o : Op, has o.ty T.binary = true →
    has o.ty T.leftUnary = false ∧ has o.ty T.rightUnary = false ∧ has o.ty T.unary = false ∧
    has o.ty T.pairStart = false ∧ has o.ty T.pairEnd = false ∧
    has o.ty T.questionMark = false ∧ has o.ty T.colon = false ∧ 1 ≤ o.prec := by
  decide +kernel

theorem pre_class : ∀ o : Op, preOk o = true →
    has o.ty T.leftUnary = true ∧ has o.ty T.binary = false ∧ has o.ty T.unary = true ∧
    has o.ty T.pairStart = false ∧ has o.ty T.pairEnd = false ∧
    has o.ty T.questionMark = false ∧ has o.ty T.colon = false ∧ 1 ≤ o.prec := by
  decide +kernel

/-- the case distinction of `applyLeftUnaryOperator` -/
theorem pre_cases : ∀ o : Op, preOk o = true →
    (has o.ty T.special = false ∧ has o.ty T.parenCast = false) ∨ o = .parenCast ∨ o = .sizeof_ ∨ o = .throw_ := by
  decide +kernel

theorem post_class : ∀ o : Op, has o.ty T.rightUnary = true →
    has o.ty T.binary = false ∧ has o.ty T.leftUnary = false ∧ has o.ty T.unary = true ∧
    has o.ty T.pairStart = false ∧ has o.ty T.pairEnd = false ∧
    has o.ty T.questionMark = false ∧ has o.ty T.colon = false ∧ o.prec = 2 ∧ has o.ty chainable = true := by
  decide +kernel

theorem q_class : ∀ o : Op, (o.ty == T.questionMark) = true → o = .questionMark := by decide +kernel
theorem c_class : ∀ o : Op, (o.ty == T.colon) = true → o = .colon := by decide +kernel

theorem q_facts : has Op.questionMark.ty T.leftUnary = true ∧ has Op.questionMark.ty T.special = false ∧
    has Op.questionMark.ty T.colon = false ∧ has Op.questionMark.ty T.binary = false ∧
    has Op.questionMark.ty T.pairStart = false ∧ has Op.questionMark.ty T.pairEnd = false ∧
    has Op.questionMark.ty T.rightUnary = false ∧ has Op.questionMark.ty T.questionMark = true ∧
    (Op.questionMark.ty == T.colon) = false ∧ Op.questionMark.prec = 16 := by decide +kernel

theorem c_facts : has Op.colon.ty T.leftUnary = true ∧ has Op.colon.ty T.special = false ∧
    has Op.colon.ty T.colon = true ∧ has Op.colon.ty T.binary = false ∧
    has Op.colon.ty T.pairStart = false ∧ has Op.colon.ty T.pairEnd = false ∧
    has Op.colon.ty T.questionMark = false ∧ has Op.colon.ty T.ambiguous = false ∧ has Op.colon.ty T.rightUnary = false ∧
    (Op.colon.ty == T.questionMark) = false ∧ Op.colon.prec = 16 := by decide +kernel

theorem closer_class : ∀ o : Op, has o.ty T.pairEnd = true →
    has o.ty T.pairStart = false ∧ has o.ty T.unary = false ∧ has o.ty T.binary = false ∧
    has o.ty T.leftUnary = false ∧ has o.ty T.rightUnary = false ∧ has o.ty T.pair = true := by
  decide +kernel

theorem kinds_not_pairEnd (o : Op)
    (h : has o.ty T.pairStart = true ∨ has o.ty T.leftUnary = true ∨ has o.ty T.binary = true) :
    has o.ty T.pairEnd = false :=
  Bool.eq_false_iff.2 fun hp => by
    obtain ⟨notStart, -, notBin, notLU, -⟩ := closer_class o hp
    rcases h with h | h | h
    · exact Bool.false_ne_true (notStart.symm.trans h)
    · exact Bool.false_ne_true (notLU.symm.trans h)
    · exact Bool.false_ne_true (notBin.symm.trans h)

theorem pairEnd_of_eq : has Op.parenthesesEnd.ty T.pairEnd = true ∧ has Op.braceEnd.ty T.pairEnd = true ∧
    has Op.bracketEnd.ty T.pairEnd = true := by decide

theorem parenCast_lu : has Op.parenCast.ty T.leftUnary = true := by decide

theorem none_facts : has T.none_ T.pairStart = false ∧ has T.none_ T.unary = false ∧ has T.none_ T.binary = false ∧
    has T.none_ T.pairEnd = false ∧ has T.none_ T.leftUnary = false := by decide

theorem bin_or_amb : ∀ o : Op, has o.ty T.binary = true → has o.ty T.leftUnary = true → has o.ty T.ambiguous = true := by
  decide +kernel

theorem prec_facts : leftAssoc 2 = true ∧ leftAssoc 16 = false := by decide

theorem unary_of_leftUnary : ∀ o : Op, has o.ty T.leftUnary = true → has o.ty T.unary = true := by decide +kernel

/-- an operator token that is not `++`/`--` is not chainable either (a `(` is no operator token) -/
theorem not_chainable_of_not_incDec : ∀ y : Op, (has y.ty T.unary || has y.ty T.binary) = true →
    (has y.ty T.increment || has y.ty T.decrement) = false → has y.ty chainable = false := by decide +kernel

theorem resolveBy_facts : ∀ o ∈ registered, ∀ (b : Bool) (o' : Op), resolveBy b o = some o' →
    o'.str = o.str ∧ has o'.ty T.parenCast = false ∧
    (has o.ty T.ambiguous = true → if b then has o'.ty T.leftUnary = true else (has o'.ty T.binary = true ∨ has o'.ty T.rightUnary = true)) ∧
    (has o.ty T.ambiguous = false → o' = o) ∧
    ((has o.ty T.increment || has o.ty T.decrement) = true → b = false → has o'.ty T.rightUnary = true) := by
  decide +kernel

theorem pair_match (a b : Op) (ha : has a.ty T.pairStart = true) (hb : (b.ty == shl1 a.ty) = true) :
    (a = .parenthesesStart ∧ b = .parenthesesEnd) ∨ (a = .braceStart ∧ b = .braceEnd) ∨
    (a = .bracketStart ∧ b = .bracketEnd) ∨ (a = .cudaCallStart ∧ b = .cudaCallEnd) := by
  have h1 : ∀ a : Op, has a.ty T.pairStart = true →
      a ∈ [Op.parenthesesStart, .braceStart, .bracketStart, .cudaCallStart] := by decide +kernel
  have h2 : ∀ a ∈ [Op.parenthesesStart, .braceStart, .bracketStart, .cudaCallStart], ∀ b : Op, (b.ty == shl1 a.ty) = true →
      (a = .parenthesesStart ∧ b = .parenthesesEnd) ∨ (a = .braceStart ∧ b = .braceEnd) ∨
      (a = .bracketStart ∧ b = .bracketEnd) ∨ (a = .cudaCallStart ∧ b = .cudaCallEnd) := by decide +kernel
  exact h2 a (h1 a ha) b hb

theorem parenCast_preOk : preOk .parenCast = true := by decide

theorem paren_kinds : has Op.parenthesesEnd.ty T.parentheses = true ∧
    has Op.braceEnd.ty T.parentheses = false ∧ has Op.braceEnd.ty T.braces = true ∧
    has Op.bracketEnd.ty T.parentheses = false ∧ has Op.bracketEnd.ty T.brackets = true := by decide

theorem Tok.not_op {t : Tok} (h : ∀ x, t ≠ .op x) : t.opType = T.none_ ∧ tokIsOp t = false := by
  cases t with
  | op x => exact absurd rfl (h x)
  | _ => exact ⟨rfl, rfl⟩

theorem isPairEndTok_some (t : Tok) : isPairEndTok (some t) = has t.opType T.pairEnd := by
  cases t with
  | op o => rfl
  | _ => exact (by decide : false = has T.none_ T.pairEnd)

/-- looking a registered spelling up finds the operator it was taken from: no spelling is registered twice -/
theorem find?_str : ∀ o ∈ registered, registered.find? (fun r => r.str == o.str) = some o := fun _ =>
  TableKeys.find?_of_nodup_map Op.str (TableKeys.nodup_of_codes (fun s => TableKeys.code s.toList) (by decide +kernel))

theorem lexedOp_of_str {o o' : Op} (hreg : o ∈ registered) (h : o'.str = o.str) : lexedOp o' = o := by
  rw [lexedOp, h, find?_str o hreg]; rfl

theorem lexedOp_q : lexedOp .questionMark = .questionMark := lexedOp_of_str (by decide) rfl
theorem lexedOp_c : lexedOp .colon = .colon := lexedOp_of_str (by decide) rfl

theorem special_facts : has Op.parenCast.ty T.special = true ∧ has Op.parenCast.ty T.parenCast = true ∧
    has Op.sizeof_.ty T.special = true ∧ has Op.sizeof_.ty T.parenCast = false ∧ has Op.sizeof_.ty T.sizeof_ = true ∧
    has Op.throw_.ty T.special = true ∧ has Op.throw_.ty T.parenCast = false ∧ has Op.throw_.ty T.sizeof_ = false ∧
    has Op.throw_.ty T.new_ = false ∧ has Op.throw_.ty T.delete_ = false ∧ has Op.throw_.ty T.throw_ = true ∧
    lexedOp .sizeof_ = .sizeof_ ∧ lexedOp .throw_ = .throw_ := by
  refine ⟨?_, ?_, ?_, ?_, ?_, ?_, ?_, ?_, ?_, ?_, ?_, lexedOp_of_str ?_ rfl, lexedOp_of_str ?_ rfl⟩ <;> decide

end Occa.Expr
