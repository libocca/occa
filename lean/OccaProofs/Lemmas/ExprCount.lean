/-
C17 on trees: the iteration count.  The tree `countExpr` is `divStep step base`; its value (`eval_divStep`: a tree for
the span of the header, `Header.span`, under `divStep` is a tree for `count`), its text and the tree it is read as
(`countRead`) are handled through the base.
-/
import OccaProofs.Lemmas.Loop
import OccaProofs.Lemmas.ExprGroup

namespace Occa.LoopExpr
open Occa Occa.Loop

def LoopSpec.larger (l : LoopSpec) : Expr := if l.positive then wrap l.bound else wrap l.init
def LoopSpec.smaller (l : LoopSpec) : Expr := if l.positive then wrap l.init else wrap l.bound

/-- the rounding-up division by the step, the last stage of `countExpr` -/
def divStep (step : Option Expr) (c : Expr) : Expr :=
  match step with
  | none => c
  | some s => .bin "/" (wrap (.bin "-" (.bin "+" c (wrap s)) (.lit 1))) (wrap s)

theorem countExpr_eq (l : LoopSpec) : countExpr l = divStep l.step
    (if l.inclusive then .bin "+" (.lit 1) (.bin "-" l.larger l.smaller) else .bin "-" l.larger l.smaller) := rfl

/-- How the text of `countExpr l` is read: the C++ builds `1 + (larger - smaller)` but prints
    `1 + larger - smaller`, which groups as `(1 + larger) - smaller` (same value).  Everything else of
    the count tree is read as built. -/
def countRead (l : LoopSpec) : Expr := divStep l.step
  (if l.inclusive then .bin "-" (.bin "+" (.lit 1) l.larger) l.smaller else .bin "-" l.larger l.smaller)

theorem eval_divStep (l : LoopSpec) (env : String → Int) {c : Expr} (h : eval env c = (l.header env).span) :
    eval env (divStep l.step c) = count (l.header env) := by
  rw [count_span, header_step, ← h]
  cases l.step <;> simp [divStep, eval]

theorem header_inclusive (l : LoopSpec) (env : String → Int) : (l.header env).inclusive = l.inclusive := rfl

theorem eval_larger (l : LoopSpec) (env : String → Int) :
    eval env l.larger = if (l.header env).positiveUpdate then (l.header env).bound else (l.header env).init := by
  rw [header_positiveUpdate, LoopSpec.larger]
  split <;> exact eval_wrap env _

theorem eval_smaller (l : LoopSpec) (env : String → Int) :
    eval env l.smaller = if (l.header env).positiveUpdate then (l.header env).init else (l.header env).bound := by
  rw [header_positiveUpdate, LoopSpec.smaller]
  split <;> exact eval_wrap env _

theorem countRead_value (l : LoopSpec) (env : String → Int) :
    eval env (countRead l) = count (l.header env) := by
  refine eval_divStep l env ?_
  rw [Header.span, ← eval_larger, ← eval_smaller, header_inclusive]
  split <;> simp [eval]
  omega

theorem print_divStep (step : Option Expr) {c c' : Expr} (h : print c = print c') :
    print (divStep step c) = print (divStep step c') := by
  cases step <;> simp [divStep, print, wrap_bin, h]

theorem countRead_print (l : LoopSpec) : print (countRead l) = print (countExpr l) := by
  rw [countExpr_eq]
  refine print_divStep l.step ?_
  split <;> simp [print, String.append_assoc]

theorem countRead_grouped (l : LoopSpec) (hi : Grouped l.init) (hb : Grouped l.bound)
    (hst : ∀ s, l.step = some s → Grouped s) : Grouped (countRead l) := by
  have hL : Fits 3 l.larger := by unfold LoopSpec.larger; split <;> apply fits_wrap <;> assumption
  have hS : Fits 3 l.smaller := by unfold LoopSpec.smaller; split <;> apply fits_wrap <;> assumption
  have hc : Fits 6 (if l.inclusive then .bin "-" (.bin "+" (.lit 1) l.larger) l.smaller else .bin "-" l.larger l.smaller) := by
    split
    · exact fits_bin "-" (prec_pm false) (fits_bin "+" (prec_pm true) fits_one.mono hL.mono) hS.mono
    · exact fits_bin "-" (prec_pm false) hL.mono hS.mono
  unfold countRead
  cases hstep : l.step with
  | none => exact hc.grouped
  | some s =>
    have hs := fits_wrap (hst s hstep)
    exact (fits_bin "/" prec_div (fits_wrap (fits_bin "-" (prec_pm false) (fits_bin "+" (prec_pm true) hc hs.mono)
      fits_one.mono).grouped).mono hs.mono).grouped

end Occa.LoopExpr
