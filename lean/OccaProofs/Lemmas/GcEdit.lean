/-
What the pieces of a destructor do, as `Killed` facts: the edits of member rings and parent pointers that
only concern destroyed objects (`PreEdit`), the destruction of one object (destructor entry and the loop that
NULLs the wrappers: `killForm`) and of the slices of a buffer.
-/
import OccaProofs.Lemmas.GcInv

namespace Occa.Gc

-- `upd` is used through the lemmas of GcList (`upd_same`, `upd_other`, `upd_apply`, …) only.  Kept opaque, so
-- that the comparison of a state with an updated state (tried first whenever a field of one is compared with
-- a field of the other) fails at once instead of evaluating `upd`.
attribute [local irreducible] upd

@[simp] theorem St.touch_alive {s : St} {o : Nat} (h : s.alive o = true) : s.touch o = s := by
  simp [St.touch, h]

/-- `s1` is `s` with entries removed from member rings and parent pointers changed, but only for
    objects that are in `K` or already destroyed.  Two uses: an edit before `K` is destroyed (`Killed.pre_edit`:
    `freeRing` takes an object out of the device's ring, then deletes it), and, with `K = []`, an edit about objects
    destroyed before (`PreEdit.killed`: `modeBuffer = NULL` at the end of `~modeMemory_t`) -/
structure PreEdit (s s1 : St) (K : List Nat) : Prop where
  next : s1.next = s.next
  kind : s1.kind = s.kind
  trap : s1.trap = s.trap
  useRefs : s1.useRefs = s.useRefs
  inner : s1.inner = s.inner
  vlive : s1.vlive = s.vlive
  alive : s1.alive = s.alive
  dtors : s1.dtors = s.dtors
  ring : s1.ring = s.ring
  ptr : s1.ptr = s.ptr
  par : ∀ o, o ∉ K → s.alive o = true → s1.par o = s.par o
  kidsS : ∀ b x, x ∈ s1.kids b → x ∈ s.kids b
  kidsU : ∀ b x, x ∈ s.kids b → s.alive x = true → x ∉ K → b ∉ K → x ∈ s1.kids b
  kidsN : ∀ b, (s.kids b).Nodup → (s1.kids b).Nodup
  chS : ∀ k d x, x ∈ s1.chGet k d → x ∈ s.chGet k d
  chU : ∀ k d x, x ∈ s.chGet k d → s.alive x = true → x ∉ K → d ∉ K → x ∈ s1.chGet k d
  chN : ∀ k d, (s.chGet k d).Nodup → (s1.chGet k d).Nodup

theorem PreEdit.refl (s : St) (K : List Nat) : PreEdit s s K :=
  ⟨rfl, rfl, rfl, rfl, rfl, rfl, rfl, rfl, rfl, rfl, fun _ _ _ => rfl, fun _ _ h => h, fun _ _ h _ _ _ => h,
    fun _ h => h, fun _ _ _ h => h, fun _ _ _ h _ _ _ => h, fun _ _ h => h⟩

theorem Killed.pre_edit {s s1 s2 : St} {K : List Nat} (he : PreEdit s s1 K) (hk : Killed s1 K s2) :
    Killed s K s2 := by
  have al : ∀ {x}, s.alive x = true → s1.alive x = true := fun h => he.alive ▸ h
  exact ⟨hk.next.trans he.next, hk.kind.trans he.kind, hk.trap.trans he.trap, hk.useRefs.trans he.useRefs,
    hk.inner.trans he.inner, hk.vlive.trans he.vlive, fun o => he.alive ▸ hk.alive o, fun o => he.dtors ▸ hk.dtors o,
    fun o => he.ring ▸ hk.ring o, fun v o ho hv => hk.ptrK v o ho (he.ring ▸ hv),
    fun v hv => (hk.ptrU v (he.ring ▸ hv)).trans (congrFun he.ptr v),
    fun o ho ha => (hk.par o ho (al ha)).trans (he.par o ho ha),
    fun b x => he.kidsS b x ∘ hk.kidsS b x,
    fun b x hx ha hx' hb => hk.kidsU b x (he.kidsU b x hx ha hx' hb) (al ha) hx' hb,
    fun b => hk.kidsN b ∘ he.kidsN b, fun k d x => he.chS k d x ∘ hk.chS k d x,
    fun k d x hx ha hx' hd => hk.chU k d x (he.chU k d x hx ha hx' hd) (al ha) hx' hd,
    fun k d => hk.chN k d ∘ he.chN k d⟩

theorem PreEdit.killed {s s1 : St} (he : PreEdit s s1 []) : Killed s [] s1 :=
  Killed.pre_edit he (Killed.refl s1)

theorem ne_of_gone {s : St} {K : List Nat} {m x : Nat} (hm : m ∈ K ∨ s.alive m = false)
    (ha : s.alive x = true) (hx : x ∉ K) : x ≠ m := by
  rintro rfl
  rcases hm with hm | hm
  · exact hx hm
  · rw [hm] at ha; cases ha

theorem preEdit_setKids_remove {s : St} {K : List Nat} (b m : Nat) (hn : (s.kids b).Nodup)
    (hm : m ∈ K ∨ s.alive m = false) : PreEdit s (s.setKids b (Ring.remove (s.kids b) m)) K :=
  { PreEdit.refl s K with
    kidsS := fun b' x hx => ((mem_upd_remove hn b' x).mp hx).1
    kidsU := fun b' x hx ha hxK _ => (mem_upd_remove hn b' x).mpr ⟨hx, fun _ => ne_of_gone hm ha hxK⟩
    kidsN := nodup_upd_remove hn }

theorem preEdit_setPar {s : St} {K : List Nat} (m : Nat) (p : Option Nat)
    (hm : m ∈ K ∨ s.alive m = false) : PreEdit s (s.setPar m p) K :=
  { PreEdit.refl s K with par := fun _ ho ha => upd_other _ _ (ne_of_gone hm ha ho) }

theorem preEdit_chSet_remove {s : St} {K : List Nat} (k : Kind) (d c : Nat) (hn : (s.chGet k d).Nodup)
    (hc : c ∈ K ∨ s.alive c = false) : PreEdit s (s.chSet k d (Ring.remove (s.chGet k d) c)) K := by
  have hm := fun k' d' x => mem_chSet_remove (c := c) hn k' d' x
  have hnd : ∀ k' d', (s.chGet k' d').Nodup → ((s.chSet k d (Ring.remove (s.chGet k d) c)).chGet k' d').Nodup :=
    fun _ _ => nodup_chSet (Ring.nodup_remove hn c)
  -- only the device's rings differ from `s`
  obtain ⟨a, b, c', he⟩ := chSet_eq s k d (Ring.remove (s.chGet k d) c)
  rw [he] at hm hnd ⊢
  exact { PreEdit.refl s K with
    chS := fun k' d' x hx => ((hm k' d' x).mp hx).1
    chU := fun k' d' x hx ha hxK _ => (hm k' d' x).mpr ⟨hx, fun _ => ne_of_gone hc ha hxK⟩
    chN := hnd }

theorem preEdit_addBytes {s : St} {K : List Nat} (d : Nat) (n : Int) : PreEdit s (s.addBytes d n) K :=
  { PreEdit.refl s K with }

theorem nullWrappers_eq (o : Nat) (s : St) : ∀ (n : Nat) (r : Nat → List Var) (p : Var → Option Nat),
    (r o).length = n → (r o).Nodup →
    nullWrappers n { s with ring := r, ptr := p } o =
      { s with ring := upd r o [], ptr := fun v => if v ∈ r o then none else p v } := by
  intro n
  induction n with
  | zero =>
    intro r p hl _
    have h0 : r o = [] := List.length_eq_zero_iff.mp hl
    have h1 := upd_self r o
    rw [h0] at h1
    simp only [nullWrappers, h0, h1, List.not_mem_nil, if_false]
  | succ n ih =>
    intro r p hl hn
    match hr : r o, hl with
    | [], hl => nomatch hl
    | v :: t, hl =>
      have hn' : (v :: t).Nodup := hr ▸ hn
      have hr1 : upd r o (Ring.remove (r o) v) o = Ring.remove (v :: t) v := by rw [upd_same, hr]
      have hstep : nullWrappers (n+1) { s with ring := r, ptr := p } o
          = nullWrappers n { s with ring := upd r o (Ring.remove (r o) v), ptr := upd p v none } o := by
        conv => lhs; unfold nullWrappers
        simp only [hr]
        rfl
      rw [hstep, ih _ _ (by rw [hr1, Ring.remove_head_length]; simpa using hl)
        (by rw [hr1]; exact Ring.nodup_remove hn' v), upd_upd]
      congr 1
      funext w
      simp only [hr1, Ring.mem_remove hn', List.mem_cons, upd_apply]
      by_cases hw : w = v <;> simp [hw]

/-- closed form of "destructor entry; NULL all wrappers" -/
def killForm (s : St) (o : Nat) : St :=
  { s with alive := upd s.alive o false, dtors := upd s.dtors o (s.dtors o + 1),
           ring := upd s.ring o [], ptr := fun v => if v ∈ s.ring o then none else s.ptr v }

@[simp] theorem died_kind (s : St) (o : Nat) : (s.died o).kind = s.kind := by
  unfold St.died; split <;> rfl

theorem died_eq {s : St} {o : Nat} (ha : s.alive o = true) :
    s.died o = { s with alive := upd s.alive o false, dtors := upd s.dtors o (s.dtors o + 1) } := by
  simp [St.died, ha]

theorem nullWrappers_died_eq {s : St} {o : Nat} (ha : s.alive o = true) (hn : (s.ring o).Nodup) :
    nullWrappers ((s.died o).ring o).length (s.died o) o = killForm s o := by
  have h := nullWrappers_eq o (s.died o) _ _ (s.died o).ptr rfl (show ((s.died o).ring o).Nodup by rw [died_eq ha]; exact hn)
  rw [died_eq ha] at h ⊢
  exact h

theorem died_eq_killForm {s : St} {o : Nat} (ha : s.alive o = true) (hr : s.ring o = []) :
    s.died o = killForm s o := by
  have h := nullWrappers_died_eq ha (hr ▸ List.nodup_nil)
  have hr' : (s.died o).ring o = [] := by rw [died_eq ha]; exact hr
  rwa [hr'] at h

@[simp] theorem killForm_chGet (s : St) (o : Nat) (k : Kind) (d : Nat) :
    (killForm s o).chGet k d = s.chGet k d := by cases k <;> rfl

theorem killForm_killed {s : St} {o : Nat} : Killed s [o] (killForm s o) :=
  { PreEdit.refl s [o] with
    alive := fun x => by by_cases hx : x = o <;> simp [killForm, upd_apply, hx]
    dtors := fun x => by
      by_cases hx : x = o
      · simp [killForm, hx]
      · simp [killForm, upd_apply, hx, Ne.symm hx]
    ring := fun x => by by_cases hx : x = o <;> simp [killForm, upd_apply, hx]
    ptrK := fun v x hx hv => if_pos (List.mem_singleton.mp hx ▸ hv)
    ptrU := fun v hv => if_neg (hv o (List.mem_singleton_self o)) }

theorem destroySlices_killed (b : Nat) : ∀ (n : Nat) (s : St), (s.kids b).length = n → (s.kids b).Nodup →
    (∀ m ∈ s.kids b, s.alive m = true ∧ (s.ring m).Nodup) →
    (Killed s (s.kids b) (destroySlices n s b) ∧ (destroySlices n s b).kids b = []
      ∧ (∀ x, x ∉ s.kids b → (destroySlices n s b).par x = s.par x)
      ∧ (∀ x, x ≠ b → (destroySlices n s b).kids x = s.kids x)) := by
  intro n
  induction n with
  | zero =>
    intro s hl _ _
    have h0 : s.kids b = [] := List.length_eq_zero_iff.mp hl
    rw [h0]
    exact ⟨Killed.refl s, h0, fun _ _ => rfl, fun _ _ => rfl⟩
  | succ n ih =>
    intro s hl hn hk
    match hr : s.kids b, hl with
    | [], hl => nomatch hl
    | m :: t, hl =>
      have hn' : (m :: t).Nodup := hr ▸ hn
      obtain ⟨hma, hmr⟩ := hk m (hr ▸ List.mem_cons_self)
      -- one round: `m` leaves the ring of `b`, loses its parent and is destroyed
      let s1 : St := (s.setKids b (Ring.remove (s.kids b) m)).setPar m none
      have hstep : destroySlices (n+1) s b = destroySlices n (dtorMemBody s1 m) b := by
        conv => lhs; unfold destroySlices
        simp only [hr, s1]
      have h2 : dtorMemBody s1 m = killForm s1 m := nullWrappers_died_eq (s := s1) hma hmr
      have hk1 : Killed s [m] (killForm s1 m) :=
        Killed.pre_edit (preEdit_setKids_remove b m hn (Or.inl (List.mem_singleton_self m)))
          (Killed.pre_edit (preEdit_setPar m none (Or.inl (List.mem_singleton_self m))) killForm_killed)
      have hkids : (killForm s1 m).kids b = Ring.remove (m :: t) m := by
        show upd s.kids b _ b = _
        rw [upd_same, hr]
      have hmem := Ring.mem_remove hn' m
      obtain ⟨i1, i2, i3, i4⟩ := ih (killForm s1 m) (by rw [hkids, Ring.remove_head_length]; simpa using hl)
        (by rw [hkids]; exact Ring.nodup_remove hn' m)
        (fun x hx => by
          obtain ⟨hx1, hx2⟩ := (hmem x).mp (hkids ▸ hx)
          obtain ⟨hxa, hxr⟩ := hk x (hr ▸ hx1)
          refine ⟨(upd_other _ _ hx2).trans hxa, ?_⟩
          show (upd s.ring m [] x).Nodup
          rwa [upd_other _ _ hx2])
      rw [hstep, h2]
      refine ⟨?_, i2, fun x hx => ?_, fun x hx => (i4 x hx).trans (upd_other _ _ hx)⟩
      · -- the rest of the ring is walked starting from its last entry
        have hp := Ring.remove_perm_erase (m :: t) m
        rw [List.erase_cons_head] at hp
        exact Killed.perm (hp.cons m) (hkids ▸ hk1.trans i1)
      · rw [i3 x fun h => hx ((hmem x).mp (hkids ▸ h)).1]
        exact upd_other _ _ fun h => hx (h ▸ List.mem_cons_self)

end Occa.Gc
