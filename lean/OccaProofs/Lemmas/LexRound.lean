/-
Helper lemmas for C12: well-formed tokens and the round trip over a whitespace-separated token list.  The printed text
is NUL-free piece by piece (`printTok_noNul`), so `cstr` leaves it whole.
-/
import OccaProofs.Lemmas.LexNum
import OccaProofs.Lemmas.LexLoop
import OccaProofs.Lemmas.LexRaw

namespace Occa.Lex
open Occa.Gen

/-- The well-formedness predicate of the round trip: the token values of the C/OKL lexical grammar (a subset
    of what the scanner can produce; see the per-kind structures). -/
inductive TokWF : Tok → Prop
  | ident {w : Str} : IdentWF w → TokWF (.ident w)
  | prim {w : Str} : NumWF w → TokWF (.prim w)
  | op {id : Nat} {sp : Str} : OpWF id sp → TokWF (.op id)
  | str {enc : Nat} {v udf : Str} : StrWF enc v udf → TokWF (.str enc v udf)
  | rawstr {enc : Nat} {v udf : Str} : RawWF enc v udf → TokWF (.str enc v udf)
  | chr {enc : Nat} {v udf : Str} : ChrWF enc v udf → TokWF (.chr enc v udf)
  | lineComment {w : Str} : LineCommentWF w → TokWF (.comment w)
  | blockComment {w : Str} : BlockCommentWF w → TokWF (.comment w)

/-- a line comment must be followed by a newline (anything else would become part of it) -/
def NeedsNewline : Tok → Prop
  | .comment w => ['/', '/'].isPrefixOf w = true
  | _ => False

theorem printTok_op {id : Nat} {sp : Str} (h : OpWF id sp) : printTok (.op id) = sp := by
  have := h.reg
  simp [printTok, List.getD_eq_getElem?_getD, this]

theorem getToken_tok {t : Tok} (h : TokWF t) {c : Char} (hc : IsWs c) (hnl : NeedsNewline t → c = '\n') (r : Str) :
    getToken (printTok t ++ c :: r) = .ok (some t, 0, c :: r) := by
  cases h with
  | ident hw => exact getToken_ident hw hc r
  | prim hw => exact getToken_prim hw hc r
  | op hw => rw [printTok_op hw]; exact getToken_op hw hc r
  | str hw => exact getToken_str hw hc r
  | rawstr hw => exact getToken_rawstr hw hc r
  | chr hw => exact getToken_chr hw hc r
  | @lineComment w hw =>
    obtain ⟨b, rfl, _⟩ := hw.body
    have : c = '\n' := hnl (by simp [NeedsNewline])
    subst this
    exact getToken_lineComment hw r
  | blockComment hw =>
    have := getToken_blockComment hw (c :: r)
    simpa [printTok] using this

theorem noNul_escape {q : Char} (hq : q ≠ '\\') (hn : q ≠ NUL) {v : Str} (h : ValUnits q v) : NoNul (escape q v) :=
  noNul_units (escape_units hq hn h) (fun _ h => h.2.2) (fun _ h => h)

theorem noNul_ident {w : Str} (h : ∀ x ∈ w, x ∈ identifier) : NoNul w :=
  fun c hc => (ident_facts c (h c hc)).2.1

theorem noNul_udf {udf : Str} (h : UdfWF udf) : NoNul udf := by
  rcases h with rfl | ⟨u, rfl, hu⟩
  · intro c hc; cases hc
  · exact noNul_cons (by decide) (noNul_ident hu)

theorem noNul_ite {p : Prop} [Decidable p] {a b : Str} (ha : NoNul a) (hb : NoNul b) : NoNul (if p then a else b) := by
  split <;> assumption

theorem encPrefix_noNul (enc : Nat) : NoNul (encPrefix enc) :=
  noNul_ite (noNul_ite (by decide) (noNul_ite (by decide) (noNul_ite (by decide) (noNul_ite (by decide) (by decide)))))
    (by decide)

theorem charPrefix_noNul (enc : Nat) : NoNul (charPrefix enc) :=
  noNul_ite (by decide) (noNul_ite (by decide) (noNul_ite (by decide) (by decide)))

theorem LitPrefix.noNul {k : Nat → Kind} {q : Char} {enc : Nat} {w : Str} (h : LitPrefix k q enc w) : NoNul w := by
  rcases h with ⟨-, rfl⟩ | ⟨-, hw, -⟩
  · intro c hc; cases hc
  · exact noNul_ident hw.rest

theorem printTok_noNul {t : Tok} (h : TokWF t) : NoNul (printTok t) ∧ printTok t ≠ [] := by
  cases h with
  | ident hw =>
    obtain ⟨a, t, rfl⟩ := nonempty_of_idStart (by simpa using hw.start)
    exact ⟨noNul_ident hw.rest, by simp [printTok]⟩
  | prim hw =>
    obtain ⟨a, t, rfl, _⟩ := num_first hw
    exact ⟨noNul_num hw, by simp [printTok]⟩
  | @op id sp hw =>
    rw [printTok_op hw]
    have hm : sp ∈ registered := List.mem_of_getElem? hw.reg
    exact ⟨fun c hc => (registered_clean hm hc).2.1, registered_nonempty hm⟩
  | @str enc v udf hw =>
    obtain ⟨hl, henc⟩ := strPrefix_lit enc (List.mem_cons.mpr hw.enc)
    rw [printTok_str henc]
    refine ⟨?_, by simp⟩
    apply noNul_append hl.noNul
    apply noNul_cons (by decide)
    apply noNul_append (noNul_escape (by decide) (by decide) hw.val)
    exact noNul_cons (by decide) (noNul_udf hw.udf)
  | @rawstr enc v udf hw =>
    obtain ⟨hl, hr1⟩ := rawPrefix_lit enc hw.enc
    rw [printTok_raw hr1]
    obtain ⟨hdel, _⟩ := pickDelim_spec v (v.length + 1) [] (by simp) (by simp)
    have hdn : NoNul (pickDelim v (v.length + 1) []) := fun c hc => by rw [hdel c hc]; decide
    refine ⟨?_, by simp⟩
    apply noNul_append hl.noNul
    apply noNul_cons (by decide)
    apply noNul_append _ (noNul_udf hw.udf)
    apply noNul_append hdn
    apply noNul_cons (by decide)
    apply noNul_append hw.val
    exact noNul_cons (by decide) (noNul_append hdn (by decide))
  | @chr enc v udf hw =>
    rw [printTok_chr]
    refine ⟨?_, by simp⟩
    apply noNul_append (chrPrefix_lit enc (List.mem_cons.mpr hw.enc)).noNul
    apply noNul_cons (by decide)
    apply noNul_append (noNul_escape (by decide) (by decide) hw.val)
    exact noNul_cons (by decide) (noNul_udf hw.udf)
  | lineComment hw =>
    obtain ⟨b, rfl, hb⟩ := hw.body
    refine ⟨?_, by simp [printTok]⟩
    exact noNul_cons (by decide) (noNul_cons (by decide) (noNul_units hb (fun _ h => h.2) (fun _ h => h)))
  | blockComment hw =>
    obtain ⟨b, rfl, _, hb⟩ := hw.body
    refine ⟨?_, by simp [printTok]⟩
    apply noNul_cons (by decide)
    apply noNul_cons (by decide)
    exact noNul_append hb (by decide)

/-- the printed text of a list of tokens, each followed by its separator -/
def printSeq : List (Tok × Str) → Str
  | [] => []
  | (t, sep) :: l => printTok t ++ (sep ++ printSeq l)

/-- the tokens expected back: the originals, a newline token for every newline of a separator, and the
    end-of-source newline when the text ends in blanks -/
def expectSeq : List (Tok × Str) → List Tok
  | [] => []
  | [(t, sep)] => t :: sepEnd sep
  | (t, sep) :: l => t :: (sepMid sep ++ expectSeq l)

/-- an item of the round trip: a well-formed token and the separator that follows it — a whitespace
    character, then any whitespace characters and line continuations -/
structure ItemWF (p : Tok × Str) : Prop where
  tok : TokWF p.1
  sep : SepWF p.2
  first : IsWs (hd p.2)
  nl : NeedsNewline p.1 → hd p.2 = '\n'

theorem printSeq_noNul {l : List (Tok × Str)} (h : ∀ p ∈ l, ItemWF p) : NoNul (printSeq l) := by
  induction l with
  | nil => intro c hc; cases hc
  | cons p l ih =>
    obtain ⟨t, sep⟩ := p
    have hp := h (t, sep) (by simp)
    exact noNul_append (printTok_noNul hp.tok).1
      (noNul_append (noNul_sep hp.sep) (ih (fun q hq => h q (by simp [hq]))))

theorem ItemWF.sep_cons {p : Tok × Str} (h : ItemWF p) : ∃ c s, p.2 = c :: s ∧ IsWs c := by
  obtain ⟨t, sep⟩ := p
  cases sep with
  | nil => exact absurd (show IsWs NUL by simpa using h.first) (by decide)
  | cons c s => exact ⟨c, s, rfl, by simpa using h.first⟩

theorem roundtrip_lexes {l : List (Tok × Str)} (h : ∀ p ∈ l, ItemWF p) : Lexes (printSeq l) (expectSeq l) 0 := by
  induction l with
  | nil => exact .nil
  | cons p l ih =>
    have hp := h p (by simp)
    have ih := ih fun q hq => h q (by simp [hq])
    obtain ⟨t, sep⟩ := p
    obtain ⟨c, sep', rfl, hc⟩ := hp.sep_cons
    have hnl : NeedsNewline t → c = '\n' := fun hn => by simpa using hp.nl hn
    have hpos : 0 < (printTok t).length := List.length_pos_iff.mpr (printTok_noNul hp.tok).2
    have key : ∀ {R ts}, Lexes (c :: sep' ++ R) ts 0 → Lexes (printTok t ++ (c :: sep' ++ R)) (t :: ts) 0 := fun hR =>
      .step (getToken_tok hp.tok hc hnl _) (by simp only [List.length_append]; omega) hR
    cases l with
    | nil => simpa [printSeq, expectSeq] using key (R := []) (by simpa using Lexes.sepEnd hp.sep)
    | cons q l' =>
      have hRne : printSeq (q :: l') ≠ [] := fun e0 =>
        (printTok_noNul (h q (by simp)).tok).2 (List.append_eq_nil_iff.mp e0).1
      simpa [printSeq, expectSeq] using key (Lexes.sepMid hp.sep hRne ih)

theorem roundtrip_tokenize {l : List (Tok × Str)} (h : ∀ p ∈ l, ItemWF p) :
    tokenizeBytes (printSeq l) = .ok ⟨expectSeq l, 0⟩ := by
  rw [tokenizeBytes, cstr_of_noNul (printSeq_noNul h), tokenize]
  simpa using roundtrip_lexes h _ (Nat.lt_succ_self _) 0 []

theorem filter_newlines {l : List Tok} (h : ∀ t ∈ l, t = .newline) : l.filter (· != .newline) = [] :=
  List.filter_eq_nil_iff.mpr fun t ht => by simp [h t ht]

theorem TokWF.ne_newline {t : Tok} (h : TokWF t) : (t != .newline) = true := by cases h <;> rfl

theorem expectSeq_filter {l : List (Tok × Str)} (h : ∀ p ∈ l, ItemWF p) :
    (expectSeq l).filter (· != .newline) = l.map (·.1) := by
  induction l with
  | nil => rfl
  | cons p l ih =>
    have ih := ih fun q hq => h q (List.mem_cons_of_mem _ hq)
    have ht := (h p List.mem_cons_self).tok.ne_newline
    cases l with
    | nil => simp [expectSeq, ht, filter_newlines (sepEnd_newlines _)]
    | cons q l => simp [expectSeq, ht, filter_newlines (sepMid_newlines _), ih]

/-- the double quote, for use where a bare quote character would unbalance a line -/
abbrev DQ : Char := '"'

end Occa.Lex
