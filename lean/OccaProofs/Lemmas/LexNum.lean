/-
Helper lemmas for C12: numeric literals of the C/OKL grammar are read back completely by the scanner
part of primitive::load when a separator follows.
-/
import OccaProofs.Lemmas.LexFrame

namespace Occa.Lex
open Occa.Gen

/-- suffix letters of a decimal or floating literal: u U l L f F in any combination -/
abbrev IsSfx (s : Char) : Prop := isLU s = true ∨ isF s = true

/-- a character after which the digits of a decimal literal end, and that does not turn `0` into a prefix -/
abbrev EndsDigits (y : Char) : Prop := isDigitOrDot y = false ∧ y ≠ 'b' ∧ y ≠ 'B' ∧ y ≠ 'x' ∧ y ≠ 'X'

theorem sfx_facts {s : Char} (h : IsSfx s) : EndsDigits s ∧ isE s = false := by
  rcases h with h | h
  · have : ((s = 'l' ∨ s = 'L') ∨ s = 'u') ∨ s = 'U' := by simpa [isLU] using h
    rcases this with ((rfl | rfl) | rfl) | rfl <;> decide
  · have : s = 'f' ∨ s = 'F' := by simpa [isF] using h
    rcases this with rfl | rfl <;> decide

theorem lu_facts {s : Char} (h : isLU s = true) : isHex s = false ∧ isBin s = false := by
  have : ((s = 'l' ∨ s = 'L') ∨ s = 'u') ∨ s = 'U' := by simpa [isLU] using h
  rcases this with ((rfl | rfl) | rfl) | rfl <;> decide

theorem suffixLoop_sfx (ld : Str → Option Str) {sfx : Str} (h : ∀ s ∈ sfx, IsSfx s) (T : Str) :
    suffixLoop ld (sfx ++ T) = suffixLoop ld T := by
  induction sfx with
  | nil => rfl
  | cons s sfx ih =>
    have ih' := ih (fun x hx => h x (by simp [hx]))
    rw [List.cons_append, suffixLoop]
    rcases h s (by simp) with hs | hs
    · simp [hs, ih']
    · have := (sfx_facts (Or.inr hs)).2
      by_cases hl : isLU s = true
      · simp [hl, ih']
      · simp [hl, this, hs, ih']

theorem suffixLoop_ws (ld : Str → Option Str) {sfx : Str} (h : ∀ s ∈ sfx, IsSfx s) {c : Char} (hc : IsWs c) (r : Str) :
    suffixLoop ld (sfx ++ c :: r) = c :: r := by
  have hl := (ws_load hc).sfx
  rw [suffixLoop_sfx ld h]
  simp [suffixLoop, hl.1, hl.2.1, hl.2.2]

theorem suffixLoop_exp (ld : Str → Option Str) {sfx : Str} (h : ∀ s ∈ sfx, IsSfx s) {e : Char} (he : isE e = true) (rest : Str) :
    suffixLoop ld (sfx ++ e :: rest) = (ld rest).getD rest := by
  have hel : isLU e = false := by
    have : e = 'e' ∨ e = 'E' := by simpa [isE] using he
    rcases this with rfl | rfl <;> decide
  rw [suffixLoop_sfx ld h]
  simp [suffixLoop, hel, he]

/-- the optional sign of an exponent -/
abbrev IsSign (sg : Str) : Prop := sg = [] ∨ sg = ['+'] ∨ sg = ['-']

/-- what may follow the digits of a decimal literal: suffix letters, or suffix letters, an exponent
    (`e`, optional sign, digits) and suffix letters -/
inductive DecTail : Str → Prop
  | plain {s1 : Str} : (∀ s ∈ s1, IsSfx s) → DecTail s1
  | exp {s1 : Str} {e : Char} {sg ds s2 : Str} : (∀ s ∈ s1, IsSfx s) → isE e = true → IsSign sg → ds ≠ [] →
      (∀ d ∈ ds, isDigit d = true) → (∀ s ∈ s2, IsSfx s) → DecTail (s1 ++ e :: (sg ++ (ds ++ s2)))

/-- numeric literals: `true`/`false`, binary, hexadecimal, decimal/octal/floating -/
inductive NumWF : Str → Prop
  | tru : NumWF ['t', 'r', 'u', 'e']
  | fls : NumWF ['f', 'a', 'l', 's', 'e']
  | bin {x : Char} {ds suf : Str} : (x = 'b' ∨ x = 'B') → ds ≠ [] → (∀ d ∈ ds, isBin d = true) →
      (∀ s ∈ suf, isLU s = true) → NumWF ('0' :: x :: (ds ++ suf))
  | hex {x : Char} {ds suf : Str} : (x = 'x' ∨ x = 'X') → ds ≠ [] → (∀ d ∈ ds, isHex d = true) →
      (∀ s ∈ suf, isLU s = true) → NumWF ('0' :: x :: (ds ++ suf))
  | dec {m tail : Str} : (∀ d ∈ m, isDigitOrDot d = true) → (∃ d ∈ m, isDigit d = true) → DecTail tail →
      NumWF (m ++ tail)

theorem dd_facts {d : Char} (h : isDigitOrDot d = true) :
    (d ≠ 'b' ∧ d ≠ 'B' ∧ d ≠ 'x' ∧ d ≠ 'X') ∧ (d ≠ 't' ∧ d ≠ 'f' ∧ d ≠ '+' ∧ d ≠ '-') ∧ Starts d := by
  have hw : ∀ x ∈ whitespaceNoNewline, isDigitOrDot x = false := by decide
  refine ⟨⟨?_, ?_, ?_, ?_⟩, ⟨?_, ?_, ?_, ?_⟩, ⟨?_, fun hm => ?_, ?_⟩⟩
  case refine_10 => rw [hw d hm] at h; cases h
  all_goals (intro e; subst e; revert h; decide)

theorem digit_facts {d : Char} (h : isDigit d = true) : isDigitOrDot d = true ∧ d ∉ lexWhitespace := by
  have hw : ∀ x ∈ lexWhitespace, isDigit x = false := by decide
  exact ⟨by simp [isDigitOrDot, h], fun hm => by rw [hw d hm] at h; cases h⟩

theorem ends_e {e : Char} (h : isE e = true) : EndsDigits e := by
  have : e = 'e' ∨ e = 'E' := by simpa [isE] using h
  rcases this with rfl | rfl <;> decide

theorem ends_nul : EndsDigits NUL := by decide

theorem loadFormatted_dec {m : Str} (hm : ∀ d ∈ m, isDigitOrDot d = true) (T : Str) (hT : EndsDigits (hd T)) :
    loadFormatted (m ++ T) = none := by
  refine loadFormatted_none fun x t e => ?_
  cases m with
  | nil =>
    rw [List.nil_append] at e
    rw [e] at hT
    exact absurd (show isDigitOrDot '0' = false from hT.1) (by decide)
  | cons d0 m =>
    -- `x` is the first character of `m ++ T`
    have hx := hd_append_of_all (P := fun y => y ≠ 'b' ∧ y ≠ 'B' ∧ y ≠ 'x' ∧ y ≠ 'X') T
      (fun y hy => (dd_facts (hm y (List.mem_cons_of_mem _ hy))).1) hT.2
    rw [List.cons_append, List.cons.injEq] at e
    rwa [e.2] at hx

theorem loadBody_dec (ld : Str → Option Str) {m : Str} (hm : ∀ d ∈ m, isDigitOrDot d = true)
    (hany : ∃ d ∈ m, isDigit d = true) (T : Str) (hT : EndsDigits (hd T)) :
    loadBody ld (m ++ T) = some (suffixLoop ld T) := by
  have hrun := takeWhile_run hm hT.1
  have hany' : ∃ x, x ∈ m ∧ isDigit x = true := hany
  simp [loadBody, loadFormatted_dec hm T hT, hrun.1, hrun.2, hany']

theorem loadF_exponent (f : Nat) {sg ds s2 : Str} (hsg : IsSign sg) (hne : ds ≠ []) (hds : ∀ d ∈ ds, isDigit d = true)
    (hs2 : ∀ s ∈ s2, IsSfx s) {c : Char} (hc : IsWs c) (r : Str) :
    loadF (f + 1) true (sg ++ (ds ++ (s2 ++ c :: r))) = some (c :: r) := by
  obtain ⟨d0, ds', rfl⟩ := List.exists_cons_of_ne_nil hne
  have hm : ∀ d ∈ d0 :: ds', isDigitOrDot d = true := fun d hd' => (digit_facts (hds d hd')).1
  have hT : EndsDigits (hd (s2 ++ c :: r)) :=
    hd_append_of_all (P := EndsDigits) _ (fun s hs => (sfx_facts (hs2 s hs)).1) (by simpa using (ws_load hc).digits)
  have hbody := loadBody_dec (loadF f true) hm ⟨d0, by simp, hds d0 (by simp)⟩ (s2 ++ c :: r) hT
  rw [suffixLoop_ws _ hs2 hc] at hbody
  have hws := (digit_facts (hds d0 (by simp))).2
  rcases hsg with rfl | rfl | rfl
  · exact (loadF_of_hd f true (dd_facts (hm d0 (by simp))).2.1 _).trans hbody
  · exact (loadF_signed f (Or.inl rfl) hws _).trans hbody
  · exact (loadF_signed f (Or.inr rfl) hws _).trans hbody

theorem loadF_dec (f : Nat) (s : Bool) {m tail : Str} (hm : ∀ d ∈ m, isDigitOrDot d = true)
    (hany : ∃ d ∈ m, isDigit d = true) (ht : DecTail tail) {c : Char} (hc : IsWs c) (r : Str) :
    loadF (f + 2) s (m ++ (tail ++ c :: r)) = some (c :: r) := by
  obtain ⟨d0, m', rfl⟩ : ∃ d0 m', m = d0 :: m' :=
    have ⟨_, hd', _⟩ := hany
    List.exists_cons_of_ne_nil (List.ne_nil_of_mem hd')
  rw [List.cons_append, loadF_of_hd _ s (dd_facts (hm d0 (by simp))).2.1, ← List.cons_append]
  cases ht with
  | plain h1 =>
    have hT : EndsDigits (hd (tail ++ c :: r)) :=
      hd_append_of_all (P := EndsDigits) _ (fun s hs => (sfx_facts (h1 s hs)).1) (by simpa using (ws_load hc).digits)
    rw [loadBody_dec _ hm hany _ hT, suffixLoop_ws _ h1 hc]
  | @exp s1 e sg ds s2 h1 he hsg hne hds h2 =>
    have hT : EndsDigits (hd (s1 ++ e :: (sg ++ (ds ++ s2)) ++ c :: r)) := by
      rw [List.append_assoc]
      exact hd_append_of_all (P := EndsDigits) _ (fun s hs => (sfx_facts (h1 s hs)).1) (by simpa using ends_e he)
    rw [loadBody_dec _ hm hany _ hT]
    have e1 : s1 ++ e :: (sg ++ (ds ++ s2)) ++ c :: r = s1 ++ e :: (sg ++ (ds ++ (s2 ++ c :: r))) := by simp
    rw [e1, suffixLoop_exp _ h1 he, loadF_exponent f hsg hne hds h2 hc r]
    rfl

/-- binary and hexadecimal literals: `hx` says that `x` selects the digit test `p` -/
theorem loadF_formatted (f : Nat) (s : Bool) {x : Char} {ds suf : Str} {p : Char → Bool}
    (hx : ∀ t, loadFormatted ('0' :: x :: t) = some (loadDigits p t))
    (hne : ds ≠ []) (hds : ∀ d ∈ ds, p d = true) (hsuf : ∀ s ∈ suf, isLU s = true) (hpsuf : ∀ s ∈ suf, p s = false)
    {c : Char} (hc : IsWs c) (hpc : p c = false) (r : Str) :
    loadF (f + 1) s ('0' :: x :: (ds ++ (suf ++ c :: r))) = some (c :: r) := by
  have hrun := takeWhile_run hds (hd_append_of_all (P := fun y => p y = false) (c :: r) hpsuf hpc)
  have hlu : (suf ++ c :: r).dropWhile isLU = c :: r := (takeWhile_run hsuf (T := c :: r) (ws_load hc).sfx.1).2
  have hdig : loadDigits p (ds ++ (suf ++ c :: r)) = some (suf ++ c :: r) := by
    rw [loadDigits, hrun.1, hrun.2, if_neg (by simpa using hne)]
  have h0 : '0' ≠ 't' ∧ '0' ≠ 'f' ∧ '0' ≠ '+' ∧ '0' ≠ '-' := by decide
  rw [loadF_of_hd f s h0]
  simp only [loadBody, hx, hdig, hlu]

theorem loadScan_num {w : Str} (h : NumWF w) (s : Bool) {c : Char} (hc : IsWs c) (r : Str) :
    loadScan s (w ++ c :: r) = some (c :: r) := by
  unfold loadScan
  have hl := ws_load hc
  cases h with
  | tru => exact loadScan_bool s (Or.inl rfl) _
  | fls => exact loadScan_bool s (Or.inr rfl) _
  | @bin x ds suf hx hne hds hsuf =>
    have := loadF_formatted (x := x) (p := isBin) (('0' :: x :: (ds ++ suf) ++ c :: r).length) s
      (fun _ => by rcases hx with rfl | rfl <;> rfl) hne hds hsuf (fun s hs => (lu_facts (hsuf s hs)).2) hc hl.bin r
    simpa only [List.cons_append, List.append_assoc] using this
  | @hex x ds suf hx hne hds hsuf =>
    have := loadF_formatted (x := x) (p := isHex) (('0' :: x :: (ds ++ suf) ++ c :: r).length) s
      (fun _ => by rcases hx with rfl | rfl <;> rfl) hne hds hsuf (fun s hs => (lu_facts (hsuf s hs)).1) hc hl.hex r
    simpa only [List.cons_append, List.append_assoc] using this
  | @dec m tail hm hany ht =>
    have e : (m ++ tail ++ c :: r).length + 1 = ((m ++ tail).length + r.length) + 2 := by
      simp only [List.length_append, List.length_cons]; omega
    rw [e, List.append_assoc]
    exact loadF_dec _ s hm hany ht hc r

/-- `load` moves over the whole literal, so it holds no backslash (`countSkippedLines` reads nothing) and no NUL -/
theorem num_crossed {w : Str} (h : NumWF w) : ∀ x ∈ w, LoadCh x := by
  obtain ⟨⟨w', hw', hc⟩, -⟩ := loadScan_suffix (loadScan_num h true (c := ' ') (by decide) [])
  obtain rfl : w' = w := List.append_cancel_right hw'.symm
  exact hc

theorem noNul_num {w : Str} (h : NumWF w) : NoNul w := fun x hx => (num_crossed h x hx).2

theorem num_first {w : Str} (h : NumWF w) : ∃ a t, w = a :: t ∧ Starts a := by
  cases h with
  | tru => exact ⟨_, _, rfl, by decide⟩
  | fls => exact ⟨_, _, rfl, by decide⟩
  | bin => exact ⟨_, _, rfl, by decide⟩
  | hex => exact ⟨_, _, rfl, by decide⟩
  | @dec m tail hm hany _ =>
    obtain ⟨d, hd', _⟩ := hany
    obtain ⟨a, b, rfl⟩ := List.exists_cons_of_ne_nil (List.ne_nil_of_mem hd')
    exact ⟨a, b ++ tail, rfl, (dd_facts (hm a (by simp))).2.2⟩

theorem getToken_prim {w : Str} (h : NumWF w) {c : Char} (hc : IsWs c) (r : Str) :
    getToken (w ++ c :: r) = .ok (some (.prim w), 0, c :: r) := by
  have hl0 := loadScan_num h false hc r
  have hl1 := loadScan_num h true hc r
  obtain ⟨a, t, rfl, hs⟩ := num_first h
  have he := ws_ends_word hc
  simp only [List.cons_append] at hl0 hl1 ⊢
  have hp : isPrimitiveAt (a :: (t ++ c :: r)) = true := by simp [isPrimitiveAt, hl0, he.nids, he.nid]
  rw [getToken_of_peek hs (peek_prim hs hp)]
  have hb : '\\' ∉ a :: t := fun hm => (num_crossed h _ hm).1 rfl
  simp [dispatch, getPrimitiveToken, hl1, consumed_cons_append, countSkippedLines, hb]

end Occa.Lex
