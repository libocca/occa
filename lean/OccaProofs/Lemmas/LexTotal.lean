/-
Helper lemmas for C12, about lists of characters and no function of the tokenizer: what keeps text NUL-free (`NoNul`);
`takeWhile` / `dropWhile` on a run that the next character ends; suffixes reached over text that satisfies a predicate
(`SuffixP`).
-/
import OccaProofs.Lemmas.LexBasic

namespace Occa.Lex
open Occa.Gen

theorem NoNul.suffix {r' r : Str} (h : NoNul r) (s : Suffix r' r) : NoNul r' := by
  obtain ⟨w, rfl⟩ := s
  exact fun c hc => h c (by simp [hc])

theorem NoNul.hd_eq_nul {r : Str} (h : NoNul r) : hd r = NUL ↔ r = [] := by
  cases r with
  | nil => simp
  | cons c t => simpa using h c (by simp)

theorem NoNul.consumed {r : Str} (h : NoNul r) (r' : Str) : NoNul (consumed r r') :=
  fun c hc => h c (List.mem_of_mem_take hc)

theorem NoNul.tail {c : Char} {t : Str} (h : NoNul (c :: t)) : NoNul t :=
  fun x hx => h x (by simp [hx])

theorem mem_takeWhile_imp {p : Char → Bool} {l : Str} {c : Char} (h : c ∈ l.takeWhile p) : p c = true :=
  (List.all_eq_true.mp List.all_takeWhile) c h

theorem len_takeWhile_dropWhile (p : Char → Bool) (l : Str) :
    (l.takeWhile p).length + (l.dropWhile p).length = l.length := by
  rw [← List.length_append, List.takeWhile_append_dropWhile]

theorem takeWhile_run {p : Char → Bool} {m : Str} (hm : ∀ x ∈ m, p x = true) {T : Str} (hT : p (hd T) = false) :
    (m ++ T).takeWhile p = m ∧ (m ++ T).dropWhile p = T := by
  induction m with
  | nil => cases T <;> simp_all
  | cons a m ih =>
    have ha := hm a (by simp)
    obtain ⟨i1, i2⟩ := ih (fun y hy => hm y (by simp [hy]))
    simp [ha, i1, i2]

theorem takeWhile_nil_of_hd {p : Char → Bool} {r : Str} (h : p (hd r) = false) : r.takeWhile p = [] := by
  cases r with
  | nil => rfl
  | cons c t => simp at h; simp [List.takeWhile, h]

theorem takeWhile_append_stop {p : Char → Bool} (t : Str) {c : Char} (r : Str) (hc : p c = false) :
    (t ++ c :: r).takeWhile p = t.takeWhile p ∧ (t ++ c :: r).dropWhile p = t.dropWhile p ++ c :: r := by
  induction t with
  | nil => simp [hc]
  | cons y t ih => by_cases hy : p y = true <;> simp [hy, ih]

theorem cstr_noNul (s : Str) : NoNul (cstr s) := by
  intro c hc
  have := mem_takeWhile_imp hc
  simpa using this

theorem cstr_of_noNul {s : Str} (h : NoNul s) : cstr s = s := by
  have := List.takeWhile_append_of_pos (p := (· != NUL)) (l₂ := []) fun c hc => bne_iff_ne.mpr (h c hc)
  rwa [List.append_nil, List.takeWhile_nil, List.append_nil] at this

theorem noNul_append {a b : Str} (ha : NoNul a) (hb : NoNul b) : NoNul (a ++ b) :=
  List.forall_mem_append.mpr ⟨ha, hb⟩

theorem noNul_cons {c : Char} {t : Str} (hc : c ≠ NUL) (ht : NoNul t) : NoNul (c :: t) :=
  List.forall_mem_cons.mpr ⟨hc, ht⟩

theorem noNul_units {P Q : Char → Prop} {w : Str} (h : Units P Q w) (hp : ∀ c, P c → c ≠ NUL) (hq : ∀ c, Q c → c ≠ NUL) :
    NoNul w := by
  induction h with
  | nil => exact fun _ hc => nomatch hc
  | plain _ h2 _ ih => exact noNul_cons (hp _ h2) ih
  | pair h1 _ ih => exact noNul_cons (by decide) (noNul_cons (hq _ h1) ih)

theorem idStart_nul : identifierStart.contains NUL = false := by decide

theorem nonempty_of_idStart {r : Str} (h : identifierStart.contains (hd r) = true) : ∃ c t, r = c :: t := by
  cases r with
  | nil => rw [hd_nil, idStart_nul] at h; exact Bool.noConfusion h
  | cons c t => exact ⟨c, t, rfl⟩

theorem ne_nil_of_hd {r : Str} {c : Char} (h : hd r = c) (hc : c ≠ NUL) : ∃ t, r = c :: t := by
  cases r with
  | nil => exact absurd h.symm hc
  | cons d t => exact ⟨t, by simp at h; rw [h]⟩

def SuffixP (P : Char → Prop) (r' r : Str) : Prop := ∃ w, r = w ++ r' ∧ ∀ c ∈ w, P c

theorem SuffixP.refl {P : Char → Prop} (r : Str) : SuffixP P r r := ⟨[], rfl, by simp⟩
theorem SuffixP.trans {P : Char → Prop} {a b c : Str} (h1 : SuffixP P a b) (h2 : SuffixP P b c) : SuffixP P a c := by
  obtain ⟨w1, rfl, p1⟩ := h1; obtain ⟨w2, rfl, p2⟩ := h2
  refine ⟨w2 ++ w1, by simp, ?_⟩
  intro x hx
  rcases List.mem_append.mp hx with h | h
  · exact p2 x h
  · exact p1 x h
theorem SuffixP.cons {P : Char → Prop} {a b : Str} (c : Char) (hc : P c) (h : SuffixP P a b) : SuffixP P a (c :: b) := by
  obtain ⟨w, rfl, p⟩ := h
  refine ⟨c :: w, rfl, ?_⟩
  intro x hx
  rcases List.mem_cons.mp hx with rfl | h
  · exact hc
  · exact p x h
theorem SuffixP.suffix {P : Char → Prop} {a b : Str} (h : SuffixP P a b) : Suffix a b := by
  obtain ⟨w, rfl, _⟩ := h; exact ⟨w, rfl⟩
theorem SuffixP.dropWhile {P : Char → Prop} (p : Char → Bool) (r : Str) (hp : ∀ c, p c = true → P c) :
    SuffixP P (r.dropWhile p) r :=
  ⟨r.takeWhile p, (List.takeWhile_append_dropWhile).symm, fun c hc => hp c (mem_takeWhile_imp hc)⟩
theorem SuffixP.length_lt {P : Char → Prop} {a b : Str} (c : Char) (h : SuffixP P a b) : a.length < (c :: b).length := by
  have := h.suffix.length_le; simp; omega

end Occa.Lex
