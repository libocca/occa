/-
Helper lemmas for C29 (handle table): the ownership discipline on variable names (PState) simulates
the pointer-level machine (HState) without ever reaching a trap, and released groups account for
every allocated object.
-/
import OccaModel.CApiHandles

namespace Occa.CApi

@[simp] theorem setSlot_slots (h : HState) (s : Nat) (v : HSlot) (x : Nat) :
    (h.setSlot s v).slots x = if x = s then some v else h.slots x := rfl
@[simp] theorem setSlot_alloc (h : HState) (s : Nat) (v : HSlot) : (h.setSlot s v).alloc = h.alloc := rfl
@[simp] theorem setSlot_next (h : HState) (s : Nat) (v : HSlot) : (h.setSlot s v).next = h.next := rfl
@[simp] theorem setAlloc_slots (h : HState) (o : Nat) (b : Bool) : (h.setAlloc o b).slots = h.slots := rfl
@[simp] theorem setAlloc_alloc (h : HState) (o : Nat) (b : Bool) (x : Nat) :
    (h.setAlloc o b).alloc x = if x = o then b else h.alloc x := rfl
@[simp] theorem setAlloc_next (h : HState) (o : Nat) (b : Bool) : (h.setAlloc o b).next = h.next := rfl
@[simp] theorem setVar_vars (p : PState) (s : Nat) (v : PVar) (x : Nat) :
    (p.setVar s v).vars x = if x = s then some v else p.vars x := rfl
@[simp] theorem setVar_retired (p : PState) (s : Nat) (v : PVar) : (p.setVar s v).retired = p.retired := rfl
@[simp] theorem setVar_released (p : PState) (s : Nat) (v : PVar) : (p.setVar s v).released = p.released := rfl

variable {p p' : PState} {h : HState} {s s' : Nat} {v : PVar} {sl : HSlot}

theorem live_some (hl : p.live s = some v) : p.vars s = some v ∧ p.retired s = false := by
  cases hv : p.vars s <;> cases hr : p.retired s <;> simp_all [PState.live]

theorem PState.step_create {tag : Nat} {nf : Bool} (hp : p.step (.create s tag nf) = some p') :
    p.vars s = none ∧ p' = p.setVar s ⟨s, releases tag nf, tag⟩ := by
  cases hs : p.vars s <;> simp [PState.step, hs] at hp
  exact ⟨rfl, hp.symm⟩

theorem PState.step_copy (hp : p.step (.copy s' s) = some p') :
    ∃ v, p.live s = some v ∧ p.vars s' = none ∧ p' = p.setVar s' v := by
  cases hl : p.live s <;> cases hs : p.vars s' <;> simp [PState.step, hl, hs] at hp
  exact ⟨_, rfl, rfl, hp.symm⟩

theorem PState.step_borrow (hp : p.step (.borrow s' s) = some p') :
    ∃ v, p.live s = some v ∧ p.vars s' = none ∧ p' = p.setVar s' ⟨v.group, releases v.tag false, v.tag⟩ := by
  cases hl : p.live s <;> cases hs : p.vars s' <;> simp [PState.step, hl, hs] at hp
  exact ⟨_, rfl, rfl, hp.symm⟩

theorem PState.step_use (hp : p.step (.use s) = some p') : ∃ v, p.live s = some v ∧ p' = p := by
  cases hl : p.live s <;> simp [PState.step, hl] at hp
  exact ⟨_, rfl, hp.symm⟩

theorem PState.step_free (hp : p.step (.free s) = some p') :
    ∃ v, p.live s = some v ∧ p' =
      if v.owning then
        { p with retired := fun x => p.retired x || (match p.vars x with | some w => w.group == v.group | none => false),
                 released := fun g => p.released g || g == v.group }
      else { p with retired := fun x => p.retired x || x == s } := by
  cases hl : p.live s <;> simp only [PState.step, hl] at hp
  · cases hp
  · exact ⟨_, rfl, (Option.some.inj ((apply_ite some ..).trans hp)).symm⟩

/-- the object a variable's handle points to (what `group_obj` and `reach` read of the slot table) -/
def objAt (h : HState) (s : Nat) : Option Nat := (h.slots s).map (·.obj)

theorem objAt_slot (hsl : h.slots s = some sl) : objAt h s = some sl.obj := by
  rw [objAt, hsl]; rfl

theorem objAt_setSlot (h : HState) (s : Nat) (sl : HSlot) (x : Nat) :
    objAt (h.setSlot s sl) x = if x = s then some sl.obj else objAt h x := by
  unfold objAt; rw [setSlot_slots]; split <;> rfl

/-- what `Inv` says of an assigned variable `s` of role `v`, retired or not; `sl` is the handle it holds -/
structure VarSlot (p : PState) (h : HState) (s : Nat) (v : PVar) (sl : HSlot) : Prop where
  group_assigned : p.vars v.group ≠ none
  slot : h.slots s = some sl
  tag : sl.tag = v.tag
  owning : v.owning = releases sl.tag sl.needsFree
  obj_lt : sl.obj < h.next
  alloc : h.alloc sl.obj = !p.released v.group
  live : p.retired s = false → sl.hdrOk = true ∧ p.released v.group = false

/-- The simulation invariant between the discipline (names) and the machine (pointers).
    `group_obj`: variables are in the same group exactly when their handles point to the same object; through it
    an object is allocated exactly while its group is not released (`VarSlot.alloc`, which holds for retired
    variables too), so retiring a group retires every handle to the object that is released. -/
structure Inv (p : PState) (h : HState) : Prop where
  group_fresh : ∀ g, p.vars g = none → p.released g = false
  slot : ∀ s v, p.vars s = some v → ∃ sl, VarSlot p h s v sl
  group_obj : ∀ s s' v v', p.vars s = some v → p.vars s' = some v' → (v.group = v'.group ↔ objAt h s = objAt h s')
  reach : ∀ o, h.alloc o = true → ∃ s v, p.vars s = some v ∧ objAt h s = some o

theorem inv_init : Inv PState.init HState.init := by
  constructor
  · intro s _; rfl
  · intro s v h; cases h
  · intro s s' v v' h; cases h
  · intro o h; cases h

/-- what `Inv` adds for a usable variable (`p.live s = some v`) -/
structure LiveVar (p : PState) (h : HState) (s : Nat) (v : PVar) (sl : HSlot) : Prop extends VarSlot p h s v sl where
  var : p.vars s = some v
  unreleased : p.released v.group = false
  hdrOk : sl.hdrOk = true
  allocated : h.alloc sl.obj = true
  deref : h.deref sl = .ok

theorem inv_live (I : Inv p h) (hl : p.live s = some v) :
    ∃ sl, LiveVar p h s v sl := by
  obtain ⟨hv, hr⟩ := live_some hl
  obtain ⟨sl, S⟩ := I.slot s v hv
  obtain ⟨lh, lr⟩ := S.live hr
  have la : h.alloc sl.obj = true := by rw [S.alloc, lr]; rfl
  exact ⟨sl, { S with var := hv, unreleased := lr, hdrOk := lh, allocated := la, deref := by simp [HState.deref, lh, la] }⟩

theorem LiveVar.step_copy (L : LiveVar p h s v sl) (s' : Nat) : h.step (.copy s' s) = (h.setSlot s' sl, .ok) := by
  simp only [HState.step, L.slot]

theorem LiveVar.step_borrow (L : LiveVar p h s v sl) (s' : Nat) :
    h.step (.borrow s' s) = (h.setSlot s' ⟨true, sl.tag, sl.obj, false⟩, .ok) := by
  simp only [HState.step, L.slot, L.deref]

theorem LiveVar.step_use (L : LiveVar p h s v sl) : h.step (.use s) = (h, .ok) := by
  simp only [HState.step, L.slot, L.deref]

theorem LiveVar.step_free (L : LiveVar p h s v sl) :
    h.step (.free s) = ((if v.owning then h.setAlloc sl.obj false else h).setSlot s { sl with hdrOk := false }, .ok) := by
  simp only [HState.step, L.slot, L.hdrOk, ← L.owning, L.allocated, Bool.not_true, Bool.false_eq_true, if_false, if_true]
  split <;> rfl

theorem Inv.alloc_unreleased (I : Inv p h) {o : Nat} (ho : h.alloc o = true) :
    ∃ s v, p.vars s = some v ∧ p.released v.group = false := by
  obtain ⟨s, v, hv, hs⟩ := I.reach o ho
  obtain ⟨sl, S⟩ := I.slot s v hv
  have hal := S.alloc
  rw [Option.some.inj ((objAt_slot S.slot).symm.trans hs), ho] at hal
  exact ⟨s, v, hv, (Bool.not_eq_true' _).mp hal.symm⟩

/-- One lemma for `create` (the machine allocates the object as well) and `copy`/`borrow` (it does not):
    `hg` holds by its left side for `create` (the group is named after `s'`), by its right side for the others;
    `halloc` covers both "this step allocates `sl'.obj`" and "it was allocated already".
    `hgo`: the group chosen for `s'` is the group of the variables that already designate its object. -/
theorem inv_add {h' : HState} (I : Inv p h) {v' : PVar} {sl' : HSlot}
    (hfresh : p.vars s' = none) (hg : v'.group = s' ∨ p.vars v'.group ≠ none)
    (ht : sl'.tag = v'.tag) (ho : v'.owning = releases sl'.tag sl'.needsFree) (hh : sl'.hdrOk = true)
    (hslots : h'.slots = h.slots) (hnext : h.next ≤ h'.next) (hlt : sl'.obj < h'.next)
    (halloc : ∀ o, h'.alloc o = (decide (o = sl'.obj) || h.alloc o))
    (hrel : p.released v'.group = false)
    (hgo : ∀ x w, p.vars x = some w → (w.group = v'.group ↔ objAt h x = some sl'.obj)) :
    Inv (p.setVar s' v') (h'.setSlot s' sl') := by
  have keeps : ∀ g, p.vars g ≠ none → (p.setVar s' v').vars g ≠ none := by
    intro g hg
    rw [setVar_vars]
    split <;> simp [hg]
  have hobj : ∀ x, objAt (h'.setSlot s' sl') x = if x = s' then some sl'.obj else objAt h x := by
    intro x; rw [objAt_setSlot]; unfold objAt; rw [hslots]
  constructor
  · intro x hx
    by_cases e : x = s'
    · simp [e] at hx
    · simp only [setVar_vars, if_neg e] at hx
      exact I.group_fresh x hx
  · intro x w hx
    by_cases e : x = s'
    · subst e
      simp only [setVar_vars, if_pos, Option.some.injEq] at hx
      subst hx
      refine ⟨sl', { group_assigned := ?_, slot := by simp, tag := ht, owning := ho, obj_lt := hlt,
                     alloc := by simp [halloc, hrel], live := fun _ => ⟨hh, hrel⟩ }⟩
      rcases hg with hg | hg
      · simp [hg]
      · exact keeps _ hg
    · simp only [setVar_vars, if_neg e] at hx
      obtain ⟨sl, S⟩ := I.slot x w hx
      refine ⟨sl, { S with group_assigned := keeps _ S.group_assigned, slot := by simp [e, hslots, S.slot],
                           obj_lt := Nat.lt_of_lt_of_le S.obj_lt hnext, alloc := ?_ }⟩
      rw [setSlot_alloc, halloc, S.alloc]
      by_cases eo : sl.obj = sl'.obj
      · have hw := (hgo x w hx).2 (by rw [objAt_slot S.slot, eo])
        simp [eo, hw, hrel]
      · simp [eo]
  · intro x x' w w' hx hx'
    simp only [setVar_vars, hobj] at hx hx' ⊢
    by_cases e : x = s' <;> by_cases e' : x' = s' <;>
      simp only [e, e', if_true, if_false, Option.some.injEq] at hx hx' ⊢
    · subst hx hx'; simp
    · subst hx; rw [eq_comm, hgo x' w' hx', eq_comm]
    · subst hx'; exact hgo x w hx
    · exact I.group_obj x x' w w' hx hx'
  · intro o ho'
    simp only [setSlot_alloc, halloc, Bool.or_eq_true, decide_eq_true_eq] at ho'
    rcases ho' with rfl | ho'
    · exact ⟨s', v', by simp, by simp [hobj]⟩
    · obtain ⟨x, w, a, b⟩ := I.reach o ho'
      have e : x ≠ s' := fun e => by rw [e, hfresh] at a; cases a
      exact ⟨x, w, by simp [e, a], by simp [hobj, e, b]⟩

theorem inv_alias (I : Inv p h) (L : LiveVar p h s v sl) (hfresh : p.vars s' = none) {v' : PVar} {sl' : HSlot}
    (hg : v'.group = v.group) (hobj : sl'.obj = sl.obj) (ht : sl'.tag = v'.tag)
    (ho : v'.owning = releases sl'.tag sl'.needsFree) (hh : sl'.hdrOk = true) : Inv (p.setVar s' v') (h.setSlot s' sl') := by
  refine inv_add I hfresh (.inr (hg ▸ L.group_assigned)) ht ho hh rfl (Nat.le_refl _) (hobj ▸ L.obj_lt) ?_ (hg ▸ L.unreleased)
    fun x w hx => by rw [hg, hobj, ← objAt_slot L.slot]; exact I.group_obj x s w v hx L.var
  intro o
  by_cases e : o = sl.obj <;> simp [e, hobj, L.allocated]

/-! `occaFree` in two independent steps: the variable retires (`inv_retire`), or its whole group
    retires and the object is released (`inv_release`); then the header of the retired variable is
    overwritten (`inv_clobber`), which `objAt` does not see. -/

theorem inv_retire (I : Inv p h) (s : Nat) :
    Inv { p with retired := fun x => p.retired x || x == s } h := by
  refine ⟨I.group_fresh, fun x w hx => ?_, I.group_obj, I.reach⟩
  obtain ⟨sl, S⟩ := I.slot x w hx
  exact ⟨sl, { S with live := fun hr => S.live (Bool.or_eq_false_iff.1 hr).1 }⟩

theorem inv_release (I : Inv p h)
    (hv : p.vars s = some v) (hsl : h.slots s = some sl) :
    Inv { p with retired := fun x => p.retired x || (match p.vars x with | some w => w.group == v.group | none => false),
                 released := fun g => p.released g || g == v.group } (h.setAlloc sl.obj false) := by
  refine ⟨fun x hx => ?_, fun x w hx => ?_, I.group_obj, fun o ho => ?_⟩
  · replace hx : p.vars x = none := hx
    obtain ⟨_, S⟩ := I.slot s v hv
    have e : x ≠ v.group := fun e => S.group_assigned (e ▸ hx)
    simpa [e] using I.group_fresh x hx
  · replace hx : p.vars x = some w := hx
    obtain ⟨slx, S⟩ := I.slot x w hx
    refine ⟨slx, { S with alloc := ?_, live := ?_ }⟩
    · -- the object of `s` is freed and its group released: by `group_obj` the same variables see both
      have := I.group_obj x s w v hx hv
      rw [objAt_slot S.slot, objAt_slot hsl, Option.some.injEq] at this
      show (if slx.obj = sl.obj then false else h.alloc slx.obj) = !(p.released w.group || w.group == v.group)
      by_cases e : w.group = v.group
      · simp [e, this.1 e]
      · simp [e, mt this.2 e, S.alloc]
    · intro hr
      simp only [hx, Bool.or_eq_false_iff, beq_eq_false_iff_ne] at hr
      obtain ⟨a, b⟩ := S.live hr.1
      exact ⟨a, by simp [b, hr.2]⟩
  · simp only [setAlloc_alloc] at ho
    split at ho
    · cases ho
    · exact I.reach o ho

theorem inv_clobber (I : Inv p h)
    (hsl : h.slots s = some sl) (hr : p.retired s = true) : Inv p (h.setSlot s { sl with hdrOk := false }) := by
  have hobj : objAt (h.setSlot s { sl with hdrOk := false }) = objAt h := by
    funext x
    rw [objAt_setSlot]
    split
    · subst x; exact (objAt_slot hsl).symm
    · rfl
  refine ⟨I.group_fresh, fun x w hx => ?_, hobj ▸ I.group_obj, hobj ▸ I.reach⟩
  obtain ⟨t, S⟩ := I.slot x w hx
  by_cases e : x = s
  · subst x
    cases hsl.symm.trans S.slot
    exact ⟨{ sl with hdrOk := false }, { S with slot := by simp, live := fun hrx => by rw [hr] at hrx; cases hrx }⟩
  · exact ⟨t, { S with slot := by simp [e, S.slot] }⟩

theorem inv_step (I : Inv p h) (op : HOp) (hp : p.step op = some p') :
    Inv p' (h.step op).1 ∧ (h.step op).2 = .ok := by
  cases op with
  | create s tag nf =>
    obtain ⟨hs, rfl⟩ := PState.step_create hp
    refine ⟨inv_add I hs (.inl rfl) rfl rfl rfl rfl (Nat.le_succ _) (Nat.lt_succ_self _) ?_ (I.group_fresh s hs) ?_, rfl⟩
    · intro o; simp [HState.setAlloc]
    · intro x w hx
      obtain ⟨sl, S⟩ := I.slot x w hx
      rw [objAt_slot S.slot]
      exact ⟨fun e => absurd (e ▸ hs) S.group_assigned, fun e => absurd (Option.some.inj e) (Nat.ne_of_lt S.obj_lt)⟩
  | copy s' s =>
    obtain ⟨v, hl, hfresh, rfl⟩ := PState.step_copy hp
    obtain ⟨sl, L⟩ := inv_live I hl
    rw [L.step_copy]
    exact ⟨inv_alias I L hfresh rfl rfl L.tag L.owning L.hdrOk, rfl⟩
  | borrow s' s =>
    obtain ⟨v, hl, hfresh, rfl⟩ := PState.step_borrow hp
    obtain ⟨sl, L⟩ := inv_live I hl
    rw [L.step_borrow]
    exact ⟨inv_alias I L hfresh rfl rfl L.tag (by rw [L.tag]) rfl, rfl⟩
  | use s =>
    obtain ⟨v, hl, rfl⟩ := PState.step_use hp
    obtain ⟨sl, L⟩ := inv_live I hl
    rw [L.step_use]
    exact ⟨I, rfl⟩
  | free s =>
    obtain ⟨v, hl, rfl⟩ := PState.step_free hp
    obtain ⟨sl, L⟩ := inv_live I hl
    rw [L.step_free]
    refine ⟨?_, rfl⟩
    split
    · -- owning: the object is released, the whole group retires
      exact inv_clobber (inv_release I L.var L.slot) L.slot (by simp [L.var])
    · -- borrowed: only this variable retires, nothing is released
      exact inv_clobber (inv_retire I s) L.slot (by simp)

theorem wf_eq_runP (p : PState) (ops : List HOp) : p.wf ops = (p.runP ops).isSome := by
  induction ops generalizing p with
  | nil => rfl
  | cons op ops ih =>
    rw [PState.wf, PState.runP]
    cases p.step op with
    | none => rfl
    | some p' => exact ih p'

theorem run_sim (I : Inv p h) (ops : List HOp) (hr : p.runP ops = some p') :
    Inv p' (h.run ops).1 ∧ ∀ o ∈ (h.run ops).2, o = .ok := by
  induction ops generalizing p h with
  | nil => cases hr; exact ⟨I, nofun⟩
  | cons op ops ih =>
    rw [PState.runP] at hr
    cases hp : p.step op with
    | none => rw [hp] at hr; cases hr
    | some p1 =>
      rw [hp] at hr
      obtain ⟨I1, hok⟩ := inv_step I op hp
      obtain ⟨I', hoks⟩ := ih I1 hr
      exact ⟨I', List.forall_mem_cons.2 ⟨hok, hoks⟩⟩

end Occa.CApi
