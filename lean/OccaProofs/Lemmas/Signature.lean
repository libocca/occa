/-
What the OKL parser records for a kernel signature (model: `metaOfSignature`, `VType.dtype`): the metadata is
initialized and well formed, and an array parameter flattens to as many copies of its element type as the
product of its extents.
-/
import OccaProofs.Lemmas.Dtype
import OccaProofs.Lemmas.Cast

namespace Occa.Dtype
open Occa

theorem foldl_push (toArg : Param → ArgMeta) : ∀ (ps : List Param) (m0 : KernelMeta),
    ps.foldl (fun m p => m.push (toArg p)) m0 =
      { initialized := m0.initialized || !ps.isEmpty, name := m0.name, arguments := m0.arguments ++ ps.map toArg }
  | [], m0 => by simp
  | p :: ps, m0 => by
      rw [List.foldl_cons, foldl_push toArg ps]
      simp [KernelMeta.push]

theorem foldl_tuple_wf : ∀ (arrays : List (Option Int)) (d : Dtype), d.WF →
    (arrays.foldl (fun d sz => Dtype.tuple "" d (sz.getD (-1))) d).WF
  | [], _, h => h
  | _ :: r, _, h => foldl_tuple_wf r _ h

mutual
  theorem OType.dtype_wf : (t : OType) → t.dtype.WF
    | .prim p => getBuiltin_wf p
    | .tdef b => VType.dtype_wf b
  theorem VType.dtype_wf : (v : VType) → v.dtype.WF
    | .mk ty longQ ptrs arrays => by
        simp only [VType.dtype]
        apply foldl_tuple_wf
        have h0 := OType.dtype_wf ty
        split
        · split
          · exact getBuiltin_wf "long"
          · exact h0
        · exact h0
end

/-- number of entries an array extent contributes: unknown (or negative) extents count once (F13b) -/
def extent (sz : Option Int) : Nat :=
  match sz with
  | none => 1
  | some k => if k < 0 then 1 else k.toNat

def extProd : List (Option Int) → Nat
  | [] => 1
  | a :: r => extent a * extProd r

theorem flatten_tuple_extent (hU : Gen.unknownExtentFlattensOne = true) (d : Dtype) (sz : Option Int) :
    (Dtype.tuple "" d (sz.getD (-1))).flatten = repeatList (extent sz) d.flatten := by
  cases sz with
  | none => simp [Dtype.flatten, hU, extent]
  | some k =>
    by_cases hk : k < 0
    · simp [Dtype.flatten, hU, extent, hk]
    · simp [Dtype.flatten, extent, hk]

theorem flatten_foldl_tuple (hU : Gen.unknownExtentFlattensOne = true) :
    ∀ (arrays : List (Option Int)) (d : Dtype),
      (arrays.foldl (fun d sz => Dtype.tuple "" d (sz.getD (-1))) d).flatten = repeatList (extProd arrays) d.flatten
  | [], d => by simp [extProd, repeatList]
  | a :: r, d => by
      simp only [List.foldl_cons, extProd]
      rw [flatten_foldl_tuple hU r, flatten_tuple_extent hU, repeatList_mul, Nat.mul_comm]

theorem metaOfSignature_facts (hP : Gen.parserMarksInitialized = true) (kname : String) (ps : List Param) :
    (metaOfSignature kname ps).initialized = true ∧ (metaOfSignature kname ps).WF ∧
    (metaOfSignature kname ps).arguments.length = ps.length := by
  rw [metaOfSignature, foldl_push]
  refine ⟨by simp [hP], fun a ha => ?_, by simp⟩
  obtain ⟨p, _, rfl⟩ := List.mem_map.mp ha
  exact VType.dtype_wf p.vtype

end Occa.Dtype
