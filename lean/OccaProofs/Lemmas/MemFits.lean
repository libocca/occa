/-
C02 (OccaModel/Mem.lean): the arithmetic of the guards of `slice` and of the copies.  `Fits` is the test every
copy puts on each memory it touches.
-/
import OccaModel.Mem

namespace Occa.Mem

theorem len_mul_le (p : View) : (p.esz : Int) * p.len ≤ (p.size : Int) := by
  have := Nat.div_mul_le_self p.size p.esz
  unfold View.len
  rw [Int.mul_comm]
  exact_mod_cast this

theorem len_nonneg (p : View) : 0 ≤ p.len := Int.natCast_nonneg _

theorem sliceView_ok_iff {p v : View} {off cnt : Int} :
    sliceView p off cnt = .ok v ↔
      0 ≤ (p.esz : Int) * (if cnt = -1 then p.len - off else cnt) ∧ 0 ≤ off ∧ off + cnt ≤ p.len ∧
        v = { buf := p.buf, off := ((p.off : Int) + (p.esz : Int) * off).toNat,
              size := ((p.esz : Int) * (if cnt = -1 then p.len - off else cnt)).toNat, esz := p.esz } := by
  simp only [sliceView]
  by_cases h1 : (p.esz : Int) * (if cnt = -1 then p.len - off else cnt) ≥ 0
  case neg => simp [h1]
  by_cases h2 : off ≥ 0
  case neg => simp [h1, h2]
  by_cases h3 : off + cnt ≤ p.len
  case neg => simp [h1, h2, h3]
  have h4 : (p.off : Int) + (p.esz : Int) * off ≥ 0 := by
    have := Int.mul_nonneg (Int.natCast_nonneg p.esz) h2
    omega
  simp [h1, h2, h3, h4, eq_comm]

/-- `slice(0)`, the whole elements of the handle (what `cast` takes), cannot fail -/
theorem sliceView_all (p : View) : ∃ c, sliceView p 0 (-1) = .ok c := by
  have := len_nonneg p
  exact ⟨_, sliceView_ok_iff.mpr ⟨by rw [if_pos rfl, Int.sub_zero]; exact Int.mul_nonneg (Int.natCast_nonneg _) this,
    Int.le_refl 0, by omega, rfl⟩⟩

theorem sliceView_ok {p v : View} {off cnt : Int} (h : sliceView p off cnt = .ok v) :
    v.buf = p.buf ∧ v.esz = p.esz ∧ 0 ≤ off ∧ (v.off : Int) = p.off + (p.esz : Int) * off ∧
      v.off + v.size ≤ p.off + p.size ∧
      (v.size : Int) = (p.esz : Int) * (if cnt = -1 then p.len - off else cnt) := by
  obtain ⟨h1, h2, h3, rfl⟩ := sliceView_ok_iff.mp h
  have hl := len_mul_le p
  have he : (0 : Int) ≤ (p.esz : Int) := Int.natCast_nonneg _
  have ho := Int.mul_nonneg he h2
  -- whichever way the count is given, the slice ends at or before the last whole element of `p`
  have hc : off + (if cnt = -1 then p.len - off else cnt) ≤ p.len := by split <;> omega
  have h5 := Int.mul_le_mul_of_nonneg_left hc he
  rw [Int.mul_add] at h5
  exact ⟨rfl, rfl, h2, by simp only []; omega, by simp only []; omega, by simp only []; omega⟩

theorem countBytes_nonneg {p : View} {cnt : Int} (h : countBytes p cnt ≥ -1) : 0 ≤ countBytes p cnt := by
  unfold countBytes at h ⊢
  have hl := len_nonneg p
  have he : (0 : Int) ≤ (p.esz : Int) := Int.natCast_nonneg _
  by_cases hc : cnt = -1
  · simp only [hc, if_true] at h ⊢; exact Int.mul_nonneg he hl
  · simp only [hc, if_false] at h ⊢
    by_cases hn : 0 ≤ cnt
    · exact Int.mul_nonneg he hn
    · rcases Nat.eq_zero_or_pos p.esz with h0 | hpos
      · simp [h0]
      · have h1 : (1 : Int) ≤ (p.esz : Int) := by exact_mod_cast hpos
        have h3 : (p.esz : Int) * cnt ≤ 1 * cnt := Int.mul_le_mul_of_nonpos_right h1 (by omega)
        omega

/-- the three guards that every copy puts on each memory it touches all pass: `cnt` elements of
    `self`'s dtype fit at byte offset `o` of a memory of `size` bytes -/
def Fits (self : View) (cnt o : Int) (size : Nat) : Prop :=
  countBytes self cnt ≥ -1 ∧ o ≥ 0 ∧ udimLe (countBytes self cnt + o) size = true

theorem Fits.bounds {self : View} {cnt o : Int} {size : Nat} (h : Fits self cnt o size) :
    0 ≤ countBytes self cnt ∧ 0 ≤ o ∧ o.toNat + (countBytes self cnt).toNat ≤ size := by
  obtain ⟨h1, h2, h3⟩ := h
  have := countBytes_nonneg h1
  simp only [udimLe, Bool.and_eq_true, decide_eq_true_eq] at h3
  omega

theorem copyGuards_ok_iff {self dst src : View} {cnt doff soff : Int} {t : Nat × Nat × Nat} :
    copyGuards self dst src cnt doff soff = .ok t ↔
      Fits self cnt ((dst.esz : Int) * doff) dst.size ∧ Fits self cnt ((src.esz : Int) * soff) src.size ∧
        t = ((countBytes self cnt).toNat, ((dst.esz : Int) * doff).toNat, ((src.esz : Int) * soff).toNat) := by
  simp only [copyGuards, Fits]
  by_cases g1 : countBytes self cnt ≥ -1
  case neg => simp [g1]
  by_cases g2 : (dst.esz : Int) * doff ≥ 0
  case neg => simp [g1, g2]
  by_cases g3 : (src.esz : Int) * soff ≥ 0
  case neg => simp [g1, g2, g3]
  by_cases g4 : udimLe (countBytes self cnt + (src.esz : Int) * soff) src.size = true
  case neg => simp [g1, g2, g3, g4]
  by_cases g5 : udimLe (countBytes self cnt + (dst.esz : Int) * doff) dst.size = true
  case neg => simp [g1, g2, g3, g4, g5]
  simp [g1, g2, g3, g4, g5, eq_comm]

theorem countBytes_all (p : View) : 0 ≤ countBytes p (-1) ∧ countBytes p (-1) ≤ (p.size : Int) := by
  unfold countBytes
  rw [if_pos rfl]
  exact ⟨Int.mul_nonneg (Int.natCast_nonneg _) (len_nonneg p), len_mul_le p⟩

/-- `dv.copyFrom(sv)` with the default count and offsets (`-1`, `0`, `0`) -/
theorem copyGuards_all (dv sv : View) :
    copyGuards dv dv sv (-1) 0 0 =
      if (sv.size : Int) < countBytes dv (-1) then .error .srcRange else .ok ((countBytes dv (-1)).toNat, 0, 0) := by
  obtain ⟨h0, h1⟩ := countBytes_all dv
  have hu : ∀ size : Nat, udimLe (countBytes dv (-1)) size = true ↔ countBytes dv (-1) ≤ size := fun size => by
    simp only [udimLe, Bool.and_eq_true, decide_eq_true_eq]; omega
  simp only [copyGuards, Int.mul_zero, Int.add_zero]
  rw [if_neg (not_not_intro (by omega)), if_neg (not_not_intro (Int.le_refl 0)), if_neg (not_not_intro (Int.le_refl 0))]
  by_cases hlt : (sv.size : Int) < countBytes dv (-1)
  · rw [if_pos (by rw [hu]; omega), if_pos hlt]
  · rw [if_neg (not_not_intro (by rw [hu]; omega)), if_neg (not_not_intro ((hu _).mpr h1)), if_neg hlt]
    rfl

/-- a request that fits a slice is, `off` elements further, a request that fits its parent, for the same bytes -/
theorem fits_of_slice {p c : View} {off cnt k i : Int} (hsv : sliceView p off cnt = .ok c) (hk : k ≠ -1)
    (hf : Fits c k ((c.esz : Int) * i) c.size) :
    countBytes c k = (p.esz : Int) * k ∧ countBytes p k = (p.esz : Int) * k ∧
      c.off + ((c.esz : Int) * i).toNat = p.off + ((p.esz : Int) * (off + i)).toNat ∧
      Fits p k ((p.esz : Int) * (off + i)) p.size := by
  obtain ⟨_, he, h0, ho, hin, _⟩ := sliceView_ok hsv
  have h0 := Int.mul_nonneg (Int.natCast_nonneg p.esz) h0
  have hcb : countBytes c k = (p.esz : Int) * k := by unfold countBytes; rw [if_neg hk, he]
  have hcp : countBytes p k = (p.esz : Int) * k := by unfold countBytes; rw [if_neg hk]
  have hbd := hf.bounds
  rw [he, hcb] at hbd
  -- name the three byte quantities as naturals, so that the arithmetic below is linear over `Nat`
  obtain ⟨A, hA⟩ := Int.eq_ofNat_of_zero_le h0
  obtain ⟨B, hB⟩ := Int.eq_ofNat_of_zero_le hbd.2.1
  obtain ⟨K, hK⟩ := Int.eq_ofNat_of_zero_le hbd.1
  have hoff : (p.esz : Int) * (off + i) = ((A + B : Nat) : Int) := by rw [Int.mul_add, hA, hB]; rfl
  rw [hA] at ho
  rw [hB, hK] at hbd
  simp only [Int.toNat_natCast] at hbd
  refine ⟨hcb, hcp, by rw [he, hoff, hB]; simp only [Int.toNat_natCast]; omega, by rw [hcp, ← hcb]; exact hf.1,
    by omega, ?_⟩
  rw [hcp, hK, hoff]
  simp only [udimLe, Bool.and_eq_true, decide_eq_true_eq]; omega

end Occa.Mem
