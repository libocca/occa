/-
The model side of C14: the row of occa's `switch(p.type)` / `switch(retType)` that an operator
function picks for well-formed operands applies the C++ operator to them, after conversions that do
not change what the C++ operator computes.
-/
import OccaProofs.Lemmas.PrimSpec
namespace Occa.Prim.Lemmas
open Occa Occa.CExpr Occa.CxxSem Occa.Gen Occa.Prim

def BinOp.isBit : BinOp → Bool
  | .band | .bxor | .bor => true
  | _ => false

theorem binRet_eq : ∀ op : BinOp,
    binRet op = if op = .shl ∨ op = .shr then .leftUnlessRightFloat else .maxType := by
  decide +kernel

/-- `binType op t t = none`: C++ rejects operands of that type; occa takes the count of a shift as int64_t -/
theorem binRow_spec : ∀ (op : BinOp) (t : Ty),
    binRow op t =
      if binType op t t = none ∨ (BinOp.isBit op = true ∧ t = .bool) then .error
      else .compute op t (if op = .shl ∨ op = .shr then .long else t) := by
  decide +kernel

theorem unRow_spec : ∀ (op : UnOp) (t : Ty),
    unRow op t =
      if unType op t = none then .error else .native (if op = .bnot ∧ t = .bool then .lnot else op) := by
  decide +kernel

theorem toT_ofVal {t : Ty} {a : Val} (h : a.ty.isFloat = false ∨ t.isFloat = true ∨ t = .bool) :
    toT t (Prim.ofVal a) = .ok (cvt t a) := by
  simp only [toT, Prim.ofVal]
  rcases h with h | h | h <;> simp [h]

theorem toBool_ofVal (a : Val) : toBool (Prim.ofVal a) = .ok (truth a) := by
  unfold toBool
  rw [toT_ofVal (Or.inr (Or.inr rfl))]
  simp only [Outcome.bind, cvt_bool_v]

theorem retType_max {op : BinOp} (h : BinOp.isConv op = true ∨ op = .land ∨ op = .lor) (a b : Val) :
    retType op (Prim.ofVal a) (Prim.ofVal b) = some (maxTy a.ty b.ty) := by
  have hns : ¬ (op = .shl ∨ op = .shr) := by rintro (rfl | rfl) <;> simp [BinOp.isConv] at h
  simp only [retType, binRet_eq, if_neg hns, rankOf, Prim.ofVal, maxTy]
  by_cases hc : primRank a.ty > primRank b.ty <;> simp [hc]

theorem retType_shift {op : BinOp} (h : op = .shl ∨ op = .shr) (a b : Val) (hb : b.ty.isFloat = false) :
    retType op (Prim.ofVal a) (Prim.ofVal b) = some a.ty := by
  rw [retType, binRet_eq, if_pos h]
  simp [Prim.ofVal, hb]

theorem toT_maxTy {a b : Val} :
    toT (maxTy a.ty b.ty) (Prim.ofVal a) = .ok (cvt (maxTy a.ty b.ty) a) ∧
    toT (maxTy a.ty b.ty) (Prim.ofVal b) = .ok (cvt (maxTy a.ty b.ty) b) :=
  ⟨toT_ofVal ((isFloat_mono (rank_le_maxTy _ _).1).imp_right Or.inl),
   toT_ofVal ((isFloat_mono (rank_le_maxTy _ _).2).imp_right Or.inl)⟩

theorem binop_maxTy {op : BinOp} (h : BinOp.isConv op = true) {a b : Val} (ha : GoodF a) (hb : GoodF b) :
    binop op (cvt (maxTy a.ty b.ty) a) (cvt (maxTy a.ty b.ty) b) = binop op a b := by
  have hm : ReachF (maxTy a.ty b.ty) := maxTy_cases ha.reach hb.reach
  have hle := rank_le_maxTy a.ty b.ty
  rw [binop_conv_eq h, binop_conv_eq h, cvt_ty, cvt_ty, common_eq _ _, maxTy_self, common_eq a.ty b.ty,
    cvt_promote_cvt ha hm hle.1, cvt_promote_cvt hb hm hle.2]

theorem binType_maxTy {op : BinOp} (h : BinOp.isConv op = true) (a b : Ty) :
    binType op a b = binType op (maxTy a b) (maxTy a b) := by
  rw [binType_conv h, binType_conv h, common_eq, common_eq, maxTy_self]

/-- the guard of fix C16-N01 lets every defined integer `/` and `%` through -/
theorem checkDiv_ok {op : BinOp} (hop : op = .div ∨ op = .mod) {a b r : Val} (ha : Good a) (hb : Good b)
    (hr : binop op a b = .val r) :
    checkIntegerDivision (Prim.ofVal a) (Prim.ofVal b) (maxTy a.ty b.ty) = .ok () := by
  have hm : Reach (maxTy a.ty b.ty) := maxTy_cases ha.1 hb.1
  have hc := (promote_arith hm).reach
  have hle := rank_le_maxTy a.ty b.ty
  rw [binop_conv_eq (by rcases hop with rfl | rfl <;> rfl), common_eq, hc.notFloat] at hr
  obtain ⟨h1, h2⟩ := intBin_divmod_val hop hr
  -- a divisor that is non-zero in the C++ operand type is non-zero as uint64_t
  have hz : ¬ (cvt .ulong b).v = 0 := by
    rw [cvt_eq_zero hb (Or.inr (Or.inr (Or.inr (Or.inr rfl)))) hb.1.rank_le,
      ← cvt_eq_zero hb hc (Nat.le_trans hle.2 (rank_le_promote _))]
    exact h1
  have hfa := ha.1.notFloat
  have hfb := hb.1.notFloat
  unfold checkIntegerDivision
  simp only [hm.notFloat, Bool.false_eq_true, if_false, toT_ofVal (Or.inl hfa), toT_ofVal (Or.inl hfb),
    Outcome.bind, if_neg hz]
  -- at int32_ / int64_ occa's operand type is the C++ one
  split
  · rename_i hi
    rw [hi] at h2
    exact if_neg fun ⟨e1, e2⟩ => h2 ⟨rfl, e1, e2⟩
  · split
    · rename_i hl
      rw [hl] at h2
      exact if_neg fun ⟨e1, e2⟩ => h2 ⟨rfl, e1, e2⟩
    · rfl

/-- The host's own `&&` / `||` need no case of their own: where they stop after the left operand, `binop` has that
    value. -/
theorem binary_row {op : BinOp} {pa pb : Prim} {t lt rt : Ty} {x y r : Val} (hret : retType op pa pb = some t)
    (hg : (if divGuard = true ∧ (op = .div ∨ op = .mod) then checkIntegerDivision pa pb t else .ok ()) = .ok ())
    (hrow : binRow op t = .compute op lt rt) (hx : toT lt pa = .ok x) (hy : toT rt pb = .ok y)
    (hv : binop op x y = .val r) : binary op pa pb = .ok (Prim.ofVal r) := by
  simp only [binary, hret, hg, hrow, Outcome.bind, hx, hy, hv, ofHost]
  split
  · rename_i h
    obtain ⟨rfl, h⟩ := h
    simp [binop, h] at hv
    rw [hv]
  split
  · rename_i h
    obtain ⟨rfl, h⟩ := h
    simp [binop, h] at hv
    rw [hv]
  rfl

theorem binary_conv {op : BinOp} (h : BinOp.isConv op = true) {a b r : Val} (ha : GoodF a) (hb : GoodF b)
    (hbit : ¬ (BinOp.isBit op = true ∧ a.ty = .bool ∧ b.ty = .bool))
    (hr : binop op a b = .val r) : binary op (Prim.ofVal a) (Prim.ofVal b) = .ok (Prim.ofVal r) := by
  have hle := rank_le_maxTy a.ty b.ty
  have hrow : binRow op (maxTy a.ty b.ty) = .compute op (maxTy a.ty b.ty) (maxTy a.ty b.ty) := by
    have hty := (binop_conv_spec h ha hb hr).2
    rw [binType_maxTy h] at hty
    rw [binRow_spec, if_neg, if_neg]
    · rintro (rfl | rfl) <;> cases h
    · rintro (h1 | ⟨h1, h2⟩)
      · rw [h1] at hty; cases hty
      · exact hbit ⟨h1, rank_bool (h2 ▸ hle.1), rank_bool (h2 ▸ hle.2)⟩
  refine binary_row (retType_max (Or.inl h) a b) ?_ hrow toT_maxTy.1 toT_maxTy.2 (by rw [binop_maxTy h ha hb, hr])
  split
  · rename_i hc
    rcases maxTy_split ha hb with ⟨_, ha', hb'⟩ | hm
    · exact checkDiv_ok hc.2 ha' hb' hr
    · simp [checkIntegerDivision, hm.isFloat]
  · rfl

/-- `<<` and `>>`: the row of the LEFT operand's type with the count converted to int64_t -/
theorem binary_shift {op : BinOp} (h : op = .shl ∨ op = .shr) {a b r : Val} (ha : GoodF a)
    (hr : binop op a b = .val r) :
    binary op (Prim.ofVal a) (Prim.ofVal b) = .ok (Prim.ofVal r) := by
  obtain ⟨hfa, hfb, hs⟩ := binop_shift_val h hr
  have hrow : binRow op a.ty = .compute op a.ty .long := by
    rw [binRow_spec]; rcases h with rfl | rfl <;> simp [binType, BinOp.isBit, hfa]
  -- the count is below 64: int64_t holds it unchanged
  have hc := shift_val_count hs
  have hb64 := Ty.bits_le_64 a.ty.promote
  have hcount : cvt .long b = ⟨.long, b.v⟩ := by
    rw [cvt_int b hfb rfl, wrapTo_id ((inRange_iff _ _).mpr
      ⟨Int.le_trans (by decide) hc.1, Int.le_trans (by omega) (show (64:Int) ≤ Ty.long.maxVal by decide)⟩)]
  have hs' : binop op a ⟨.long, b.v⟩ = .val r := by
    rcases h with rfl | rfl <;> simpa [binop, hfa, show Ty.long.isFloat = false from rfl] using hs
  exact binary_row (retType_shift h a b hfb) (by rcases h with rfl | rfl <;> simp) hrow (toT_ofVal (Or.inl hfa))
    (toT_ofVal (Or.inl hfb)) (by rw [cvt_self ha, hcount, hs'])

/-- converting to the max-rank type keeps zero / non-zero: among integers because the type is no
    narrower; with a floating operand only when both have that type already (`logicOk`) -/
theorem truth_cvt_maxTy {a b : Val} (ha : GoodF a) (hb : GoodF b) (hok : logicOk (some a.ty) (some b.ty) = true) :
    truth (cvt (maxTy a.ty b.ty) a) = truth a ∧ truth (cvt (maxTy a.ty b.ty) b) = truth b := by
  simp only [logicOk, Bool.or_eq_true, Bool.and_eq_true, Bool.not_eq_true', beq_iff_eq] at hok
  rcases hok with ⟨hfa, hfb⟩ | he
  · have hm : Reach (maxTy a.ty b.ty) := maxTy_cases (ha.good hfa).1 (hb.good hfb).1
    have hle := rank_le_maxTy a.ty b.ty
    exact ⟨truth_cvt_wide (ha.good hfa) hm hle.1, truth_cvt_wide (hb.good hfb) hm hle.2⟩
  · have h1 := cvt_self ha
    have h2 := cvt_self hb
    rw [← he, maxTy_self, h1]
    rw [← he] at h2
    rw [h2]
    exact ⟨rfl, rfl⟩

/-- primitive::and_ / or_ on two evaluated operands -/
theorem binary_logic {op : BinOp} (hop : op = .land ∨ op = .lor) {a b r : Val} (ha : GoodF a) (hb : GoodF b)
    (hok : logicOk (some a.ty) (some b.ty) = true) (hr : binop op a b = .val r) :
    binary op (Prim.ofVal a) (Prim.ofVal b) = .ok (Prim.ofVal r) := by
  obtain ⟨hta, htb⟩ := truth_cvt_maxTy ha hb hok
  have hrow : binRow op (maxTy a.ty b.ty) = .compute op (maxTy a.ty b.ty) (maxTy a.ty b.ty) := by
    rw [binRow_spec]; rcases hop with rfl | rfl <;> simp [binType, BinOp.isBit]
  exact binary_row (retType_max (Or.inr hop) a b) (by rcases hop with rfl | rfl <;> simp) hrow toT_maxTy.1 toT_maxTy.2
    (by rw [← hr, binop_logic hop, binop_logic hop, hta, htb])

theorem unary_agree {op : UnOp} {a r : Val} {τ : Ty} (hty : unType op a.ty = some τ)
    (hb : ¬ (op = .bnot ∧ a.ty = .bool)) (hr : unop op a = .val r) :
    unary op (Prim.ofVal a) = .ok (Prim.ofVal r) := by
  have : (⟨a.ty, a.v⟩ : Val) = a := rfl
  simp only [unary, Prim.ofVal, unRow_spec, hty, if_neg hb, this, hr, reduceCtorEq, if_false]
  rfl

end Occa.Prim.Lemmas
