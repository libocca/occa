/-
C18 on numbers, two tiled loops: exchanging two nested loops permutes the visits (`flatMap_comm_perm`), so the loop order
of 2-D tiling visits a permutation of the untiled nest (`tiled2d_perm`).
-/
import OccaProofs.Lemmas.Tile

namespace Occa.Loop

theorem flatMap_append_perm {α β : Type} (l : List α) (f g : α → List β) :
    (l.flatMap f ++ l.flatMap g).Perm (l.flatMap fun a => f a ++ g a) := by
  induction l with
  | nil => simp
  | cons a t ih =>
    simp only [List.flatMap_cons, List.append_assoc]
    exact ((List.perm_append_comm_assoc _ _ _).trans (ih.append_left _)).append_left _

theorem perm_flatMap_left {α β : Type} (l : List α) {f g : α → List β} (h : ∀ a ∈ l, (f a).Perm (g a)) :
    (l.flatMap f).Perm (l.flatMap g) := by
  induction l with
  | nil => simp
  | cons a t ih =>
    simp only [List.flatMap_cons]
    exact (h a List.mem_cons_self).append (ih fun b hb => h b (List.mem_cons_of_mem _ hb))

theorem flatMap_comm_perm {α β γ : Type} (l1 : List α) (l2 : List β) (g : α → β → List γ) :
    (l1.flatMap fun a => l2.flatMap fun b => g a b).Perm (l2.flatMap fun b => l1.flatMap fun a => g a b) := by
  induction l1 with
  | nil => simp
  | cons a t ih =>
    simp only [List.flatMap_cons]
    exact (ih.append_left _).trans (flatMap_append_perm l2 (g a) (fun b => t.flatMap fun a' => g a' b))

theorem tiled2d_perm (hy hx : Header) (Ty Tx : Int) (vy : hy.Valid) (sy : 0 < hy.step) (ty : 0 < Ty)
    (vx : hx.Valid) (sx : 0 < hx.step) (tx : 0 < Tx) :
    (tiled2d hy Ty true hx Tx true).Perm (seqNest [hy, hx]) := by
  have ey := tiled_exact hy Ty vy sy ty
  have ex := tiled_exact hx Tx vx sx tx
  unfold tiled at ey ex
  have hseq : seqNest [hy, hx] = (seqIters hy).flatMap fun y => (seqIters hx).map fun x => [y, x] := by
    simp [seqNest, ← List.map_eq_flatMap, Function.comp_def]
  rw [hseq, ← ey, List.flatMap_assoc]
  unfold tiled2d
  refine perm_flatMap_left _ fun yT _ => ?_
  refine (flatMap_comm_perm _ _ _).trans ?_
  refine perm_flatMap_left _ fun y _ => ?_
  rw [← List.map_flatMap, ex]

end Occa.Loop
