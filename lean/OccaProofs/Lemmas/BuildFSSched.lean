/-
Any number of processes under any schedule (OccaModel.BuildFS.runSched):
  * rely/guarantee: every step of a disciplined process other than `rmrf` respects what the others rely on
    (`rely_of_guar`);
  * a step accepted in a process's own view of the bookkeeping is accepted in the global one, provided the names it
    creates are not owned by another process (`local_to_global`);
  * hence a trace whose per-process parts are accepted, with pairwise distinct created names, is accepted as a
    whole (`accepts_interleave`); the steps of a process in a schedule are a trace of its program
    (`runSched_filter`), so every schedule of disciplined programs obeys the discipline (`runSched_accepts`);
  * parallel composition: when every step of a schedule is one the other processes rely on, each process keeps
    its `Wp` along the schedule (`runSched_wp`).
-/
import OccaProofs.Lemmas.BuildFSProgress
namespace Occa.BuildFS

section sched
variable {S : Spec}

theorem touchedOK_written {P : Path → Prop} {o : Op} (h : touchedOK P o) : ∀ x ∈ written o, P x ∨ x.tmp = none := by
  cases o with
  | creat p | append p _ | close p => exact fun x hx => .inl (List.mem_singleton.1 hx ▸ h)
  | rename a b =>
    intro x hx
    rcases List.mem_cons.1 hx with rfl | hx
    · exact .inl h.1
    · exact .inr (List.mem_singleton.1 hx ▸ h.2)
  | exec _ outs => exact fun x hx => .inl (h x hx)
  | _ => exact fun _ hx => (List.not_mem_nil hx).elim

theorem rely_of_guar {ci cj : Config} (hd : ∀ x, IsTok ci x → ¬ IsTok cj x) (o : Op) (fs : FS)
    (ht : touchedOK (IsTok ci) o) (hr : isRmrf o = false) : Rely cj fs (applyOp S fs o) := by
  refine ⟨fun q hq h => present_applyOp hr (fun a b he e => ?_) h, fun q i hq => files_applyOp hr fun hw => ?_⟩
  · subst he e
    obtain ⟨i, hi⟩ := ht.1
    rw [hi] at hq; cases hq
  · rcases touchedOK_written ht q hw with h | h
    · exact hd q h ⟨i, hq⟩
    · rw [h] at hq; cases hq

theorem touchedOK_created {P : Path → Prop} {o : Op} (h : touchedOK P o) : ∀ x ∈ created o, P x := by
  cases o with
  | creat p => exact fun x hx => List.mem_singleton.1 hx ▸ h
  | exec _ outs => exact h
  | _ => exact fun _ hx => (List.not_mem_nil hx).elim

/-- the part of the global bookkeeping that belongs to process `i` -/
def proj (st : AS) (i : Nat) : AS := fun q =>
  match st q with
  | some (o, ts) => if o = i then some (o, ts) else none
  | none => none

theorem proj_some {st : AS} {i : Nat} {q : Path} {o : Nat} {ts : TS} (h : proj st i q = some (o, ts)) :
    st q = some (i, ts) ∧ o = i := by
  unfold proj at h
  split at h
  · rename_i o' ts' hst
    split at h
    · rename_i ho
      cases h
      exact ⟨by rw [hst, ho], ho⟩
    · cases h
  · cases h

theorem proj_of_own {st : AS} {i : Nat} {q : Path} {ts : TS} (h : st q = some (i, ts)) : proj st i q = some (i, ts) := by
  simp [proj, h]

theorem proj_of_other {st : AS} {i j : Nat} {q : Path} {ts : TS} (h : st q = some (j, ts)) (hji : j ≠ i) : proj st i q = none := by
  simp [proj, h, hji]

theorem proj_of_none {st : AS} {i : Nat} {q : Path} (h : st q = none) : proj st i q = none := by
  simp [proj, h]

theorem proj_none {st : AS} {i : Nat} {q : Path} (h : proj st i q = none)
    (hc : ∀ j ts, st q = some (j, ts) → j = i) : st q = none := by
  cases hso : st q with
  | none => rfl
  | some v =>
    obtain ⟨j, ts⟩ := v
    cases hc j ts hso
    rw [proj_of_own hso] at h; cases h

theorem proj_empty (i : Nat) : proj AS.empty i = AS.empty := by
  funext q; simp [proj, AS.empty]

theorem ownedClosed_proj (st : AS) (i : Nat) (p : Path) : ownedClosed (proj st i) i p = ownedClosed st i p := by
  unfold ownedClosed proj
  cases h : st p with
  | none => rfl
  | some v =>
    obtain ⟨o, ts⟩ := v
    by_cases ho : o = i
    · subst ho; simp
    · cases ts <;> simp [ho]

theorem owned_proj (st : AS) (i : Nat) (p : Path) : owned (proj st i) i p = owned st i p := by
  unfold owned proj
  cases h : st p with
  | none => rfl
  | some v =>
    obtain ⟨o, ts⟩ := v
    by_cases ho : o = i
    · subst ho; simp
    · simp [ho]

/-- the result of the global step: process `i`'s view advanced as in its local run, the others' views
    untouched, and every new entry belongs to `i` and is one of the names the step creates -/
structure Lifted (st st' : AS) (i : Nat) (o : Op) (s1 : AS) : Prop where
  mine : proj st' i = s1
  others : ∀ j, j ≠ i → proj st' j = proj st j
  entries : ∀ q j ts, st' q = some (j, ts) → (∃ ts', st q = some (j, ts')) ∨ (j = i ∧ q ∈ created o)

theorem Lifted.same (st : AS) (i : Nat) (o : Op) : Lifted st st i o (proj st i) :=
  ⟨rfl, fun _ _ => rfl, fun _ _ ts h => Or.inl ⟨ts, h⟩⟩

theorem proj_upd_self (st : AS) (X : Path → Prop) [DecidablePred X] (i : Nat) (ts : TS) :
    proj (st.upd X (i, ts)) i = (proj st i).upd X (i, ts) := by
  funext q
  by_cases hx : X q <;> simp [proj, AS.upd, hx]

theorem proj_upd_other (st : AS) {X : Path → Prop} [DecidablePred X] {i j : Nat} (ts : TS) (hji : j ≠ i)
    (hn : ∀ q, X q → proj st j q = none) : proj (st.upd X (i, ts)) j = proj st j := by
  funext q
  by_cases hx : X q
  · rw [hn q hx]; simp [proj, AS.upd, hx, Ne.symm hji]
  · simp [proj, AS.upd, hx]

theorem lifted_upd {st : AS} {i : Nat} {o : Op} {X : Path → Prop} [DecidablePred X] {ts : TS}
    (hown : ∀ q, X q → (∃ ts0, st q = some (i, ts0)) ∨ (st q = none ∧ q ∈ created o)) :
    Lifted st (st.upd X (i, ts)) i o ((proj st i).upd X (i, ts)) := by
  refine ⟨proj_upd_self st X i ts, fun j hji => proj_upd_other st ts hji fun q hx => ?_, fun q j ts' h => ?_⟩
  · rcases hown q hx with ⟨ts0, h0⟩ | ⟨h0, _⟩
    · exact proj_of_other h0 (Ne.symm hji)
    · exact proj_of_none h0
  · unfold AS.upd at h
    split at h
    · rename_i hx
      cases h
      exact (hown q hx).imp id fun h0 => ⟨rfl, h0.2⟩
    · exact .inl ⟨ts', h⟩

theorem lifted_set {st : AS} {i : Nat} {o : Op} {p : Path} {ts : TS} (hown : (∃ ts0, st p = some (i, ts0)) ∨ (st p = none ∧ p ∈ created o)) :
    Lifted st (st.set p (i, ts)) i o ((proj st i).set p (i, ts)) :=
  lifted_upd (X := (· = p)) fun _ e => e ▸ hown

theorem local_to_global {st : AS} {i : Nat} {o : Op} {s1 : AS} (hl : Accepted S (proj st i) i o s1)
    (hc : ∀ p ∈ created o, ∀ j ts, st p = some (j, ts) → j = i) :
    ∃ st', Accepted S st i o st' ∧ Lifted st st' i o s1 := by
  cases hl with
  | statDir d => exact ⟨st, .statDir d, .same ..⟩
  | mkdir d => exact ⟨st, .mkdir d, .same ..⟩
  | fsyncDir d => exact ⟨st, .fsyncDir d, .same ..⟩
  | rmrf d => exact ⟨st, .rmrf d, .same ..⟩
  | fsync hp => exact ⟨st, .fsync fun h => ownedClosed_proj st i _ ▸ hp h, .same ..⟩
  | openRead hp => exact ⟨st, .openRead fun h => ownedClosed_proj st i _ ▸ hp h, .same ..⟩
  | stat hp => exact ⟨st, .stat fun h => owned_proj st i _ ▸ hp h, .same ..⟩
  | run hp => exact ⟨st, .run hp, .same ..⟩
  | @creat p ht hn =>
    have hst : st p = none := proj_none hn (hc p (by simp [created]))
    exact ⟨_, .creat ht hst, lifted_set (.inr ⟨hst, by simp [created]⟩)⟩
  | append bs hst => exact ⟨_, .append bs (proj_some hst).1, lifted_set (.inl ⟨_, (proj_some hst).1⟩)⟩
  | close hst => exact ⟨_, .close (proj_some hst).1, lifted_set (.inl ⟨_, (proj_some hst).1⟩)⟩
  | rename ht hfin hm =>
    have hm' : Movable S i st _ _ := hm.imp (fun ⟨bs, h1, h2⟩ => ⟨bs, (proj_some h1).1, h2⟩) (fun h1 => (proj_some h1).1)
    exact ⟨_, .rename ht hfin hm', lifted_set (.inl hm'.owned)⟩
  | @exec src outs _ hs hex =>
    obtain ⟨h1, hnd, rfl⟩ := execOuts_spec.1 hex
    have hn : ∀ p ∈ outs, st p = none := fun p hp => proj_none (h1 p hp).2.1 (hc p hp)
    exact ⟨_, .exec hs (execOuts_spec.2 ⟨fun p hp => ⟨(h1 p hp).1, hn p hp, (h1 p hp).2.2⟩, hnd, rfl⟩),
      lifted_upd fun q hq => .inr ⟨hn q hq, hq⟩⟩

theorem runSched_apply : ∀ (sch : List Nat) (ps : Nat → Prog Bool) (fs : FS),
    (runSched S sch ps fs).2.1 = apply S (runSched S sch ps fs).2.2 fs := by
  intro sch
  induction sch with
  | nil => intro ps fs; rfl
  | cons i sch ih =>
    intro ps fs
    simp only [runSched, apply_append]
    rw [ih]
    congr 1
    unfold tick
    cases ps i <;> rfl

theorem filter_pid_cons_same (e : Ev) (t : Trace) :
    (e :: t).filter (fun x => x.pid == e.pid) = e :: t.filter (fun x => x.pid == e.pid) := by
  simp

theorem filter_pid_cons_other (e : Ev) (t : Trace) (j : Nat) (h : j ≠ e.pid) :
    (e :: t).filter (fun x => x.pid == j) = t.filter (fun x => x.pid == j) := by
  have : (e.pid == j) = false := by simp [Ne.symm h]
  simp [this]

/-- Interleaving: if the steps of every single process, taken alone, obey the discipline in that process's
    own view of the bookkeeping, and the processes create pairwise distinct names, then the interleaved trace
    obeys the (global) discipline. -/
theorem accepts_interleave : ∀ (t : Trace) (st : AS),
    (∀ i, (acceptsFrom S (proj st i) (t.filter (fun x => x.pid == i))).isSome = true) →
    CreatedDisjoint st t → (acceptsFrom S st t).isSome = true := by
  intro t
  induction t with
  | nil => intro st _ _; rfl
  | cons e t ih =>
    intro st hloc hdis
    have hl := hloc e.pid
    rw [filter_pid_cons_same, Option.isSome_iff_exists] at hl
    obtain ⟨_, hl⟩ := hl
    obtain ⟨s1, hs, hl⟩ := acceptsFrom_cons.1 hl
    obtain ⟨st', g1, g2⟩ := local_to_global (acceptStep_iff.1 hs)
      (fun p hp j ts hst => (hdis e (List.mem_cons_self ..) p hp).1 j ts hst)
    simp only [acceptsFrom, acceptStep_iff.2 g1]
    apply ih st'
    · intro j
      by_cases hj : j = e.pid
      · subst hj
        rw [g2.mine, hl]; rfl
      · rw [g2.others j hj]
        have := hloc j
        rw [filter_pid_cons_other e t j hj] at this
        exact this
    · intro e2 he2 p hp
      refine ⟨?_, fun e' he' hne => (hdis e2 (List.mem_cons_of_mem _ he2) p hp).2 e' (List.mem_cons_of_mem _ he') hne⟩
      intro j ts hst
      rcases g2.entries p j ts hst with ⟨ts', h'⟩ | ⟨hj, hm⟩
      · exact (hdis e2 (List.mem_cons_of_mem _ he2) p hp).1 j ts' h'
      · subst hj
        by_cases hpe : e2.pid = e.pid
        · exact hpe.symm
        · exact absurd hp ((hdis e (List.mem_cons_self ..) p hm).2 e2 (List.mem_cons_of_mem _ he2) hpe)

theorem runSched_filter : ∀ (sch : List Nat) (ps : Nat → Prog Bool) (fs : FS) (i : Nat),
    IsTrace i (ps i) ((runSched S sch ps fs).2.2.filter (fun x => x.pid == i)) := by
  intro sch
  induction sch with
  | nil => intro ps fs i; exact IsTrace.nil _
  | cons j sch ih =>
    intro ps fs i
    have h := ih (tick S j ps fs).1 (tick S j ps fs).2.1 i
    simp only [runSched, List.filter_append]
    unfold tick at h ⊢
    cases hpj : ps j with
    | ret a => rw [hpj] at h; exact h
    | fail => rw [hpj] at h; exact h
    | act o k =>
      rw [hpj] at h
      simp only at h ⊢
      by_cases hij : i = j
      · subst hij
        rw [if_pos rfl] at h
        rw [hpj, show List.filter _ [_] = [_] from filter_pid_cons_same ⟨i, o, result fs o⟩ []]
        exact IsTrace.act o k _ _ h
      · rw [if_neg hij] at h
        rw [show List.filter _ [_] = [] from filter_pid_cons_other ⟨j, o, result fs o⟩ [] i hij]
        exact h

theorem runSched_accepts {P : Nat → Path → Prop} {Rm : Nat → Prop} (ps : Nat → Prog Bool)
    (hs : ∀ i, Safe S i (P i) (Rm i) (ps i) AS.empty (fun _ _ => True))
    (hd : ∀ i j, i ≠ j → ∀ x, P i x → ¬ P j x) (sch : List Nat) (fs : FS) :
    (acceptsFrom S AS.empty (runSched S sch ps fs).2.2).isSome = true ∧
      ∀ e ∈ (runSched S sch ps fs).2.2, touchedOK (P e.pid) e.op ∧ (isRmrf e.op = true → Rm e.pid) := by
  have hg : ∀ e ∈ (runSched S sch ps fs).2.2, touchedOK (P e.pid) e.op ∧ (isRmrf e.op = true → Rm e.pid) := fun e he =>
    guar_trace _ (safe_guar (hs e.pid)) _ (runSched_filter sch ps fs e.pid) e (List.mem_filter.2 ⟨he, by simp⟩)
  refine ⟨accepts_interleave _ _ (fun i => by rw [proj_empty]; exact safe_trace (hs i) _ (runSched_filter sch ps fs i)) ?_, hg⟩
  intro e he p hp
  refine ⟨fun j ts h => by simp [AS.empty] at h, fun e' he' hne hp' => ?_⟩
  exact hd _ _ hne p (touchedOK_created (hg e' he').1 p hp') (touchedOK_created (hg e he).1 p hp)

theorem runSched_wp {cfgs : Nat → Config} {Q : Nat → Bool → FS → Prop} (hQ : ∀ i a, Stable (cfgs i) (Q i a)) :
    ∀ (sch : List Nat) (ps : Nat → Prog Bool) (fs : FS),
      (∀ e ∈ (runSched S sch ps fs).2.2, ∀ j, j ≠ e.pid → ∀ fs', Rely (cfgs j) fs' (applyOp S fs' e.op)) →
      (∀ i, Wp S (cfgs i) (fun _ => True) (ps i) (Q i) fs) →
      ∀ i, Wp S (cfgs i) (fun _ => True) ((runSched S sch ps fs).1 i) (Q i) (runSched S sch ps fs).2.1 := by
  intro sch
  induction sch with
  | nil => exact fun _ _ _ h => h
  | cons j sch ih =>
    intro ps fs hg h
    refine ih _ _ (fun e he => hg e (List.mem_append_right _ he)) fun i => ?_
    have hg' := fun e he => hg e (List.mem_append_left _ he)
    unfold tick at hg' ⊢
    cases hpj : ps j with
    | ret a => exact h i
    | fail => exact h i
    | act o k =>
      have hj := h j
      rw [hpj] at hg' hj
      by_cases hij : i = j
      · subst hij
        simp only [if_true]
        exact hj.2 fs (Rely.refl _ fs)
      · simp only [hij, if_false]
        exact wp_rely (hQ i) (h i) (hg' ⟨j, o, result fs o⟩ (List.mem_singleton.2 rfl) i hij fs)

end sched
end Occa.BuildFS
