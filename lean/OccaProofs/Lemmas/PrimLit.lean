/-
Integer and boolean literals: `primitive::load` on the text of a well-formed literal, wherever it
stands in the source, returns the type and value of [lex.icon] Table 7 and stops at its end.
-/
import OccaProofs.Lemmas.PrimScan
namespace Occa.Prim.Lemmas
open Occa Occa.CExpr Occa.CxxSem Occa.Gen Occa.Prim

theorem inRange_nat (t : Ty) (V M : Nat) (hM : t.maxVal = M) : inRange t (V : Int) = decide (V ≤ M) := by
  have := (Ty.span t).2.1
  rw [Bool.eq_iff_iff, inRange_iff, hM]
  simp only [decide_eq_true_eq]
  omega

theorem integerLiteral_shape (V : Nat) (d u : Bool) (n : Nat) :
    Arith (integerLiteral V d u n).1 ∧
      (integerLiteral V d u n).2 = wrapTo (integerLiteral V d u n).1 (Int.ofNat V) := by
  unfold integerLiteral
  repeat' split
  all_goals exact ⟨by simp [Arith], rfl⟩

/-- the typing branches of primitive.cpp's integerLiteral() pick the first fitting type of Table 7:
    both run through the same comparisons in the same order -/
theorem integerLiteral_fst (dec : Prop) [Decidable dec] (uns : Bool) (n V : Nat) (t : Ty)
    (h : (match uns, n with
          | false, 0 => if dec then [Ty.int, .long] else [.int, .uint, .long, .ulong]
          | true,  0 => [.uint, .ulong]
          | false, _ => if dec then [.long] else [.long, .ulong]
          | true,  _ => [.ulong]).find? (fun t => inRange t (Int.ofNat V)) = some t) :
    (integerLiteral V (decide dec) uns n).1 = t := by
  cases uns <;> by_cases hd : dec <;> rcases n with _ | n <;>
    simp only [hd, List.find?, inRange_nat .int _ 2147483647 rfl, inRange_nat .uint _ 4294967295 rfl,
      inRange_nat .long _ 9223372036854775807 rfl, inRange_nat .ulong _ 18446744073709551615 rfl, Int.ofNat_eq_natCast,
      if_false, if_true] at h <;>
    simp only [hd, integerLiteral, Nat.succ_ne_zero, decide_false, decide_true, Bool.not_false, Bool.not_true,
      Bool.true_and, Bool.false_and, Bool.or_false, Bool.or_true, Bool.false_eq_true, if_false, if_true] <;>
    (repeat' split at h) <;> cases h <;> (try simp only [*, Bool.false_eq_true, if_false, if_true]) <;> rfl

theorem integerLiteral_eq {V : Nat} {d u : Bool} {n : Nat} {t : Ty} (h1 : (integerLiteral V d u n).1 = t)
    (hin : inRange t (Int.ofNat V) = true) : integerLiteral V d u n = (t, Int.ofNat V) ∧ Arith t := by
  obtain ⟨hA, h2⟩ := integerLiteral_shape V d u n
  rw [h1] at hA h2
  rw [wrapTo_id hin] at h2
  exact ⟨Prod.ext h1 h2, hA⟩

theorem literalTypedByValue_on : literalTypedByValue = true := by decide

theorem lead_facts : ∀ c ∈ '.' :: decChars, c ≠ 't' ∧ c ≠ 'f' ∧ c ≠ '+' ∧ c ≠ '-' ∧ isWs c = false := by decide +kernel

/-- the text after a leading `0` does not start with the `b` / `x` of a binary / hex prefix -/
def NotBX (s : List Char) : Prop := upper (Prim.hd s) ≠ 'B' ∧ upper (Prim.hd s) ≠ 'X'

theorem NotBX.of_hd {s L : List Char} (h : Prim.hd s ∈ L) (hL : ∀ c ∈ L, upper c ≠ 'B' ∧ upper c ≠ 'X' := by decide +kernel) :
    NotBX s := hL _ h

theorem load_plain (fuel : Nat) (sg : List Char) (c : Char) (t : List Char)
    (hsg : sg = [] ∨ sg = ['+'] ∨ sg = ['-']) (hc : c ∈ '.' :: decChars) (hbx : c = '0' → NotBX t) :
    load (fuel + 1) (sg ++ c :: t) true =
      finishPlain (fun t => load fuel t true) (sg ++ c :: t) (c :: t) (decide (sg = ['-'])) := by
  obtain ⟨ht, hf, hp, hm, hw⟩ := lead_facts c hc
  have hws : skipWs (c :: t) = c :: t := by simp [skipWs, hw]
  rcases hsg with rfl | rfl | rfl <;>
    simp [load, NotBX, List.isPrefixOf, Prim.hd, hws, Ne.symm ht, Ne.symm hf, hp, hm] at hbx ⊢ <;>
    exact fun h0 h => (h.elim (hbx h0).1 (hbx h0).2).elim

theorem load_prefixed (fuel : Nat) (x : Char) (s : List Char) (hx : upper x = 'B' ∨ upper x = 'X') :
    load (fuel + 1) ('0' :: x :: s) true =
      (let pr := if upper x = 'B' then loadBinary s false else loadHex s false
       if pr.1.ty.isNone then (Prim.none, '0' :: x :: s)
       else finishFormatted (fun t => load fuel t true) pr.1 pr.2 false) := by
  simp [load, List.isPrefixOf, Prim.hd, literalTypedByValue_on, hx]

theorem decVal_eq (ds : List Char) (hdig : ∀ c ∈ ds, isDigitOf 10 c = true) : decVal ds = hornerMod 10 0 ds := by
  unfold decVal hornerMod
  refine List.foldl_rel (r := Eq) rfl fun c hc v _ h => h ▸ ?_
  rw [(dec_step c (dec_digit (hdig c hc))).2, Nat.mul_comm]

theorem octVal_eq (ds : List Char) (hdig : ∀ c ∈ ds, isDigitOf 8 c = true) : octVal ('0' :: ds) = hornerMod 8 0 ds := by
  unfold octVal hornerMod
  simp only [List.drop_succ_cons, List.drop_zero]
  refine List.foldl_rel (r := Eq) rfl fun c hc v _ h => h ▸ ?_
  rw [(dec_step c (dec_digit (digit_mono (by decide) (hdig c hc)))).2]

theorem take_append_sub {α : Type} (a b : List α) : (a ++ b).take ((a ++ b).length - b.length) = a := by
  simp

theorem finishPlain_int (loadRec : List Char → Prim × List Char) (c0 : List Char) (d0 : Char) (ds suf rest : List Char)
    (hdig : ∀ c ∈ d0 :: ds, isDigitOf 10 c = true) (hs : ∀ c ∈ suf, c ∈ sufChars) (hr : Term rest) (neg : Bool) :
    finishPlain loadRec c0 (d0 :: ds ++ (suf ++ rest)) neg =
      (applySign neg (integerLiteral (if d0 ≠ '0' then decVal (d0 :: ds) else octVal (d0 :: ds)) (decide (d0 ≠ '0'))
        (sufUnsigned suf) (sufLongs suf)), rest) := by
  have hscan := fun k => (scanDigits_run (d0 :: ds) hdig (suf ++ rest) k false).trans (scanDigits_stop (hd_append hs hr.hd))
  unfold finishPlain
  simp only [hscan, scanSuffix_suffix _ false suf rest hs hr, take_append_sub]
  simp [Prim.hd, literalTypedByValue_on]

theorem load_dec (fuel : Nat) (d0 : Char) (ds suf rest : List Char)
    (hdig : ∀ c ∈ d0 :: ds, isDigitOf 10 c = true) (hnz : d0 ≠ '0') (hs : ∀ c ∈ suf, c ∈ sufChars) (hr : Term rest)
    (hV : digitsVal 10 (d0 :: ds) < two64) :
    load (fuel + 1) (d0 :: ds ++ (suf ++ rest)) true =
      (let q := integerLiteral (digitsVal 10 (d0 :: ds)) true (sufUnsigned suf) (sufLongs suf); ⟨some q.1, q.2⟩, rest) := by
  refine (load_plain fuel [] d0 (ds ++ (suf ++ rest)) (Or.inl rfl) (.tail _ (dec_digit (hdig d0 (by simp))))
    (fun h => absurd h hnz)).trans ?_
  rw [List.nil_append, ← List.cons_append, finishPlain_int _ _ d0 ds suf rest hdig hs hr, if_pos hnz, decVal_eq _ hdig,
    hornerMod_digitsVal (by decide) hV]
  simp [applySign, hnz]

theorem load_oct (fuel : Nat) (ds suf rest : List Char)
    (hdig : ∀ c ∈ ds, isDigitOf 8 c = true) (hs : ∀ c ∈ suf, c ∈ sufChars) (hr : Term rest)
    (hV : digitsVal 8 ds < two64) :
    load (fuel + 1) ('0' :: ds ++ (suf ++ rest)) true =
      (let q := integerLiteral (digitsVal 8 ds) false (sufUnsigned suf) (sufLongs suf); ⟨some q.1, q.2⟩, rest) := by
  have hdig10 : ∀ c ∈ ds, isDigitOf 10 c = true := fun c hc => digit_mono (by decide) (hdig c hc)
  have hdig' : ∀ c ∈ '0' :: ds, isDigitOf 10 c = true := List.forall_mem_cons.mpr ⟨by decide, hdig10⟩
  refine (load_plain fuel [] '0' (ds ++ (suf ++ rest)) (Or.inl rfl) (.tail _ (.head _))
    (fun _ => .of_hd (hd_append (fun c hc => dec_digit (hdig10 c hc)) (hd_append hs hr.hd)))).trans ?_
  rw [List.nil_append, ← List.cons_append, finishPlain_int _ _ '0' ds suf rest hdig' hs hr, if_neg (by decide),
    octVal_eq _ hdig, hornerMod_digitsVal (by decide) hV]
  simp [applySign]

theorem toT_ulong_unsigned {t : Ty} (hf : t.isFloat = false) (hs : t.signed = false) {v : Nat}
    (hv : v < 2 ^ t.bits) : toT .ulong ⟨some t, wrapTo t v⟩ = .ok ⟨.ulong, Int.ofNat v⟩ := by
  have hin : ∀ s : Ty, s.signed = false → v < 2 ^ s.bits → inRange s v = true := fun s hs h => by
    rw [inRange_iff, Ty.minVal, Ty.maxVal, hs]
    exact ⟨Int.natCast_nonneg v, Int.le_sub_one_of_lt (by exact_mod_cast h)⟩
  simp only [toT, hf, Bool.false_and, Bool.false_eq_true, if_false, wrapTo_id (hin t hs hv)]
  rw [cvt_int ⟨t, v⟩ hf (t := .ulong) rfl,
    wrapTo_id (hin .ulong rfl (Nat.lt_of_lt_of_le hv (Nat.pow_le_pow_right (by decide) (Ty.bits_le_64 t))))]
  rfl

/-- loadHex / loadBinary hand the value over in an unsigned type of more bits than were read (`bits < 8`, `< 16`, `< 32`:
    `0xFF` goes into 16) or of 64, so `to<uint64_t>()` gives the value back -/
theorem sizedPrim_ulong (v bits : Nat) (hv : v < 2 ^ bits) (hv64 : v < two64) :
    toT .ulong (sizedPrim v bits false) = .ok ⟨.ulong, Int.ofNat v⟩ ∧ (sizedPrim v bits false).ty.isNone = false := by
  have hle : ∀ {n}, bits < n → v < 2 ^ n := fun h => Nat.lt_of_lt_of_le hv (Nat.pow_le_pow_right (by decide) (Nat.le_of_lt h))
  unfold sizedPrim
  simp only [Bool.false_eq_true, if_false]
  split
  · exact ⟨toT_ulong_unsigned rfl rfl (hle ‹_›), rfl⟩
  split
  · exact ⟨toT_ulong_unsigned rfl rfl (hle ‹_›), rfl⟩
  split
  · exact ⟨toT_ulong_unsigned rfl rfl (hle ‹_›), rfl⟩
  · exact ⟨toT_ulong_unsigned rfl rfl hv64, rfl⟩

theorem finishFormatted_sized (loadRec : List Char → Prim × List Char) (V bits : Nat) (hlt : V < 2 ^ bits)
    (hV : V < two64) (suf rest : List Char) (hs : ∀ c ∈ suf, c ∈ sufChars) (hr : Term rest) :
    finishFormatted loadRec (sizedPrim V bits false) (suf ++ rest) false =
      (let q := integerLiteral V false (sufUnsigned suf) (sufLongs suf); ⟨some q.1, q.2⟩, rest) := by
  simp [finishFormatted, scanSuffix_suffix _ true suf rest hs hr, (sizedPrim_ulong V bits hlt hV).1, applySign]

theorem load_hex (fuel : Nat) (x : Char) (hx : upper x = 'X') (ds suf rest : List Char)
    (hdig : ∀ c ∈ ds, isDigitOf 16 c = true) (hne : ds ≠ []) (hs : ∀ c ∈ suf, c ∈ sufChars) (hr : Term rest)
    (hV : digitsVal 16 ds < two64) :
    load (fuel + 1) ('0' :: x :: (ds ++ (suf ++ rest))) true =
      (let q := integerLiteral (digitsVal 16 ds) false (sufUnsigned suf) (sufLongs suf); ⟨some q.1, q.2⟩, rest) := by
  have hscan := scan_digits scanHex_step ds hdig (suf ++ rest) (fun _ _ => scanHex_stop (hd_append hs hr.hd)) 0 0
  rw [hornerMod_digitsVal (by decide) hV] at hscan
  have hlt : digitsVal 16 ds < 2 ^ (4 * ds.length) := by rw [Nat.pow_mul]; exact digitsVal_lt hdig
  rw [load_prefixed fuel x _ (Or.inr hx)]
  simp [hx, loadHex, hscan, hne, (sizedPrim_ulong _ _ hlt hV).2, finishFormatted_sized _ _ _ hlt hV suf rest hs hr]

theorem load_bin (fuel : Nat) (x : Char) (hx : upper x = 'B') (ds suf rest : List Char)
    (hdig : ∀ c ∈ ds, isDigitOf 2 c = true) (hne : ds ≠ []) (hs : ∀ c ∈ suf, c ∈ sufChars) (hr : Term rest)
    (hV : digitsVal 2 ds < two64) :
    load (fuel + 1) ('0' :: x :: (ds ++ (suf ++ rest))) true =
      (let q := integerLiteral (digitsVal 2 ds) false (sufUnsigned suf) (sufLongs suf); ⟨some q.1, q.2⟩, rest) := by
  have hscan := scan_digits scanBin_step ds hdig (suf ++ rest) (fun _ _ => scanBin_stop (hd_append hs hr.hd)) 0 0
  rw [hornerMod_digitsVal (by decide) hV] at hscan
  have hlt : digitsVal 2 ds < 2 ^ ds.length := digitsVal_lt hdig
  rw [load_prefixed fuel x _ (Or.inl hx)]
  simp [hx, loadBinary, hscan, hne, (sizedPrim_ulong _ _ hlt hV).2, finishFormatted_sized _ _ _ hlt hV suf rest hs hr]

theorem inRange_lt_two64 {t : Ty} {V : Nat} (h : inRange t (Int.ofNat V) = true) : V < two64 :=
  Nat.lt_of_lt_of_le (inRange_natAbs h) (Nat.pow_le_pow_right (by decide) (Ty.bits_le_64 t))

theorem contains_suffix {suf : List Char} (h : intSuffixes.contains suf = true) : ∀ c ∈ suf, c ∈ sufChars :=
  (by decide +kernel : ∀ s ∈ intSuffixes, ∀ c ∈ s, c ∈ sufChars) suf (List.contains_iff_mem.mp h)

theorem load_intlit (l : IntLit) (hwf : l.wf = true) (hV : digitsVal l.radix l.digits < two64) (rest : List Char)
    (hr : Term rest) (fuel : Nat) :
    load (fuel + 1) (l.text ++ rest) true =
      (let q := integerLiteral (digitsVal l.radix l.digits) (decide (l.radix = 10)) l.isUnsigned l.longs; ⟨some q.1, q.2⟩, rest) := by
  simp only [IntLit.wf, Bool.and_eq_true, decide_eq_true_eq, List.all_eq_true] at hwf
  obtain ⟨⟨⟨hpre, hdig⟩, hshape⟩, hsuf⟩ := hwf
  have hs := contains_suffix hsuf
  obtain ⟨pre, ds, suf⟩ := l
  -- one spelling at a time; the prefix fixes the radix (by evaluation)
  rcases hpre with hp | hp | hp | hp | hp | hp <;> simp only at hp <;> subst hp <;>
    simp only [IntLit.text, List.nil_append, List.cons_append, List.append_assoc]
  · cases ds with
    | nil => simp at hshape
    | cons d0 t0 => exact load_dec fuel d0 t0 suf rest hdig (by simpa using hshape) hs hr hV
  · exact load_oct fuel ds suf rest hdig hs hr hV
  · exact load_hex fuel 'x' (by decide) ds suf rest hdig (by simpa using hshape) hs hr hV
  · exact load_hex fuel 'X' (by decide) ds suf rest hdig (by simpa using hshape) hs hr hV
  · exact load_bin fuel 'b' (by decide) ds suf rest hdig (by simpa using hshape) hs hr hV
  · exact load_bin fuel 'B' (by decide) ds suf rest hdig (by simpa using hshape) hs hr hV

theorem cand_reach (l : IntLit) : ∀ t ∈ l.candidates, Reach t := by
  unfold IntLit.candidates Reach
  dsimp only
  split <;> (try split) <;> decide

/-- [lex.icon] typing = primitive::load typing: occa's typing of the value read is the first fitting candidate of Table 7 -/
theorem intlit_load (l : IntLit) (v : Val) (h : intLitVal l = .val v) (rest : List Char) (hr : Term rest) (fuel : Nat) :
    load (fuel + 1) (l.text ++ rest) true = (Prim.ofVal v, rest) ∧ Good v := by
  unfold intLitVal at h
  split at h
  case isFalse => cases h
  rename_i hwf
  simp only at h
  split at h
  case h_2 => cases h
  rename_i t hfind
  cases h
  have hin : inRange t _ = true := (List.find?_some hfind :)
  obtain ⟨hspec, hA⟩ := integerLiteral_eq (integerLiteral_fst (l.radix = 10) l.isUnsigned l.longs _ t hfind) hin
  refine ⟨?_, hA.reach, hin⟩
  rw [load_intlit l hwf (inRange_lt_two64 hin) rest hr fuel, hspec]
  rfl

theorem lit_load {l : Lit} {v : Val} (hl : integral (.lit l) = true) (h : litVal l = .val v) (rest : List Char)
    (hr : Term rest) (fuel : Nat) : load (fuel + 1) (l.text ++ rest) true = (Prim.ofVal v, rest) ∧ Good v := by
  cases l with
  | bool b =>
    cases h
    exact ⟨by cases b <;> simp [Lit.text, load, List.isPrefixOf, Prim.ofVal, ofBool], good_ofBool b⟩
  | int il => exact intlit_load il v h rest hr fuel
  | float fl => simp [integral] at hl

/-- the token alone: `getPrimitiveToken` -/
theorem lit_agree {l : Lit} {v : Val} (hl : integral (.lit l) = true) (h : litVal l = .val v) :
    loadTok l.text = Prim.ofVal v ∧ Good v := by
  obtain ⟨h1, h2⟩ := lit_load hl h [] (Or.inl rfl) l.text.length
  rw [List.append_nil] at h1
  exact ⟨by unfold loadTok; rw [h1], h2⟩

end Occa.Prim.Lemmas
