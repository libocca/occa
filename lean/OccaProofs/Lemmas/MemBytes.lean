/-
C02: what reads observe.  The bytes a view stands for (`bytesOf`), a successful host copy and a successful slice
taken apart (`copyFromHost_ok`, `copyToHost_ok`, `slice_ok`), and the aliasing fact behind the end-to-end theorems:
what was written through one handle is read through any handle of the same bytes (`read_after_write`).
-/
import OccaProofs.Lemmas.Mem

namespace Occa.Mem

/-- the bytes a view stands for -/
def bytesOf (s : State) (p : View) : List Byte :=
  match s.bufs[p.buf]? with
  | some b => readAt b p.off p.size
  | none => []

theorem getElem?_bytesOf {s : State} {p : View} {j : Nat} (hj : j < p.size) : (bytesOf s p)[j]? = byteAt s p j := by
  unfold bytesOf byteAt
  cases s.bufs[p.buf]? with
  | none => simp
  | some b => simp [getElem?_readAt hj]

theorem bytesOf_whole {s : State} {p : View} {b : Buffer} (hb : s.bufs[p.buf]? = some b) (ho : p.off = 0)
    (hl : b.length = p.size) : bytesOf s p = b := by
  unfold bytesOf
  rw [hb, ho, ← hl]
  simp [readAt]

theorem byteAt_congr {s s' : State} (h : s'.bufs = s.bufs) (q : View) (j : Nat) : byteAt s' q j = byteAt s q j := by
  unfold byteAt; rw [h]

theorem byteAt_alias (t : State) {c p : View} {k : Nat} (hb : c.buf = p.buf) (ho : c.off = p.off + k) (j : Nat) :
    byteAt t c j = byteAt t p (k + j) := by
  unfold byteAt
  rw [hb, ho, Nat.add_assoc]

theorem copyFromHost_ok {s s' : State} {v : Nat} {p : View} {data : List UInt8} {cnt off : Int}
    {o : Option (List Byte)} (hp : view? s v = some p) (hs : step s (.copyFromHost v data cnt off) = (s', .ok o)) :
    Fits p cnt ((p.esz : Int) * off) p.size ∧ (countBytes p cnt).toNat ≤ data.length ∧
      ∃ b, s.bufs[p.buf]? = some b ∧
        s' = setBuf s p.buf (writeAt b (p.off + ((p.esz : Int) * off).toNat)
          ((data.take (countBytes p cnt).toNat).map some)) := by
  obtain ⟨hf, hl, b, hb, hk⟩ := hostCopy_ok hp ((step_copyFromHost_eq s v data cnt off).symm.trans hs)
  exact ⟨hf, hl, b, hb, (congrArg Prod.fst hk).symm⟩

theorem copyToHost_ok {s s' : State} {v cap : Nat} {p : View} {cnt off : Int}
    {o : Option (List Byte)} (hp : view? s v = some p) (hs : step s (.copyToHost v cap cnt off) = (s', .ok o)) :
    s' = s ∧ Fits p cnt ((p.esz : Int) * off) p.size ∧ (countBytes p cnt).toNat ≤ cap ∧
      ∃ b, s.bufs[p.buf]? = some b ∧
        o = some (readAt b (p.off + ((p.esz : Int) * off).toNat) (countBytes p cnt).toNat) := by
  obtain ⟨hf, hl, b, hb, hk⟩ := hostCopy_ok hp ((step_copyToHost_eq s v cap cnt off).symm.trans hs)
  exact ⟨(congrArg Prod.fst hk).symm, hf, hl, b, hb, (Res.ok.inj (congrArg Prod.snd hk)).symm⟩

/-- Aliasing, whatever the two handles are: after `n` bytes were written through one handle, a read of
    `n` bytes through a handle of the same buffer at the same absolute position returns them. -/
theorem read_after_write {s s2 : State} (h : Inv s) {v w cap : Nat} {pv pw : View} {data : List UInt8}
    {cnt off cnt' off' : Int} {o2 : Option (List Byte)} (hv : view? s v = some pv) (hw : view? s2 w = some pw)
    (hwr : step s (.copyFromHost v data cnt off) = (s2, .ok o2)) (hb : pw.buf = pv.buf)
    (hn : countBytes pw cnt' = countBytes pv cnt)
    (hpos : pw.off + ((pw.esz : Int) * off').toNat = pv.off + ((pv.esz : Int) * off).toNat)
    (hf : Fits pw cnt' ((pw.esz : Int) * off') pw.size) (hcap : (countBytes pv cnt).toNat ≤ cap) :
    step s2 (.copyToHost w cap cnt' off') = (s2, .ok (some ((data.take (countBytes pv cnt).toNat).map some))) := by
  obtain ⟨hfv, hl, b, hb1, rfl⟩ := copyFromHost_ok hv hwr
  have hin := (h.viewOk hv).le hb1
  have hlen := length_take_map_some hl
  have hbd := hfv.bounds
  rw [step_copyToHost_eq, hostCopy_of_fits hw hf, hn, if_neg (by omega), hb, hpos]
  have hrw := readAt_writeAt (b := b) (pos := pv.off + ((pv.esz : Int) * off).toNat)
    ((data.take (countBytes pv cnt).toNat).map some) (by omega)
  rw [hlen] at hrw
  simp only [setBuf, List.getElem?_set_self (List.getElem?_eq_some_iff.mp hb1).1, hrw]

theorem slice_ok {s s1 : State} {d src : Nat} {off cnt : Int} {p : View} {o1 : Option (List Byte)}
    (hp : view? s src = some p) (h1 : step s (.slice d src off cnt) = (s1, .ok o1)) :
    ∃ c, sliceView p off cnt = .ok c ∧ view? s1 d = some c ∧ (Inv s → Inv s1 ∧ (src ≠ d → view? s1 src = some p)) := by
  obtain rfl : (step s (.slice d src off cnt)).1 = s1 := congrArg Prod.fst h1
  obtain ⟨_, c, _, ⟨p', hp', hsv⟩, _, hc, hold⟩ :=
    assignTo_new (sliceExpr_yields s src off cnt) (by rw [hp]; nofun) (congrArg Prod.snd h1)
  rw [hp] at hp'; cases hp'
  exact ⟨c, hsv, hc, fun h => ⟨step_inv h _, fun hne => (hold h src hne).trans hp⟩⟩

theorem copyBytes_bufs_length (s : State) (dst src : View) (bytes dOff sOff : Nat) :
    (copyBytes s dst src bytes dOff sOff).1.bufs.length = s.bufs.length := by
  rcases copyBytes_cases s dst src bytes dOff sOff with ⟨_, h⟩ | ⟨db, sb, _, _, h⟩ <;> rw [h]
  exact List.length_set

end Occa.Mem
