/-
modeMemoryPool_t::reserve preserves the invariant, never fails, leaves every other memory alone,
places the new block on bytes no live memory occupies and moves the device counter with the size of
the pool's buffer (with all repairs present).  The gap search `findHole` returns an aligned offset at
which the requested bytes meet no reservation.
-/
import OccaProofs.Lemmas.PoolPack

namespace Occa.Pool
open Finset

theorem findHole_spec {a : Nat} (ha : 0 < a) (bytes : Nat) (ms : List Resv) (offset : Nat) (hsort : OffSorted ms) :
    offset ≤ findHole a bytes offset ms ∧
    ∀ m ∈ ms, m.off + m.size ≤ findHole a bytes offset ms ∨ findHole a bytes offset ms + bytes ≤ m.off := by
  fun_induction findHole a bytes offset ms with
  | case1 offset => exact ⟨Nat.le_refl _, fun _ h => nomatch h⟩
  | case2 offset m ms hfit =>
    refine ⟨Nat.le_refl _, fun x hx => .inr ?_⟩
    rcases List.mem_cons.1 hx with rfl | hx
    · exact hfit
    · exact Nat.le_trans hfit ((List.pairwise_cons.1 hsort).1 x hx)
  | case3 offset m ms hfit ih =>
    have hrec := ih (List.pairwise_cons.1 hsort).2
    refine ⟨Nat.le_trans (Nat.le_max_left _ _) hrec.1, fun x hx => ?_⟩
    rcases List.mem_cons.1 hx with rfl | hx
    · exact .inl (Nat.le_trans (le_rup ha _) (Nat.le_trans (Nat.le_max_right _ _) hrec.1))
    · exact hrec.2 x hx

theorem findHole_dvd {a : Nat} (bytes : Nat) (ms : List Resv) (offset : Nat) (h : a ∣ offset) :
    a ∣ findHole a bytes offset ms := by
  fun_induction findHole a bytes offset ms with
  | case1 offset => exact h
  | case2 offset m ms hfit => exact h
  | case3 offset m ms hfit ih =>
    apply ih
    rcases Nat.le_total offset (rup a (m.off + m.size)) with h' | h'
    · rw [Nat.max_eq_right h']; exact rup_dvd a _
    · rw [Nat.max_eq_left h']; exact h

/-- a block put into the pool as it stands: nothing moves -/
structure Placed (p p' : Pool) (slot fam bytes : Nat) : Prop where
  inv : PInv p'
  contents : SameContents p p'
  aliasing : SameAliasing p p'
  new : ∃ r, findSlot slot p'.resv = some r ∧ r.size = bytes ∧ r.fam = fam ∧
    ∀ r' ∈ p.resv, NoShare r' r
  align : p'.align = p.align
  size : p'.size = p.size
  slots : (p'.resv.map (·.slot)).Perm (slot :: p.resv.map (·.slot))
  members : ∀ r' ∈ p'.resv, (r'.slot = slot ∧ r'.fam = fam) ∨ r' ∈ p.resv

theorem place_ok {c : Cfg} (hc : c.Fixed) {p : Pool} (h : PInv p) {slot fam offset bytes : Nat}
    (hbuf : p.hasBuf = true) (hfresh : findSlot slot p.resv = none)
    (hal : p.align ∣ offset) (hfit : offset + rup p.align bytes ≤ p.size)
    (hfree : ∀ r ∈ p.resv, r.off + r.size ≤ offset ∨ offset + bytes ≤ r.off) :
    ∃ p', p.slice c slot fam offset bytes = .ok p' ∧ Placed p p' slot fam bytes := by
  refine ⟨_, slice_ok hbuf .., ?_⟩
  have hns : ∀ r ∈ p.resv, NoShare r ⟨slot, offset, bytes, fam⟩ := by
    intro r hr i hi j hj e
    have := hfree r hr
    simp only [] at e hj
    omega
  have hb : rup p.align (offset + bytes) ≤ p.size := by
    rw [rup_add_of_dvd h.apos hal]; exact hfit
  have hinv := addRef_inv hc.sweepAccumulatesGaps h ⟨slot, offset, bytes, fam⟩ hfresh hb hbuf (fun r hr _ => hns r hr)
  have hsame := addRef_same (c := c) (p := p) ⟨slot, offset, bytes, fam⟩ hfresh
  refine {
    inv := hinv
    contents := hsame.1
    aliasing := hsame.2
    new := ⟨⟨slot, offset, bytes, fam⟩, findSlot_insertResv_self (m := ⟨slot, offset, bytes, fam⟩) hfresh, rfl, rfl, hns⟩
    align := rfl
    size := rfl
    slots := (insertResv_perm ⟨slot, offset, bytes, fam⟩ p.resv).map (·.slot)
    members := fun r' hr' => ?_ }
  rcases (mem_insertResv _ r' _).1 hr' with e | hm
  · left; rw [e]; exact ⟨rfl, rfl⟩
  · right; exact hm

/-- what `reserve` establishes: the pool may have been re-allocated and packed before the block was placed, so an
    old reservation is found again by slot and allocation, at another offset -/
structure Reserved (p p' : Pool) (slot fam bytes : Nat) : Prop where
  inv : PInv p'
  contents : SameContents p p'
  aliasing : SameAliasing p p'
  new : ∃ r, findSlot slot p'.resv = some r ∧ r.size = bytes ∧ r.fam = fam
  align : p'.align = p.align
  slots : (p'.resv.map (·.slot)).Perm (slot :: p.resv.map (·.slot))
  members : ∀ r' ∈ p'.resv, (r'.slot = slot ∧ r'.fam = fam) ∨ ∃ r ∈ p.resv, r'.fam = r.fam ∧ r'.slot = r.slot

theorem Placed.reserved {p p' : Pool} {slot fam bytes : Nat} (pl : Placed p p' slot fam bytes) :
    Reserved p p' slot fam bytes :=
  have ⟨r, h1, h2, h3, _⟩ := pl.new
  { pl with
    new := ⟨r, h1, h2, h3⟩
    members := fun r' hr' => (pl.members r' hr').imp id fun hm => ⟨r', hm, rfl, rfl⟩ }

/-- the pool is re-allocated (packed when `pk`) and the new block goes behind the packed reservations -/
private theorem reserve_grow {c : Cfg} (hc : c.Fixed) {d : Dev} {p : Pool} (h : PInv p) (hd : DevOK d)
    (hle : p.size ≤ d.alloc) {slot fam bytes : Nat} (hfresh : findSlot slot p.resv = none) {pk : Bool}
    (hne : ¬ (p.size = p.reserved + rup p.align bytes ∧ pk = false)) :
    ∃ d' p', (match p.resize c d (p.reserved + rup p.align bytes) pk with
      | .error e => (.error e : Except Err (Dev × Pool))
      | .ok (d1, p1) => (p1.slice c slot fam p1.reserved bytes).map fun p2 => (d1, p2)) = .ok (d', p') ∧
      Reserved p p' slot fam bytes ∧ DevStep d d' p p' := by
  obtain ⟨d1, p1, hrz, hok⟩ := (resize_total (c := c) (d := d) (p.reserved + rup p.align bytes) pk).2
    (Nat.le_add_right _ _) h
  obtain ⟨hdev, ⟨hsize, hpk, -, -⟩ | ⟨-, hr⟩⟩ := hok hc hd hle
  · exact absurd ⟨hsize, hpk⟩ hne
  rw [hrz]
  have hsz := le_rup h.apos (p.reserved + rup p.align bytes)
  obtain ⟨p', hp', pl⟩ := place_ok hc hr.inv (slot := slot) (fam := fam) (offset := p1.reserved) (bytes := bytes)
    hr.hasBuf (findSlot_none_of_slots hr.slots hfresh)
    (by rw [hr.inv.reserved_eq]; exact measure_dvd hr.inv.apos hr.inv.sorted)
    (by rw [hr.align, hr.size, hr.reserved]; exact hsz)
    (fun r hr' => Or.inl (hr.below r hr'))
  have hres := pl.reserved
  refine ⟨d1, p', by simp only [hp', Except.map], {
    inv := hres.inv
    contents := hr.packed.1.trans hres.contents
    aliasing := .trans hr.packed.1 hr.packed.2 hres.aliasing
    new := hres.new
    align := hres.align.trans hr.align
    slots := hr.slots ▸ hres.slots
    members := fun r' hr' => (pl.members r' hr').imp_right (hr.members r') },
    hdev.ok, by rw [pl.size]; exact hdev.bal⟩

theorem reserve_ok {c : Cfg} (hc : c.Fixed) {d : Dev} {p : Pool} (h : PInv p) (hd : DevOK d) (hle : p.size ≤ d.alloc)
    {slot fam bytes : Nat} (hb : 0 < bytes) (hfresh : findSlot slot p.resv = none) :
    ∃ d' p', p.reserve c d slot fam bytes = .ok (d', p') ∧ Reserved p p' slot fam bytes ∧ DevStep d d' p p' := by
  have hab := le_rup h.apos bytes
  have place : ∀ offset, p.hasBuf = true → p.align ∣ offset → offset + rup p.align bytes ≤ p.size →
      (∀ r ∈ p.resv, r.off + r.size ≤ offset ∨ offset + bytes ≤ r.off) →
      ∃ d' p', (p.slice c slot fam offset bytes).map (fun p2 => (d, p2)) = .ok (d', p') ∧
        Reserved p p' slot fam bytes ∧ DevStep d d' p p' := by
    intro offset hbuf hal hfit hfree
    obtain ⟨p', hp', pl⟩ := place_ok hc h (slot := slot) (fam := fam) hbuf hfresh hal hfit hfree
    exact ⟨d, p', by simp only [hp', Except.map], pl.reserved, devStep_same hd pl.size⟩
  unfold Pool.reserve
  simp only [hc.reserveComparesAligned, if_true]
  split
  · exact reserve_grow hc h hd hle hfresh (bytes := bytes) (pk := false) (by omega)
  split
  · rename_i hroom hnil
    have hr0 : p.reserved = 0 := by rw [h.reserved_eq, hnil, measure_nil]
    exact place 0 (h.hasBuf.resolve_right (by omega)) (Nat.dvd_zero _) (by omega) (by simp [hnil])
  rename_i hne
  split
  · rename_i hfit
    exact place _ (h.hasBuf_of_ne_nil hne) (findHole_dvd bytes p.resv 0 (Nat.dvd_zero _)) hfit
      (findHole_spec h.apos bytes p.resv 0 h.sorted).2
  · -- no gap fits: pack (forced) and put the block behind
    rw [hc.reservePacks]
    exact reserve_grow hc h hd hle hfresh (bytes := bytes) (pk := true) (by simp)

end Occa.Pool
