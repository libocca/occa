/-
`applyFasterOperators` / `closePair` / the final loop of `parse` on a scope described by a
well-formed list of frames (`FramesOk`).  All three loops repeat one step, reducing the top frame
with the operand above it; `Ready` is what that step needs and re-establishes (`Ready.reduce`).
-/
import OccaProofs.Lemmas.ExprFrames

namespace Occa.Expr
open Occa.Gen

/-- each frame accepts (as its right operand) the tree that the frame above it will produce -/
def Stacked : List Frame → Prop
  | [] => True
  | [_] => True
  | f :: g :: rest => g.accepts f.lvl = true ∧ Stacked (g :: rest)

/-- frames hold the right kind of operator, post frames are only ever on top, no operand is a bare `: e`,
    and every operand is a precedence-correct tree that fits its position -/
structure FramesOk (fs : List Frame) : Prop where
  ok : ∀ f ∈ fs, f.ok
  post : ∀ f ∈ fs.tail, f.isPost = false
  nocolon : ∀ f ∈ fs, ∀ e ∈ f.outs, colonLu e = false
  canon : ∀ f ∈ fs, ∀ e ∈ f.operands, canonB e = true
  fit : ∀ f ∈ fs, f.fit = true
  stacked : Stacked fs

theorem Stacked.tail {f : Frame} {fs : List Frame} (h : Stacked (f :: fs)) : Stacked fs := by
  cases fs with
  | nil => trivial
  | cons g rest => exact h.2

theorem Stacked.prefix {a b : List Frame} (h : Stacked (a ++ b)) : Stacked a := by
  induction a with
  | nil => trivial
  | cons x xs ih =>
    cases xs with
    | nil => trivial
    | cons y ys => exact ⟨h.1, ih h.2⟩

theorem FramesOk.nil : FramesOk [] := ⟨by simp, by simp, by simp, by simp, by simp, trivial⟩

theorem FramesOk.cons {f : Frame} {fs : List Frame} (h : FramesOk fs) (hok : f.ok)
    (hhd : ∀ g, fs.head? = some g → g.isPost = false ∧ g.accepts f.lvl = true)
    (hnc : ∀ e ∈ f.outs, colonLu e = false) (hcan : ∀ e ∈ f.operands, canonB e = true) (hfit : f.fit = true) :
    FramesOk (f :: fs) where
  ok := List.forall_mem_cons.2 ⟨hok, h.ok⟩
  post := by
    cases fs with
    | nil => simp
    | cons g gs => exact List.forall_mem_cons.2 ⟨(hhd g rfl).1, h.post⟩
  nocolon := List.forall_mem_cons.2 ⟨hnc, h.nocolon⟩
  canon := List.forall_mem_cons.2 ⟨hcan, h.canon⟩
  fit := List.forall_mem_cons.2 ⟨hfit, h.fit⟩
  stacked := by
    cases fs with
    | nil => trivial
    | cons g gs => exact ⟨(hhd g rfl).2, h.stacked⟩

theorem FramesOk.tail {f : Frame} {fs : List Frame} (h : FramesOk (f :: fs)) : FramesOk fs :=
  ⟨fun g hg => h.ok g (List.mem_cons_of_mem _ hg), fun g hg => h.post g (List.mem_of_mem_tail hg),
   fun g hg => h.nocolon g (List.mem_cons_of_mem _ hg), fun g hg => h.canon g (List.mem_cons_of_mem _ hg),
   fun g hg => h.fit g (List.mem_cons_of_mem _ hg), h.stacked.tail⟩

theorem FramesOk.head {f : Frame} {fs : List Frame} (h : FramesOk (f :: fs)) (g : Frame) (hg : fs.head? = some g) :
    g.isPost = false ∧ g.accepts f.lvl = true := by
  cases fs with
  | nil => cases hg
  | cons g' gs => cases hg; exact ⟨h.post g (List.mem_cons_self ..), h.stacked.1⟩

theorem FramesOk.suffix {a b : List Frame} (h : FramesOk (a ++ b)) : FramesOk b := by
  induction a with
  | nil => exact h
  | cons x xs ih => exact ih h.tail

theorem FramesOk.prefix {a b : List Frame} (h : FramesOk (a ++ b)) : FramesOk a := by
  refine ⟨fun f hf => h.ok f (by simp [hf]), fun f hf => ?_, fun f hf => h.nocolon f (by simp [hf]),
    fun f hf => h.canon f (by simp [hf]), fun f hf => h.fit f (by simp [hf]), h.stacked.prefix⟩
  cases a with
  | nil => simp at hf
  | cons x xs => exact h.post f (by simp at hf ⊢; exact Or.inl hf)

/-- "an operand is available": a top operand above a non-postfix frame, or a postfix frame on top -/
def ModeO (fs : List Frame) (top : Option Expr) : Prop :=
  (top.isSome = true ∧ ∀ f, fs.head? = some f → f.isPost = false) ∨
  (top = none ∧ ∃ n e fs', fs = Frame.post n e :: fs')

theorem ModeO.cases {f : Frame} {fs : List Frame} {top : Option Expr} (h : ModeO (f :: fs) top) :
    (top.isSome = true ∧ f.isPost = false) ∨ (top = none ∧ f.isPost = true) := by
  rcases h with ⟨h1, h2⟩ | ⟨h1, n, e, fs', h2⟩
  · exact Or.inl ⟨h1, h2 f rfl⟩
  · cases h2; exact Or.inr ⟨h1, rfl⟩

theorem ModeO.top_some {fs : List Frame} {top : Option Expr} (h : ModeO fs top)
    (hnp : ∀ f, fs.head? = some f → f.isPost = false) : ∃ e, top = some e := by
  rcases h with ⟨h1, _⟩ | ⟨_, n, e, fs', rfl⟩
  · exact Option.isSome_iff_exists.mp h1
  · cases hnp _ rfl

theorem ModeO.head_notPost {fs : List Frame} {e : Expr} (h : ModeO fs (some e)) (f : Frame) (hf : fs.head? = some f) :
    f.isPost = false := by
  rcases h with ⟨_, h2⟩ | ⟨h1, _⟩
  · exact h2 f hf
  · cases h1

/-- number of pending `?` above the nearest open pair -/
def questCount : List Frame → Nat
  | [] => 0
  | f :: fs => if f.isOpn then 0 else (if f.isQuest then 1 else 0) + questCount fs

theorem questCount_reducible {pre : List Frame} (h : ∀ f ∈ pre, f.reducible = true) (fs : List Frame) :
    questCount (pre ++ fs) = questCount fs := by
  induction pre with
  | nil => rfl
  | cons f pre ih =>
    obtain ⟨hf, hpre⟩ := List.forall_mem_cons.1 h
    simp only [Frame.reducible, Bool.and_eq_true, Bool.not_eq_true'] at hf
    simp [questCount, hf.1, hf.2, ih hpre]

theorem questCount_cons {f : Frame} (h : f.reducible = true) (fs : List Frame) :
    questCount (f :: fs) = questCount fs :=
  questCount_reducible (pre := [f]) (by simpa using h) fs

theorem reducible_of_questCount_zero (pre rest : List Frame) (hno : ∀ f ∈ pre, f.isOpn = false)
    (h : questCount (pre ++ rest) = 0) : ∀ f ∈ pre, f.reducible = true := by
  induction pre with
  | nil => simp
  | cons x xs ih =>
    have hx := hno x (by simp)
    simp only [List.cons_append, questCount, hx, Bool.false_eq_true, if_false] at h
    refine List.forall_mem_cons.2 ⟨?_, ih (fun g hg => hno g (by simp [hg])) (by omega)⟩
    cases hq : x.isQuest
    · simp [Frame.reducible, hx, hq]
    · simp [hq] at h

/-- a scope in which the loops can reduce -/
structure Ready (fs : List Frame) (top : Option Expr) : Prop where
  frames : FramesOk fs
  mode : ModeO fs top
  topOk : ∀ e, top = some e → colonLu e = false
  topCanon : ∀ e, top = some e → canonB e = true
  topAccepted : ∀ e, top = some e → ∀ f, fs.head? = some f → f.accepts (rootPrec e) = true

theorem Ready.reduce {f : Frame} {fs : List Frame} {top : Option Expr} (h : Ready (f :: fs) top)
    (hr : f.reducible = true) (prev : Option Tok) :
    ∃ r, (∀ rest, applyOperator f.node prev (scopeOut (f :: fs) top ++ rest) = .ok (scopeOut fs (some r) ++ rest)) ∧
      Ready fs (some r) ∧ scopeToks fs (some r) = scopeToks (f :: fs) top ∧
      rootPrec r = f.node.op.prec ∧ isTypeNode r = false := by
  have hf := h.frames.ok f (List.mem_cons_self ..)
  obtain ⟨happ, htk, hcl, hty, hlvl, hcan⟩ := Frame.result_spec hf hr h.mode.cases
  obtain ⟨-, -, hprec, -⟩ := reducible_facts hf hr
  have hcanon : canonB (f.result top) = true :=
    hcan (h.frames.canon f (List.mem_cons_self ..)) (h.frames.fit f (List.mem_cons_self ..))
      (fun e he => ⟨h.topCanon e he, h.topAccepted e he f rfl⟩)
  refine ⟨f.result top, fun rest => ?_,
    ⟨h.frames.tail, Or.inl ⟨rfl, fun g hg => (h.frames.head g hg).1⟩, fun _ he => Option.some.inj he ▸ hcl,
      fun _ he => Option.some.inj he ▸ hcanon, fun _ he g hg => Option.some.inj he ▸ hlvl ▸ (h.frames.head g hg).2⟩,
    ?_, hlvl.trans hprec, hty⟩
  · rw [scopeOut_cons, scopeOut_some, List.append_assoc, happ, List.cons_append]
  · rw [scopeToks_cons, scopeToks_some, htk]; simp [List.append_assoc]

/-- the incoming operator `o` reduces the pending operator `q` (the test of applyFasterOperators) -/
def pops (o q : Op) : Bool := o.prec > q.prec || (o.prec == q.prec && leftAssoc q.prec)

/-- `applyPrevOp` / `foundQuestionMark` as the repaired loop computes them.  Its rule that an incoming `?` leaves an
    operator of its own level alone is `pops` again: level 16 is right-to-left. -/
theorem popDecision_eq (o q : Op) : popDecision o q =
    if has o.ty T.colon then (true, has q.ty T.questionMark)
    else if has q.ty T.questionMark then (false, false)
    else (pops o q, false) := by
  by_cases h : o.prec = q.prec ∧ has o.ty T.questionMark = true
  · obtain rfl := q_class o (has_q_eq o ▸ h.2)
    simp [popDecision, pops, ← h.1, q_facts, prec_facts]
  · simp [popDecision, pops, h]

variable {o : Op} {prev : Option Tok} {out out' : List Expr} {n : OpNode} {ops : List OpNode}

theorem popFaster_stop (h : has n.op.ty T.pairStart = true ∨ (popDecision o n.op).1 = false) :
    popFaster o prev out (n :: ops) = .ok (out, n :: ops) := by
  rw [popFaster]; rcases h with h | h <;> simp [h]

theorem popFaster_go (h1 : has n.op.ty T.pairStart = false) (h2 : popDecision o n.op = (true, false))
    (ha : applyOperator n prev out = .ok out') : popFaster o prev out (n :: ops) = popFaster o prev out' ops := by
  rw [popFaster]; simp [h1, h2, ha]

theorem popFaster_last (h1 : has n.op.ty T.pairStart = false) (h2 : popDecision o n.op = (true, true))
    (ha : applyOperator n prev out = .ok out') : popFaster o prev out (n :: ops) = .ok (out', ops) := by
  rw [popFaster]; simp [h1, h2, ha]

theorem popFaster_error {x : Err} (h1 : has n.op.ty T.pairStart = false) (h2 : (popDecision o n.op).1 = true)
    (ha : applyOperator n prev out = .error x) : popFaster o prev out (n :: ops) = .error x := by
  rw [popFaster]; simp [h1, h2, ha]

theorem pops_leftFits (o q : Op) (h : pops o q = true) : leftFits o.prec q.prec = true := by
  simp only [pops, Bool.or_eq_true, decide_eq_true_eq, Bool.and_eq_true, beq_iff_eq] at h
  simp only [leftFits, Bool.or_eq_true, decide_eq_true_eq, Bool.and_eq_true, beq_iff_eq]
  rcases h with h | ⟨h1, h2⟩
  · exact Or.inl h
  · exact Or.inr ⟨h1.symm, by rw [h1]; exact h2⟩

theorem notPops_rightFits (o q : Op) (h : pops o q = false) : rightFits q.prec o.prec = true := by
  simp only [pops, Bool.or_eq_false_iff, decide_eq_false_iff_not, Bool.and_eq_false_iff, beq_eq_false_iff_ne] at h
  simp only [rightFits, Bool.or_eq_true, decide_eq_true_eq, Bool.and_eq_true, beq_iff_eq, Bool.not_eq_true']
  obtain ⟨h1, h2⟩ := h
  by_cases he : o.prec = q.prec
  · exact Or.inr ⟨he, by rcases h2 with h2 | h2; exact absurd he h2; exact h2⟩
  · exact Or.inl (by omega)

theorem accepts_of_notPops {f : Frame} (hf : f.ok) (hnp : f.isPost = false) (o : Op)
    (h : pops o f.node.op = false) : f.accepts o.prec = true := by
  rw [Frame.accepts_eq hnp]
  cases hr : f.reducible with
  | false => rfl
  | true => rw [(reducible_facts hf hr).2.2.1]; exact notPops_rightFits o _ h

theorem accepts_zero {f : Frame} (hf : f.ok) (hnp : f.isPost = false) : f.accepts 0 = true := by
  rw [Frame.accepts_eq hnp]
  cases hr : f.reducible with
  | false => rfl
  | true => have := (reducible_facts hf hr).2.2.2.2; simp [rightFits]; omega

theorem notPops_of_keeps {o q : Op} (h1 : has q.ty T.pairStart = false) (h2 : has q.ty T.questionMark = false)
    (hk : keeps o q = true) : pops o q = false := by
  have : keeps o q = (has q.ty T.pairStart || q.ty == T.questionMark || !pops o q) := rfl
  rw [this, h1, ← has_q_eq, h2] at hk
  simpa using hk

theorem accepts_of_keeps {f : Frame} (hf : f.ok) (hnp : f.isPost = false) (o : Op)
    (h : keeps o f.node.op = true) : f.accepts o.prec = true := by
  cases hr : f.reducible with
  | false => obtain ⟨-, hacc, -⟩ := not_reducible hf hr; exact hacc _
  | true =>
    obtain ⟨hps, hqm, _⟩ := reducible_facts hf hr
    exact accepts_of_notPops hf hnp o (notPops_of_keeps hps hqm h)

theorem popFaster_keep (o : Op) (prev : Option Tok) (out : List Expr) (n : OpNode) (ops : List OpNode)
    (hk : keeps o n.op = true) (hp : prefixOk o = true) :
    popFaster o prev out (n :: ops) = .ok (out, n :: ops) := by
  have hpc := pre_class o (by simp [preOk, hp])
  refine popFaster_stop ?_
  by_cases h1 : has n.op.ty T.pairStart = true
  · exact Or.inl h1
  · by_cases h2 : has n.op.ty T.questionMark = true
    · exact Or.inr (by simp [popDecision_eq, hpc, h2])
    · exact Or.inr (by simp [popDecision_eq, hpc, h2, notPops_of_keeps (by simpa using h1) (by simpa using h2) hk])

/-- `applyFasterOperators` for an incoming binary, postfix or `?` operator -/
theorem popFaster_spec (o : Op) (prev : Option Tok) (hc : has o.ty T.colon = false) :
    ∀ (fs : List Frame) (top : Option Expr), Ready fs top →
      (∀ f, fs.head? = some f → f.isPost = true → o.prec ≥ 2) →
      (∀ e, top = some e → leftFits o.prec (rootPrec e) = true) →
      ∃ pre fs' e', fs = pre ++ fs' ∧ (∀ f ∈ pre, f.reducible = true) ∧
        popFaster o prev (scopeOut fs top) (scopeOps fs) = .ok (scopeOut fs' (some e'), scopeOps fs') ∧
        Ready fs' (some e') ∧ scopeToks fs' (some e') = scopeToks fs top ∧
        leftFits o.prec (rootPrec e') = true ∧ (∀ f, fs'.head? = some f → f.accepts o.prec = true) := by
  intro fs
  induction fs with
  | nil =>
    intro top h _ hfit
    obtain ⟨e, rfl⟩ := h.mode.top_some (by simp)
    exact ⟨[], [], e, rfl, by simp, by simp [scopeOps, popFaster], h, rfl, hfit e rfl, by simp⟩
  | cons f fs ih =>
    intro top h hp hfit
    have hf := h.frames.ok f (List.mem_cons_self ..)
    by_cases hgo : f.reducible = true ∧ pops o f.node.op = true
    · obtain ⟨hr, hpop⟩ := hgo
      obtain ⟨hps, hqm, _⟩ := reducible_facts hf hr
      obtain ⟨r, happ, hrdy, htk, hprec, _⟩ := h.reduce hr prev
      have hcons := popFaster_go (o := o) (ops := scopeOps fs) hps (by simp [popDecision_eq, hc, hqm, hpop])
        (by simpa using happ [])
      obtain ⟨pre, fs', e', h1, h2, h3, h4, h5, h6, h7⟩ := ih (some r) hrdy
        (fun g hg hgp => by rw [hrdy.mode.head_notPost g hg] at hgp; cases hgp)
        (fun e he => by cases he; exact hprec ▸ pops_leftFits o f.node.op hpop)
      exact ⟨f :: pre, fs', e', by rw [h1]; rfl, List.forall_mem_cons.2 ⟨hr, h2⟩, hcons.trans h3, h4, h5.trans htk, h6, h7⟩
    · -- the loop stops: the state is returned unchanged and an operand is on top
      obtain ⟨hnp, hacc, hdec⟩ : f.isPost = false ∧ f.accepts o.prec = true ∧
          (has f.node.op.ty T.pairStart = true ∨ (popDecision o f.node.op).1 = false) := by
        cases hr : f.reducible with
        | false =>
          -- an open pair or a pending `?`
          obtain ⟨hnp, hacc, ⟨_, hk⟩ | ⟨n, c, rfl, _, hk⟩⟩ := not_reducible hf hr
          · exact ⟨hnp, hacc _, Or.inl hk⟩
          · exact ⟨hnp, hacc _, Or.inr (by simp [popDecision_eq, Frame.node, hk, hc])⟩
        | true =>
          obtain ⟨_, hqm, _, hpost, _⟩ := reducible_facts hf hr
          have hpop' : pops o f.node.op = false := by simpa [hr] using hgo
          have hnp : f.isPost = false := by
            cases hpf : f.isPost
            · rfl
            · have p2 := hpost hpf
              have := hp f rfl hpf
              simp only [pops, p2, prec_facts.1, Bool.and_true, Bool.or_eq_false_iff, decide_eq_false_iff_not,
                beq_eq_false_iff_ne] at hpop'
              omega
          exact ⟨hnp, accepts_of_notPops hf hnp o hpop', Or.inr (by simp [popDecision_eq, hc, hqm, hpop'])⟩
      obtain ⟨e, rfl⟩ := h.mode.top_some (fun g hg => by cases hg; exact hnp)
      exact ⟨[], f :: fs, e, rfl, by simp, popFaster_stop hdec, h, rfl, hfit e rfl, fun g hg => by cases hg; exact hacc⟩

/-- `applyFasterOperators` for an incoming `:`: everything above the nearest pending `?` is
    reduced, then the `?` itself; the condition and `? true-branch` are left on the output stack. -/
theorem popColon_spec (o : Op) (prev : Option Tok) (hc : has o.ty T.colon = true) :
    ∀ (fs : List Frame) (top : Option Expr), Ready fs top → questCount fs > 0 →
      ∃ pre n c fs' t, fs = pre ++ Frame.quest n c :: fs' ∧ (∀ f ∈ pre, f.reducible = true) ∧
        popFaster o prev (scopeOut fs top) (scopeOps fs) = .ok (.lu n.op t :: c :: scopeOut fs' none, scopeOps fs') ∧
        scopeToks fs top = scopeToks fs' none ++ printToks c ++ [.op .questionMark] ++ printToks t ∧ canonB t = true := by
  intro fs
  induction fs with
  | nil => intro _ _ hq; cases hq
  | cons f fs ih =>
    intro top h hq
    have hf := h.frames.ok f (List.mem_cons_self ..)
    cases hr : f.reducible with
    | true =>
      obtain ⟨hps, hqm, _⟩ := reducible_facts hf hr
      obtain ⟨r, happ, hrdy, htk, _⟩ := h.reduce hr prev
      have hcons := popFaster_go (o := o) (ops := scopeOps fs) hps (by simp [popDecision_eq, hc, hqm])
        (by simpa using happ [])
      obtain ⟨pre, n, c, fs', t, h1, h2, h3, h4, h5⟩ := ih (some r) hrdy
        (by rwa [← questCount_cons hr])
      exact ⟨f :: pre, n, c, fs', t, by rw [h1]; rfl, List.forall_mem_cons.2 ⟨hr, h2⟩, hcons.trans h3, htk ▸ h4, h5⟩
    | false =>
      obtain ⟨_, _, ⟨hk, _⟩ | ⟨n, c, rfl, hk1, hk2⟩⟩ := not_reducible hf hr
      · simp [questCount, hk] at hq
      · obtain ⟨t, rfl⟩ := h.mode.top_some (fun g hg => by cases hg; rfl)
        exact ⟨[], n, c, fs, t, rfl, by simp,
          popFaster_last (n := n) hk1 (by simp [popDecision_eq, hc, hk2]) (apply_quest n prev t (c :: scopeOut fs none) hf),
          by rw [scopeToks_cons]; simp [Frame.toks, topToks], h.topCanon t rfl⟩

/-- reducing a run of reducible frames (down to an open pair, or all of them): one operand with the
    tokens of the run; `applyAll` and `closeLoop` continue below it -/
theorem reduce_all (prev : Option Tok) (rest : List Frame) (hrest : ∀ f, rest.head? = some f → f.isPost = false) :
    ∀ (pre : List Frame) (top : Option Expr), (∀ f ∈ pre, f.reducible = true) → Ready (pre ++ rest) top →
      ∃ v, Ready rest (some v) ∧ printToks v = scopeToks pre top ∧
        (pre = [] → top = some v) ∧ (pre ≠ [] → isTypeNode v = false) ∧
        (∀ extra, applyAll prev (scopeOut (pre ++ rest) top ++ extra) (scopeOps (pre ++ rest)) =
          applyAll prev (scopeOut rest (some v) ++ extra) (scopeOps rest)) ∧
        (∀ endOp extra ops, closeLoop endOp prev (scopeOut (pre ++ rest) top ++ extra) (scopeOps (pre ++ rest) ++ ops) =
          closeLoop endOp prev (scopeOut rest (some v) ++ extra) (scopeOps rest ++ ops)) := by
  intro pre
  induction pre with
  | nil =>
    intro top _ h
    obtain ⟨e, rfl⟩ := h.mode.top_some hrest
    exact ⟨e, h, rfl, fun _ => rfl, fun h => absurd rfl h, fun _ => rfl, fun _ _ _ => rfl⟩
  | cons f fs ih =>
    intro top hred h
    replace h : Ready (f :: (fs ++ rest)) top := h
    obtain ⟨hr, hred'⟩ := List.forall_mem_cons.1 hred
    obtain ⟨hps, _⟩ := reducible_facts (h.frames.ok f (List.mem_cons_self ..)) hr
    obtain ⟨r, happ, hrdy, htk, _, hty⟩ := h.reduce hr prev
    obtain ⟨v, hv1, hv2, hvn, hvt, hv3, hv4⟩ := ih (some r) hred' hrdy
    refine ⟨v, hv1, ?_, nofun, fun _ => ?_, fun extra => ?_, fun endOp extra ops => ?_⟩
    · rw [hv2]
      exact List.append_cancel_left ((scopeToks_append ..).symm.trans (htk.trans (scopeToks_append (f :: fs) rest top)))
    · by_cases hfs : fs = []
      · cases hvn hfs; exact hty
      · exact hvt hfs
    · rw [← hv3]
      show applyAll prev (scopeOut (f :: (fs ++ rest)) top ++ extra) (f.node :: scopeOps (fs ++ rest)) = _
      rw [applyAll, happ]
    · rw [← hv4]
      show closeLoop endOp prev (scopeOut (f :: (fs ++ rest)) top ++ extra) (f.node :: (scopeOps (fs ++ rest) ++ ops)) = _
      rw [closeLoop, happ]
      simp [hps]

end Occa.Expr
