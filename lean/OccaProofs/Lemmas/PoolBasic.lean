/-
The conjuncts of `Cfg.Fixed` by name, arithmetic of the rounding expressions `rup`/`rdn`, list-of-bytes
lemmas (memcpy / readAt) and the small list functions of OccaModel/Pool.lean: `insertResv`, and the find/erase
functions by key (reservations and device memories by slot, buffers by id), which are `List.find?` and
`List.eraseP`.
-/
import OccaModel.Pool

namespace Occa.Pool

theorem Cfg.Fixed.reservePacks {c : Cfg} (h : c.Fixed) : c.reservePacks = true := h.1
theorem Cfg.Fixed.resizeBlocksAligned {c : Cfg} (h : c.Fixed) : c.resizeBlocksAligned = true := h.2.1
theorem Cfg.Fixed.sweepAccumulatesGaps {c : Cfg} (h : c.Fixed) : c.sweepAccumulatesGaps = true := h.2.2.1
theorem Cfg.Fixed.reserveComparesAligned {c : Cfg} (h : c.Fixed) : c.reserveComparesAligned = true := h.2.2.2.1
theorem Cfg.Fixed.hostPtrCounted {c : Cfg} (h : c.Fixed) : c.hostPtrCounted = true := h.2.2.2.2.1
theorem Cfg.Fixed.defaultAlign_pos {c : Cfg} (h : c.Fixed) : 0 < c.defaultAlign := h.2.2.2.2.2.2

theorem rdn_le (a x : Nat) : rdn a x ≤ x := Nat.div_mul_le_self x a

theorem rdn_dvd (a x : Nat) : a ∣ rdn a x := ⟨x / a, Nat.mul_comm _ _⟩
theorem rup_dvd (a x : Nat) : a ∣ rup a x := ⟨(x + a - 1) / a, Nat.mul_comm _ _⟩

theorem lt_rdn_add {a : Nat} (h : 0 < a) (x : Nat) : x < rdn a x + a := Nat.lt_div_mul_add h

theorem le_rup {a : Nat} (h : 0 < a) (x : Nat) : x ≤ rup a x := by
  have := lt_rdn_add h (x + a - 1)
  show x ≤ rdn a (x + a - 1)
  omega

theorem rup_lt_add {a : Nat} (h : 0 < a) (x : Nat) : rup a x < x + a :=
  Nat.lt_of_le_of_lt (rdn_le a (x + a - 1)) (Nat.sub_lt (Nat.add_pos_right x h) Nat.one_pos)

theorem rdn_mono (a : Nat) {x y : Nat} (h : x ≤ y) : rdn a x ≤ rdn a y :=
  Nat.mul_le_mul_right a (Nat.div_le_div_right h)

theorem rup_mono (a : Nat) {x y : Nat} (h : x ≤ y) : rup a x ≤ rup a y :=
  Nat.mul_le_mul_right a (Nat.div_le_div_right (Nat.sub_le_sub_right (Nat.add_le_add_right h a) 1))

theorem rdn_add_of_dvd {a o : Nat} (h : 0 < a) (hd : a ∣ o) (y : Nat) : rdn a (o + y) = o + rdn a y := by
  obtain ⟨k, rfl⟩ := hd
  unfold rdn
  rw [Nat.mul_add_div h, Nat.add_mul, Nat.mul_comm k a]

theorem rup_add_of_dvd {a o : Nat} (h : 0 < a) (hd : a ∣ o) (y : Nat) : rup a (o + y) = o + rup a y := by
  obtain ⟨k, rfl⟩ := hd
  unfold rup
  rw [Nat.add_assoc, Nat.add_sub_assoc (Nat.add_pos_right y h), Nat.mul_add_div h, Nat.add_mul, Nat.mul_comm k a]

theorem rdn_of_dvd {a x : Nat} (h : 0 < a) (hd : a ∣ x) : rdn a x = x := by
  have := rdn_add_of_dvd h hd 0
  simpa [rdn] using this

theorem rup_zero {a : Nat} (h : 0 < a) : rup a 0 = 0 := by
  unfold rup
  rw [Nat.div_eq_of_lt (by omega), Nat.zero_mul]

theorem rup_of_dvd {a x : Nat} (h : 0 < a) (hd : a ∣ x) : rup a x = x := by
  simpa [rup_zero h] using rup_add_of_dvd h hd 0

theorem rdn_lt_of_lt {a x h : Nat} (hx : x < h) : rdn a x < h := by
  have := rdn_le a x; omega

theorem rup_le_of_dvd {a x m : Nat} (ha : 0 < a) (hd : a ∣ m) (hx : x ≤ m) : rup a x ≤ m := by
  have := rup_mono a hx
  rwa [rup_of_dvd ha hd] at this

theorem le_rdn_of_dvd {a x m : Nat} (ha : 0 < a) (hd : a ∣ m) (hx : m ≤ x) : m ≤ rdn a x := by
  have := rdn_mono a hx
  rwa [rdn_of_dvd ha hd] at this

theorem rup_sub_of_dvd {a lo hi : Nat} (ha : 0 < a) (hd : a ∣ lo) (h : lo ≤ hi) :
    rup a (hi - lo) = rup a hi - lo := by
  have := rup_add_of_dvd ha hd (hi - lo)
  rw [Nat.add_sub_cancel' h] at this
  rw [this, Nat.add_sub_cancel_left]

theorem rdn_sub_of_dvd {a lo x : Nat} (ha : 0 < a) (hd : a ∣ lo) (h : lo ≤ x) :
    rdn a (x - lo) = rdn a x - lo := by
  have := rdn_add_of_dvd ha hd (x - lo)
  rw [Nat.add_sub_cancel' h] at this
  rw [this, Nat.add_sub_cancel_left]

theorem rup_max (a x y : Nat) : rup a (max x y) = max (rup a x) (rup a y) := by
  rcases Nat.le_total x y with h | h
  · have := rup_mono a h
    rw [Nat.max_eq_right h, Nat.max_eq_right this]
  · have := rup_mono a h
    rw [Nat.max_eq_left h, Nat.max_eq_left this]

theorem rdn_sub_self_lt {a : Nat} (ha : 0 < a) (x : Nat) : x - rdn a x < a := by
  have := lt_rdn_add ha x; have := rdn_le a x; omega

theorem rdn_eq_zero_of_lt {a x : Nat} (h : x < a) : rdn a x = 0 := by
  unfold rdn; rw [Nat.div_eq_of_lt h]; simp

theorem length_zeros (n : Nat) : (zeros n).length = n := by simp [zeros]

theorem length_pattern (seed n : Nat) : (pattern seed n).length = n := by simp [pattern]

theorem length_readAt (b : List Byte) (off n : Nat) (h : off + n ≤ b.length) : (readAt b off n).length = n :=
  List.length_take_of_le (by rw [List.length_drop]; exact Nat.le_sub_of_add_le' h)

theorem length_memcpy (dst : List Byte) (d : Nat) (src : List Byte) (s n : Nat)
    (hd : d + n ≤ dst.length) (hs : s + n ≤ src.length) : (memcpy dst d src s n).length = dst.length := by
  have l1 : (dst.take d).length = d := List.length_take_of_le (Nat.le_trans (Nat.le_add_right d n) hd)
  have l2 : ((src.drop s).take n).length = n := length_readAt src s n hs
  rw [memcpy, List.length_append, List.length_append, l1, l2, List.length_drop, ← Nat.add_assoc,
    Nat.add_sub_cancel' hd]

theorem getElem?_memcpy (dst : List Byte) (d : Nat) (src : List Byte) (s n : Nat)
    (hd : d + n ≤ dst.length) (hs : s + n ≤ src.length) (i : Nat) :
    (memcpy dst d src s n)[i]? = if d ≤ i ∧ i < d + n then src[s + (i - d)]? else dst[i]? := by
  have l1 : (dst.take d).length = d := List.length_take_of_le (Nat.le_trans (Nat.le_add_right d n) hd)
  have l2 : ((src.drop s).take n).length = n := length_readAt src s n hs
  rw [memcpy, List.getElem?_append, List.getElem?_append, l1, l2]
  by_cases h1 : i < d
  · rw [if_pos h1, if_neg fun h => Nat.not_le_of_lt h1 h.1, List.getElem?_take_of_lt h1]
  · have h1' := Nat.le_of_not_lt h1
    by_cases h2 : i < d + n
    · have h3 : i - d < n := (Nat.sub_lt_iff_lt_add' h1').2 h2
      rw [if_neg h1, if_pos h3, if_pos ⟨h1', h2⟩, List.getElem?_take_of_lt h3, List.getElem?_drop]
    · rw [if_neg h1, if_neg fun h => h2 ((Nat.sub_lt_iff_lt_add' h1').1 h), if_neg fun h => h2 h.2,
        List.getElem?_drop, Nat.sub_sub, Nat.add_sub_cancel' (Nat.le_of_not_lt h2)]

theorem getElem?_readAt (b : List Byte) (off n i : Nat) :
    (readAt b off n)[i]? = if i < n then b[off + i]? else none := by
  unfold readAt
  by_cases h : i < n
  · rw [if_pos h, List.getElem?_take_of_lt h, List.getElem?_drop]
  · rw [if_neg h, List.getElem?_take_eq_none (by omega)]

theorem readAt_eq_of_forall (b b' : List Byte) (off off' n : Nat)
    (h : ∀ i, i < n → b'[off' + i]? = b[off + i]?) : readAt b' off' n = readAt b off n := by
  apply List.ext_getElem?
  intro i
  rw [getElem?_readAt, getElem?_readAt]
  by_cases hi : i < n
  · rw [if_pos hi, if_pos hi, h i hi]
  · rw [if_neg hi, if_neg hi]

theorem insertResv_split (m : Resv) (l : List Resv) :
    ∃ l₁ l₂, l = l₁ ++ l₂ ∧ insertResv m l = l₁ ++ m :: l₂ := by
  induction l with
  | nil => exact ⟨[], [], rfl, rfl⟩
  | cons y ys ih =>
    unfold insertResv
    split
    · obtain ⟨l₁, l₂, h1, h2⟩ := ih
      exact ⟨y :: l₁, l₂, by rw [h1]; rfl, by rw [h2]; rfl⟩
    · exact ⟨[], y :: ys, rfl, rfl⟩

theorem mem_insertResv (m x : Resv) (l : List Resv) : x ∈ insertResv m l ↔ x = m ∨ x ∈ l := by
  obtain ⟨l₁, l₂, rfl, h⟩ := insertResv_split m l
  simp [h, or_left_comm]

theorem insertResv_perm (m : Resv) (l : List Resv) : (insertResv m l).Perm (m :: l) := by
  obtain ⟨l₁, l₂, rfl, h⟩ := insertResv_split m l
  exact h ▸ List.perm_middle

theorem length_insertResv (m : Resv) (l : List Resv) : (insertResv m l).length = l.length + 1 := by
  simpa using (insertResv_perm m l).length_eq

def OffSorted (l : List Resv) : Prop := l.Pairwise (fun x y => x.off ≤ y.off)

theorem offSorted_insertResv (m : Resv) (l : List Resv) (h : OffSorted l) : OffSorted (insertResv m l) := by
  induction l with
  | nil => simp [insertResv, OffSorted]
  | cons y ys ih =>
    unfold OffSorted at h ⊢
    rw [List.pairwise_cons] at h
    unfold insertResv
    split
    · rename_i hk
      rw [List.pairwise_cons]
      refine ⟨?_, ih h.2⟩
      intro z hz
      rcases (mem_insertResv m z ys).1 hz with rfl | hz
      · unfold keyLe at hk; omega
      · exact h.1 z hz
    · rename_i hk
      rw [List.pairwise_cons, List.pairwise_cons]
      refine ⟨?_, h⟩
      intro z hz
      have hmy : m.off ≤ y.off := by unfold keyLe at hk; omega
      rcases List.mem_cons.1 hz with rfl | hz
      · exact hmy
      · exact Nat.le_trans hmy (h.1 z hz)

theorem perm_cons_eraseP_of_find? {α : Type} {p : α → Bool} {l : List α} {a : α} (h : l.find? p = some a) :
    l.Perm (a :: l.eraseP p) := by
  induction l with
  | nil => cases h
  | cons x xs ih =>
    rw [List.find?_cons] at h
    rw [List.eraseP_cons]
    cases hp : p x <;> rw [hp] at h
    · exact ((ih h).cons x).trans (List.Perm.swap a x _)
    · cases h; exact List.Perm.refl _

theorem findSlot_eq (k : Nat) (l : List Resv) : findSlot k l = l.find? (·.slot = k) := by
  induction l with
  | nil => rfl
  | cons x xs ih => rw [findSlot, List.find?_cons, ih]; by_cases h : x.slot = k <;> simp [h]

theorem eraseSlot_eq (k : Nat) (l : List Resv) : eraseSlot k l = l.eraseP (·.slot = k) := by
  induction l with
  | nil => rfl
  | cons x xs ih => rw [eraseSlot, List.eraseP_cons, ih]; by_cases h : x.slot = k <;> simp [h]

theorem findMem_eq (k : Nat) (l : List DMem) : findMem k l = l.find? (·.slot = k) := by
  induction l with
  | nil => rfl
  | cons x xs ih => rw [findMem, List.find?_cons, ih]; by_cases h : x.slot = k <;> simp [h]

theorem eraseMem_eq (k : Nat) (l : List DMem) : eraseMem k l = l.eraseP (·.slot = k) := by
  induction l with
  | nil => rfl
  | cons x xs ih => rw [eraseMem, List.eraseP_cons, ih]; by_cases h : x.slot = k <;> simp [h]

theorem findBuf_eq (i : Nat) (l : List DBuf) : findBuf i l = l.find? (·.id = i) := by
  induction l with
  | nil => rfl
  | cons x xs ih => rw [findBuf, List.find?_cons, ih]; by_cases h : x.id = i <;> simp [h]

theorem eraseBuf_eq (i : Nat) (l : List DBuf) : eraseBuf i l = l.eraseP (·.id = i) := by
  induction l with
  | nil => rfl
  | cons x xs ih => rw [eraseBuf, List.eraseP_cons, ih]; by_cases h : x.id = i <;> simp [h]

theorem findSlot_some {k : Nat} {l : List Resv} {r : Resv} (h : findSlot k l = some r) : r ∈ l ∧ r.slot = k := by
  rw [findSlot_eq] at h
  exact ⟨List.mem_of_find?_eq_some h, by simpa using List.find?_some h⟩

theorem findSlot_none {k : Nat} {l : List Resv} : findSlot k l = none ↔ k ∉ l.map (·.slot) := by
  simp [findSlot_eq]

theorem findSlot_none_of_slots {l l' : List Resv} (h : l'.map (·.slot) = l.map (·.slot)) {k : Nat}
    (hn : findSlot k l = none) : findSlot k l' = none :=
  findSlot_none.2 (h ▸ findSlot_none.1 hn)

theorem eraseSlot_sublist (k : Nat) (l : List Resv) : (eraseSlot k l).Sublist l :=
  eraseSlot_eq k l ▸ List.eraseP_sublist

theorem eraseSlot_perm {k : Nat} {l : List Resv} {r : Resv} (h : findSlot k l = some r) :
    l.Perm (r :: eraseSlot k l) :=
  eraseSlot_eq k l ▸ perm_cons_eraseP_of_find? (findSlot_eq k l ▸ h)

theorem findMem_some {k : Nat} {l : List DMem} {m : DMem} (h : findMem k l = some m) : m ∈ l ∧ m.slot = k := by
  rw [findMem_eq] at h
  exact ⟨List.mem_of_find?_eq_some h, by simpa using List.find?_some h⟩

theorem findMem_none {k : Nat} {l : List DMem} (h : findMem k l = none) : ∀ m ∈ l, m.slot ≠ k := by
  simpa [findMem_eq] using h

theorem eraseMem_sublist (k : Nat) (l : List DMem) : (eraseMem k l).Sublist l :=
  eraseMem_eq k l ▸ List.eraseP_sublist

theorem eraseMem_perm {k : Nat} {l : List DMem} {m : DMem} (h : findMem k l = some m) :
    l.Perm (m :: eraseMem k l) :=
  eraseMem_eq k l ▸ perm_cons_eraseP_of_find? (findMem_eq k l ▸ h)

theorem findBuf_some {i : Nat} {l : List DBuf} {b : DBuf} (h : findBuf i l = some b) : b ∈ l ∧ b.id = i := by
  rw [findBuf_eq] at h
  exact ⟨List.mem_of_find?_eq_some h, by simpa using List.find?_some h⟩

theorem findBuf_none {i : Nat} {l : List DBuf} (h : findBuf i l = none) : ∀ y ∈ l, y.id ≠ i := by
  simpa [findBuf_eq] using h

theorem eraseBuf_sublist (i : Nat) (l : List DBuf) : (eraseBuf i l).Sublist l :=
  eraseBuf_eq i l ▸ List.eraseP_sublist

theorem eraseBuf_perm {i : Nat} {l : List DBuf} {b : DBuf} (h : findBuf i l = some b) :
    l.Perm (b :: eraseBuf i l) :=
  eraseBuf_eq i l ▸ perm_cons_eraseP_of_find? (findBuf_eq i l ▸ h)

end Occa.Pool
