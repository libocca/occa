/-
`findIndex` of C23 on a visit list: the kernel keeps the last match (`findLast`), `std::find_if` returns the first
(`firstMatch`); `findLast` is `firstMatch` of the reversed list, and the two agree when at most one element matches.
-/
import OccaModel.Functional

namespace Occa.Functional

/-- what `std::find_if` returns: the first match in visit order, or -1 -/
def firstMatch (vis : List Nat) (f : Nat → Bool) : Int :=
  match vis.find? f with
  | some i => (i : Int)
  | none => -1

theorem foldr_first_match (f : Nat → Bool) (r0 : Int) : ∀ l : List Nat,
    l.foldr (fun i r => if f i then (i : Int) else r) r0 =
      match l.find? f with
      | some i => (i : Int)
      | none => r0
  | [] => rfl
  | x :: t => by
    rw [List.foldr_cons, List.find?_cons, foldr_first_match f r0 t]
    cases f x <;> rfl

theorem findLast_eq (vis : List Nat) (f : Nat → Bool) : findLast vis f = firstMatch vis.reverse f := by
  rw [findLast, ← List.foldr_reverse]
  exact foldr_first_match f (-1) _

theorem findLast_cases (vis : List Nat) (f : Nat → Bool) :
    (findLast vis f = -1 ∧ ∀ i ∈ vis, f i = false) ∨ ∃ i ∈ vis, f i = true ∧ findLast vis f = (i : Int) := by
  rw [findLast_eq, firstMatch]
  cases h : vis.reverse.find? f with
  | none => exact Or.inl ⟨rfl, fun i hi => by simpa using List.find?_eq_none.mp h i (List.mem_reverse.mpr hi)⟩
  | some j => exact Or.inr ⟨j, List.mem_reverse.mp (List.mem_of_find?_eq_some h), List.find?_some h, rfl⟩

theorem head?_eq_getLast?_of_length_le_one {α : Type} (l : List α) (h : l.length ≤ 1) : l.head? = l.getLast? := by
  match l, h with
  | [], _ => rfl
  | [_], _ => rfl
  | _ :: _ :: _, h => simp at h

theorem reverse_find?_of_unique (vis : List Nat) (f : Nat → Bool) (h : (vis.filter f).length ≤ 1) :
    vis.reverse.find? f = vis.find? f := by
  rw [← List.head?_filter, ← List.head?_filter, List.filter_reverse, List.head?_reverse,
    ← head?_eq_getLast?_of_length_le_one _ h]

end Occa.Functional
