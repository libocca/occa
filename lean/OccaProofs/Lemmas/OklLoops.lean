/-
Lemmas for C22: the inner-most-path computation of okl::kernelHasValidOklLoops
(reverse, filter with captured state, loop with running counters) against the declarative
description "every root-to-leaf chain of @outer/@inner loops under one outer-most loop is
`oc` @outer loops followed by `ic` @inner loops, the same (oc, ic) for all chains".
-/
import OccaModel.Okl

namespace Occa.Okl

theorem startsWith_iff (a b : Path) : startsWith a b = true ↔ b <+: a := by
  induction b generalizing a with
  | nil => simp [startsWith]
  | cons x bs ih =>
    cases a with
    | nil => simp [startsWith]
    | cons y as =>
      simp only [startsWith, Bool.and_eq_true, beq_iff_eq, ih, List.cons_prefix_cons]
      exact and_congr_left' eq_comm

/-- the loop paths of the loops that contain no further @outer/@inner loop -/
def leafPaths (pre : Path) (i : Nat) : LF → List Path
  | .nil => []
  | .node o _ kids next =>
    let l := leafPaths (pre ++ [(i, o)]) 0 kids
    (if l.isEmpty then [pre ++ [(i, o)]] else l) ++ leafPaths pre (i + 1) next

theorem paths_head (pre : Path) (i : Nat) (o : Bool) (h : Res) (k n : LF) :
    (paths pre i (.node o h k n)).head? = some (pre ++ [(i, o)]) := by
  simp [paths]

theorem leafPaths_ne_nil (pre : Path) (i : Nat) (o : Bool) (h : Res) (k n : LF) :
    leafPaths pre i (.node o h k n) ≠ [] := by
  simp only [leafPaths]
  split <;> simp_all

theorem leafPaths_nil_kids (pre : Path) (i : Nat) :
    ∀ f, leafPaths pre i f = [] → f = .nil := by
  rintro (_ | ⟨o, hv, k, n⟩) h
  · rfl
  · exact absurd h (leafPaths_ne_nil pre i o hv k n)

theorem leafPaths_leaf (pre : Path) (i : Nat) (o : Bool) (hv : Res) (next : LF) :
    leafPaths pre i (.node o hv .nil next) = (pre ++ [(i, o)]) :: leafPaths pre (i + 1) next := rfl

theorem leafPaths_interior (pre : Path) (i : Nat) (o : Bool) (hv : Res) (o2 : Bool) (h2 : Res) (k2 n2 next : LF) :
    leafPaths pre i (.node o hv (.node o2 h2 k2 n2) next) =
      leafPaths (pre ++ [(i, o)]) 0 (.node o2 h2 k2 n2) ++ leafPaths pre (i + 1) next := by
  rw [leafPaths, if_neg (by simpa using leafPaths_ne_nil _ 0 o2 h2 k2 n2)]

/-- the state captured by the filter after a block of paths has been processed -/
def headOr (l : List Path) (d : Path) : Path := (l.head?).getD d

theorem headOr_paths_nil (pre : Path) (i : Nat) (d : Path) : headOr (paths pre i .nil) d = d := rfl

theorem headOr_paths_node (pre : Path) (i : Nat) (o : Bool) (h : Res) (k n : LF) (d : Path) :
    headOr (paths pre i (.node o h k n)) d = pre ++ [(i, o)] := by
  rw [headOr, paths_head, Option.getD_some]

theorem headOr_paths_not_prefix (pre : Path) (i : Nat) (o : Bool) (next : LF) (nxt q : Path)
    (hno : ¬ (pre ++ [(i, o)]) <+: nxt) (hq : (pre ++ [(i, o)]) <+: q) :
    ¬ q <+: headOr (paths pre (i + 1) next) nxt := by
  intro hp
  cases next with
  | nil => exact hno (hq.trans hp)
  | node o2 h2 k2 n2 =>
    rw [headOr_paths_node] at hp
    have := (hq.trans hp).eq_of_length (by simp)
    simp at this

/-- The filter on the reversed paths of a forest keeps its leaf paths.  `nxt` is the state the filter enters
    with (the path it saw last); it must not run through any loop of the forest.  Reversed, the paths of a node
    come as: later siblings, the node's descendants, the node itself.  The path seen just before the node's own
    is that of its first child, which extends it (the node is dropped), or, without children, the first path of
    the later siblings or `nxt`, which does not (`headOr_paths_not_prefix`; the node is kept). -/
theorem innerMostGo_paths (f : LF) : ∀ (pre : Path) (i : Nat) (nxt : Path) (R : List Path),
    (∀ j o, i ≤ j → ¬ (pre ++ [(j, o)]) <+: nxt) →
    innerMostGo nxt ((paths pre i f).reverse ++ R) =
      (leafPaths pre i f).reverse ++ innerMostGo (headOr (paths pre i f) nxt) R := by
  induction f with
  | nil => intro pre i nxt R _; rfl
  | node o hv kids next ihk ihn =>
    intro pre i nxt R hno
    have e1 : (paths pre i (.node o hv kids next)).reverse ++ R =
        (paths pre (i + 1) next).reverse ++ ((paths (pre ++ [(i, o)]) 0 kids).reverse ++ ((pre ++ [(i, o)]) :: R)) := by
      simp [paths]
    have hlater := headOr_paths_not_prefix pre i o next nxt (hno := hno i o (Nat.le_refl _))
    rw [e1, ihn pre (i + 1) nxt _ fun j o' hj => hno j o' (Nat.le_of_succ_le hj),
      ihk (pre ++ [(i, o)]) 0 _ _ fun j o' _ => hlater _ (List.prefix_append _ _), headOr_paths_node]
    cases kids with
    | nil =>
      have hsw := Bool.eq_false_iff.2 (mt (startsWith_iff _ _).1 (hlater _ (List.prefix_refl _)))
      rw [leafPaths_leaf, headOr_paths_nil, innerMostGo, hsw]
      simp [leafPaths]
    | node o2 h2 k2 n2 =>
      have hsw : startsWith (pre ++ [(i, o)] ++ [(0, o2)]) (pre ++ [(i, o)]) = true :=
        (startsWith_iff _ _).2 (List.prefix_append _ _)
      rw [leafPaths_interior, headOr_paths_node, innerMostGo, hsw]
      simp

theorem innerMostPaths_eq (f : LF) :
    innerMostPaths (paths [] 0 f) = (leafPaths [] 0 f).reverse := by
  have h := innerMostGo_paths f [] 0 [] [] (by intro j o _ hp; simpa using hp.length_le)
  simpa [innerMostPaths, innerMostGo] using h

def attrs (p : Path) : List Bool := p.map Prod.snd

theorem attrs_append (a b : Path) : attrs (a ++ b) = attrs a ++ attrs b := by simp [attrs]

/-- `oc` @outer loops followed by `ic` @inner loops: the list that `WellNested` writes out -/
def nest (oc ic : Nat) : List Bool := List.replicate oc true ++ List.replicate ic false

theorem nest_true (a : Nat) (l : List Bool) : nest a 0 ++ true :: l = nest (a + 1) 0 ++ l := by
  simp [nest, List.replicate_succ']

theorem nest_false (a b : Nat) (l : List Bool) : nest a b ++ false :: l = nest a (b + 1) ++ l := by
  simp [nest, List.replicate_succ']

theorem nest_inj {a b c d : Nat} : nest a b = nest c d ↔ a = c ∧ b = d := by
  refine ⟨fun h => ⟨?_, ?_⟩, fun ⟨h1, h2⟩ => h1 ▸ h2 ▸ rfl⟩
  · simpa [nest, List.count_replicate] using congrArg (List.count true) h
  · simpa [nest, List.count_replicate] using congrArg (List.count false) h

theorem nest_pairwise (a b : Nat) : (nest a b).Pairwise fun x y => x = false → y = false := by
  rw [nest, List.pairwise_append]
  simp +contextual [List.pairwise_replicate, List.mem_replicate]

theorem nest_no_outer_after_inner {a b : List Bool} {c d : Nat} (h : a ++ b = nest c d)
    (ha : false ∈ a) (hb : true ∈ b) : False := by
  have := nest_pairwise c d
  rw [← h, List.pairwise_append] at this
  exact Bool.false_ne_true (this.2.2 false ha true hb rfl).symm

/-- a path is `oc` @outer loops followed by `ic` @inner loops, each between one and three -/
def WellNested (ic oc : Nat) (l : List Bool) : Prop :=
  l = List.replicate oc true ++ List.replicate ic false ∧ 1 ≤ ic ∧ ic ≤ 3 ∧ 1 ≤ oc ∧ oc ≤ 3

theorem WellNested.head? {ic oc : Nat} {l : List Bool} (h : WellNested ic oc l) : l.head? = some true := by
  obtain ⟨rfl, _, _, h1, _⟩ := h
  cases oc with
  | zero => omega
  | succ n => rfl

/-- The two counters stand for the part of the path already read, `nest oc0 ic0`: reading a loop moves it from the
    path into that prefix (`nest_true`, `nest_false`), and the loop stops at the first loop with which the prefix
    would not be a `nest`, or would be one of @inner loops only (the second conjunct). -/
theorem orderingGo_spec : ∀ (p : Path) (ic0 oc0 ic oc : Nat), (ic0 ≠ 0 → oc0 ≠ 0) →
    (orderingGo p ic0 oc0 = some (ic, oc) ↔ nest oc0 ic0 ++ attrs p = nest oc ic ∧ (ic ≠ 0 → oc ≠ 0)) := by
  intro p
  induction p with
  | nil =>
    intro ic0 oc0 ic oc h0
    simp only [orderingGo, attrs, List.map_nil, List.append_nil, Option.some.injEq, Prod.mk.injEq, nest_inj]
    exact ⟨fun ⟨h1, h2⟩ => ⟨⟨h2, h1⟩, h1 ▸ h2 ▸ h0⟩, fun ⟨⟨h2, h1⟩, _⟩ => ⟨h1, h2⟩⟩
  | cons x r ih =>
    intro ic0 oc0 ic oc h0
    obtain ⟨i, _ | _⟩ := x
    · -- an @inner loop: needs an @outer loop before it
      simp only [orderingGo, attrs, List.map_cons]
      by_cases hoc : oc0 = 0
      · have hic0 : ic0 = 0 := Classical.not_not.1 fun h => h0 h hoc
        subst hoc hic0
        rw [if_pos rfl]
        refine ⟨nofun, fun ⟨h, h'⟩ => ?_⟩
        cases oc with
        | succ n => simp [nest, List.replicate_succ] at h
        | zero =>
          cases ic with
          | zero => cases h
          | succ n => exact (h' (Nat.succ_ne_zero _) rfl).elim
      · rw [if_neg hoc, ih _ _ _ _ fun _ => hoc, nest_false]; rfl
    · -- an @outer loop: not below an @inner loop
      simp only [orderingGo, attrs, List.map_cons]
      by_cases hic : ic0 ≠ 0
      · rw [if_pos hic]
        refine ⟨nofun, fun ⟨h, _⟩ => ?_⟩
        obtain ⟨n, hn⟩ := Nat.exists_eq_succ_of_ne_zero hic
        exact (nest_no_outer_after_inner h (by simp [nest, hn]) List.mem_cons_self).elim
      · rw [Classical.not_not] at hic
        subst hic
        rw [if_neg (not_not_intro rfl), ih 0 (oc0 + 1) ic oc nofun, nest_true]; rfl

theorem pathOrdering_eq_some (p : Path) (ic oc : Nat) : pathOrdering p = some (ic, oc) ↔
    orderingGo p 0 0 = some (ic, oc) ∧ ¬(ic = 0 ∧ oc ≠ 0) ∧ ¬(3 < ic ∨ 3 < oc) := by
  unfold pathOrdering
  split
  · next h => simp [h]
  · next ic' oc' h =>
    rw [h]
    split
    · next h1 => exact ⟨nofun, by rintro ⟨⟨⟩, h', _⟩; exact (h' h1).elim⟩
    split
    · next h2 => exact ⟨nofun, by rintro ⟨⟨⟩, _, h'⟩; exact (h' h2).elim⟩
    · next h1 h2 => exact ⟨by rintro ⟨⟩; exact ⟨rfl, h1, h2⟩, fun h => h.1⟩

theorem pathOrdering_spec (p : Path) (hp : p ≠ []) (ic oc : Nat) :
    pathOrdering p = some (ic, oc) ↔ WellNested ic oc (attrs p) := by
  rw [pathOrdering_eq_some, orderingGo_spec p 0 0 ic oc nofun, WellNested]
  refine and_assoc.trans (and_congr_right fun h => ?_)
  -- a non-empty path has a loop on it; with that the two formulations of "at least one of each" agree
  have : ¬(ic = 0 ∧ oc = 0) := fun ⟨h1, h2⟩ => hp (List.map_eq_nil_iff.1 (h.trans (by rw [h1, h2]; rfl)))
  omega

theorem countsGo_cons_same (r : Nat × Bool) (ic oc : Nat) (p : Path) (ps : List Path) (hp : p.head? = some r) :
    countsGo (some (r, ic, oc)) (p :: ps) = true ↔
      pathOrdering p = some (ic, oc) ∧ countsGo (some (r, ic, oc)) ps = true := by
  rw [countsGo, hp]
  cases pathOrdering p with
  | none => simp
  | some v =>
    obtain ⟨ic', oc'⟩ := v
    simp only [ne_eq, not_true_eq_false, ↓reduceIte, Option.some.injEq, Prod.mk.injEq]
    by_cases h1 : ic = ic'
    · by_cases h2 : oc = oc'
      · simp [h1, h2]
      · simp [h1, h2, Ne.symm h2]
    · simp [h1, Ne.symm h1]

theorem countsGo_cons_new (cur : Option ((Nat × Bool) × Nat × Nat)) (r : Nat × Bool) (p : Path) (ps : List Path)
    (hp : p.head? = some r) (hcur : ∀ c, cur = some c → c.1 ≠ r) :
    countsGo cur (p :: ps) = true ↔ ∃ ic oc, pathOrdering p = some (ic, oc) ∧ countsGo (some (r, ic, oc)) ps = true := by
  rw [countsGo, hp]
  cases pathOrdering p with
  | none => simp
  | some v =>
    obtain ⟨ic', oc'⟩ := v
    obtain _ | ⟨r0, c⟩ := cur
    · simp [and_assoc]
    · simp [Ne.symm (hcur _ rfl), and_assoc]

theorem countsGo_append_same (r : Nat × Bool) (ic oc : Nat) (T g : List Path) (hg : ∀ p ∈ g, p.head? = some r) :
    countsGo (some (r, ic, oc)) (g ++ T) = true ↔
      (∀ p ∈ g, pathOrdering p = some (ic, oc)) ∧ countsGo (some (r, ic, oc)) T = true := by
  induction g with
  | nil => simp
  | cons p g ih =>
    rw [List.forall_mem_cons] at hg
    rw [List.cons_append, countsGo_cons_same r ic oc p _ hg.1, ih hg.2, List.forall_mem_cons, and_assoc]

theorem countsGo_group (cur : Option ((Nat × Bool) × Nat × Nat)) (r : Nat × Bool) (g T : List Path) (hne : g ≠ [])
    (hg : ∀ p ∈ g, p.head? = some r) (hcur : ∀ c, cur = some c → c.1 ≠ r) :
    countsGo cur (g ++ T) = true ↔
      ∃ ic oc, (∀ p ∈ g, pathOrdering p = some (ic, oc)) ∧ countsGo (some (r, ic, oc)) T = true := by
  obtain _ | ⟨p, g⟩ := g
  · exact absurd rfl hne
  · rw [List.forall_mem_cons] at hg
    rw [List.cons_append, countsGo_cons_new cur r p _ hg.1 hcur]
    refine exists₂_congr fun ic oc => ?_
    rw [countsGo_append_same r ic oc T g hg.2, ← and_assoc, List.forall_mem_cons]

/-- attribute sequences (true = @outer) from the roots of a forest down to its leaf loops -/
def leaves : LF → List (List Bool)
  | .nil => []
  | .node o _ kids next =>
    let l := leaves kids
    (if l.isEmpty then [[o]] else l.map (o :: ·)) ++ leaves next

/-- per outer-most loop of the forest: the attribute chains down to its leaf loops -/
def chains : LF → List (List (List Bool))
  | .nil => []
  | .node o _ kids next =>
    let l := leaves kids
    (if l.isEmpty then [[o]] else l.map (o :: ·)) :: chains next

theorem leafPaths_attrs (f : LF) : ∀ pre i, (leafPaths pre i f).map attrs = (leaves f).map (attrs pre ++ ·) := by
  induction f with
  | nil => intro pre i; rfl
  | node o hv kids next ihk ihn =>
    intro pre i
    have hk := ihk (pre ++ [(i, o)]) 0
    simp only [leafPaths, leaves, List.map_append, ihn]
    rw [← List.isEmpty_map (f := attrs), hk, List.isEmpty_map]
    congr 1
    split
    · simp [attrs]
    · rw [hk]; simp [attrs]

theorem leafPaths_node (pre : Path) (i : Nat) (o : Bool) (hv : Res) (kids next : LF) :
    leafPaths pre i (.node o hv kids next) = leafPaths pre i (.node o hv kids .nil) ++ leafPaths pre (i + 1) next := by
  simp only [leafPaths, List.append_nil]

theorem leafPaths_prefix (f : LF) : ∀ pre i q, q ∈ leafPaths pre i f → ∃ t, q = pre ++ t := by
  induction f with
  | nil => intro pre i q h; cases h
  | node o hv kids next ihk ihn =>
    intro pre i q h
    simp only [leafPaths, List.mem_append] at h
    rcases h with h | h
    · split at h
      · exact ⟨[(i, o)], List.mem_singleton.1 h⟩
      · obtain ⟨t, ht⟩ := ihk _ _ _ h
        exact ⟨(i, o) :: t, by simp [ht]⟩
    · exact ihn _ _ _ h

theorem leafPaths_root (i : Nat) (o : Bool) (hv : Res) (kids : LF) :
    ∀ p ∈ leafPaths [] i (.node o hv kids .nil), p.head? = some (i, o) := by
  intro p hp
  simp only [leafPaths, List.append_nil] at hp
  split at hp
  · rw [List.mem_singleton.1 hp]; rfl
  · obtain ⟨t, rfl⟩ := leafPaths_prefix kids _ _ _ hp; rfl

/-- the declarative nesting rule for one forest of @outer/@inner loops -/
def NestingSpec (f : LF) : Prop :=
  ∀ g ∈ chains f, ∃ ic oc, ∀ l ∈ g, WellNested ic oc l

theorem NestingSpec_node (o : Bool) (hv : Res) (kids next : LF) : NestingSpec (.node o hv kids next) ↔
    (∃ ic oc, ∀ l ∈ leaves (.node o hv kids .nil), WellNested ic oc l) ∧ NestingSpec next := by
  simp only [NestingSpec, chains, leaves, List.append_nil, List.forall_mem_cons]

theorem pathOrdering_leafPaths (i : Nat) (o : Bool) (hv : Res) (kids : LF) (ic oc : Nat) :
    (∀ p ∈ leafPaths [] i (.node o hv kids .nil), pathOrdering p = some (ic, oc)) ↔
      ∀ l ∈ leaves (.node o hv kids .nil), WellNested ic oc l := by
  rw [← (leafPaths_attrs _ [] i).trans (List.map_id _), List.forall_mem_map]
  refine forall_congr' fun p => imp_congr_right fun hp => pathOrdering_spec p ?_ ic oc
  rintro rfl
  cases leafPaths_root i o hv kids _ hp

theorem countsGo_block (i : Nat) (o : Bool) (hv : Res) (kids : LF) (cur : Option ((Nat × Bool) × Nat × Nat))
    (hcur : ∀ c, cur = some c → c.1 ≠ (i, o)) (T : List Path) :
    countsGo cur ((leafPaths [] i (.node o hv kids .nil)).reverse ++ T) = true ↔
      ∃ ic oc, (∀ l ∈ leaves (.node o hv kids .nil), WellNested ic oc l) ∧
        countsGo (some ((i, o), ic, oc)) T = true := by
  rw [countsGo_group cur (i, o) _ T (mt List.reverse_eq_nil_iff.1 (leafPaths_ne_nil [] i o hv kids .nil))
    (fun p hp => leafPaths_root i o hv kids p (List.mem_reverse.1 hp)) hcur]
  simp only [List.mem_reverse, pathOrdering_leafPaths]

/-- the reversed inner-most paths are read block by block, later outer-most loops first.  One loop is peeled off the
    forest so that the state in which its block is entered is known: the root `(i + 1, _)` of the next sibling,
    which differs from `(i, o)`. -/
theorem countsGo_forest (next : LF) : ∀ (o : Bool) (hv : Res) (kids : LF) (i : Nat) (T : List Path),
    countsGo none ((leafPaths [] i (.node o hv kids next)).reverse ++ T) = true ↔
      NestingSpec next ∧ ∃ ic oc, (∀ l ∈ leaves (.node o hv kids .nil), WellNested ic oc l) ∧
        countsGo (some ((i, o), ic, oc)) T = true := by
  induction next with
  | nil =>
    intro o hv kids i T
    rw [countsGo_block i o hv kids none nofun]
    exact (and_iff_right nofun).symm
  | node o' hv' kids' next' _ ih =>
    intro o hv kids i T
    have hb := fun ic' oc' => countsGo_block i o hv kids (some ((i + 1, o'), ic', oc'))
      (by rintro _ ⟨⟩; exact fun h => Nat.succ_ne_self i (congrArg Prod.fst h)) T
    rw [leafPaths_node, List.reverse_append, List.append_assoc, ih o' hv' kids' (i + 1), NestingSpec_node]
    simp only [hb, exists_and_right]
    exact ⟨fun ⟨a, b, x⟩ => ⟨⟨b, a⟩, x⟩, fun ⟨⟨b, a⟩, x⟩ => ⟨a, b, x⟩⟩

theorem countsGo_innerMost (f : LF) :
    countsGo none (innerMostPaths (paths [] 0 f)) = true ↔ NestingSpec f := by
  rw [innerMostPaths_eq]
  cases f with
  | nil => exact ⟨fun _ => nofun, fun _ => rfl⟩
  | node o hv kids next =>
    rw [← List.append_nil (List.reverse _), countsGo_forest, NestingSpec_node, and_comm]
    exact and_congr_left' (exists₂_congr fun ic oc => and_iff_left rfl)

end Occa.Okl
