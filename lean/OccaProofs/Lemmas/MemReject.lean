/-
C02: which requests are rejected.  An operation raises exactly when one of its guards fires (`step_rejected`, in
every state); the guards characterised as the property words them (`refused_iff_invalid`): negative, out of
the handle's range, uninitialised operand, and not one of the early returns of finding F05 (`Silent`).
-/
import OccaProofs.Lemmas.Mem

namespace Occa.Mem

/-- a slice request is negative or reaches past the end of the handle -/
def sliceBad (p : View) (off cnt : Int) : Prop :=
  off < 0 ∨ cnt < -1 ∨ (cnt = -1 ∧ p.len < off) ∨ (cnt ≠ -1 ∧ p.len < off + cnt)

/-- a host copy request is negative or reaches past the end of the handle -/
def hostCopyBad (p : View) (cnt off : Int) : Prop :=
  cnt < -1 ∨ off < 0 ∨ (p.size : Int) < countBytes p cnt + (p.esz : Int) * off

/-- a device-to-device copy request is negative or reaches past the end of either handle -/
def memCopyBad (self dst src : View) (cnt doff soff : Int) : Prop :=
  cnt < -1 ∨ doff < 0 ∨ soff < 0 ∨ (src.size : Int) < countBytes self cnt + (src.esz : Int) * soff ∨
    (dst.size : Int) < countBytes self cnt + (dst.esz : Int) * doff

theorem mul_nonneg_iff_pos {a b : Int} (ha : 0 < a) : 0 ≤ a * b ↔ 0 ≤ b :=
  ⟨fun h => Int.nonneg_of_mul_nonneg_right h ha, fun h => Int.mul_nonneg (Int.le_of_lt ha) h⟩

theorem mul_neg_iff_pos {n : Int} {e : Nat} (he : 0 < e) : n * (e : Int) < 0 ↔ n < 0 := by
  have := Int.mul_nonneg_iff_of_pos_right (a := n) (Int.natCast_pos.mpr he)
  omega

theorem countBytes_ge_iff {p : View} (hp : 0 < p.esz) (cnt : Int) : countBytes p cnt ≥ -1 ↔ ¬ cnt < -1 := by
  have hl := len_nonneg p
  have c0 := @countBytes_nonneg p cnt
  have c := mul_nonneg_iff_pos (b := if cnt = -1 then p.len else cnt) (show (0 : Int) < (p.esz : Int) by exact_mod_cast hp)
  unfold countBytes at c0 ⊢
  by_cases hc : cnt = -1
  · rw [if_pos hc] at c0 c ⊢; omega
  · rw [if_neg hc] at c0 c ⊢; omega

/-- for dtypes of at least one byte the two products are sign tests of `cnt` and `xoff`, and a count that passes
    is not negative; the rest is linear -/
theorem not_fits_iff {self x : View} (h1 : 0 < self.esz) (h2 : 0 < x.esz) (cnt xoff : Int) :
    ¬ Fits self cnt ((x.esz : Int) * xoff) x.size ↔
      cnt < -1 ∨ xoff < 0 ∨ (x.size : Int) < countBytes self cnt + (x.esz : Int) * xoff := by
  have c0 := @countBytes_nonneg self cnt
  have c1 := countBytes_ge_iff h1 cnt
  have c2 := mul_nonneg_iff_pos (b := xoff) (show (0 : Int) < (x.esz : Int) by exact_mod_cast h2)
  unfold Fits
  simp only [udimLe, Bool.and_eq_true, decide_eq_true_eq]
  omega

theorem exists_error_iff {ε α : Type} {x : Except ε α} {P : Prop} {t : α} (h : ∀ v, x = .ok v ↔ P ∧ v = t) :
    (∃ e, x = .error e) ↔ ¬ P := by
  cases hx : x with
  | error e => exact ⟨fun _ hp => (nomatch hx.symm.trans ((h t).mpr ⟨hp, rfl⟩)), fun _ => ⟨e, rfl⟩⟩
  | ok v => exact ⟨nofun, fun hn => absurd ((h v).mp hx).1 hn⟩

theorem sliceView_error_iff {p : View} (hp : 0 < p.esz) (off cnt : Int) :
    (∃ e, sliceView p off cnt = .error e) ↔ sliceBad p off cnt := by
  have he : (0 : Int) < (p.esz : Int) := by exact_mod_cast hp
  have key : (0 ≤ (p.esz : Int) * (if cnt = -1 then p.len - off else cnt) ∧ 0 ≤ off ∧ off + cnt ≤ p.len) ↔
      ¬ sliceBad p off cnt := by
    rw [mul_nonneg_iff_pos he]
    unfold sliceBad
    split <;> omega
  rw [← Classical.not_not (a := sliceBad p off cnt), ← key]
  exact exists_error_iff fun v => sliceView_ok_iff.trans (by rw [and_assoc, and_assoc])

theorem copyGuards_error_iff {self dst src : View} (h1 : 0 < self.esz) (h2 : 0 < dst.esz) (h3 : 0 < src.esz)
    (cnt doff soff : Int) :
    (∃ e, copyGuards self dst src cnt doff soff = .error e) ↔ memCopyBad self dst src cnt doff soff := by
  rw [exists_error_iff (P := Fits self cnt ((dst.esz : Int) * doff) dst.size ∧
      Fits self cnt ((src.esz : Int) * soff) src.size) fun t => by rw [copyGuards_ok_iff, and_assoc],
    Classical.not_and_iff_not_or_not, not_fits_iff h1 h2, not_fits_iff h1 h3]
  unfold memCopyBad
  constructor
  · rintro ((h | h | h) | (h | h | h)) <;> simp only [h, true_or, or_true]
  · rintro (h | h | h | h | h) <;> simp only [h, true_or, or_true]

/-- the request is negative, out of the range of a handle it names, or names an uninitialised
    handle (where the operation needs one) -/
def Invalid (s : State) : Op → Prop
  | .malloc _ n _ _ => n < 0
  | .mallocFrom _ n e src =>
      n < 0 ∨ (n ≠ 0 ∧ ∃ sv, view? s src = some sv ∧ sv.size ≠ 0 ∧ (sv.size : Int) < n * (e : Int))
  | .wrap _ _ n _ => n < 0
  | .slice _ src off cnt =>
      match view? s src with
      | none => True
      | some p => sliceBad p off cnt
  | .cast _ src _ => view? s src = none
  | .setDtype v _ => view? s v = none
  | .clone _ src => view? s src = none
  | .copyFromHost v _ cnt off =>
      match view? s v with
      | none => True
      | some p => hostCopyBad p cnt off
  | .copyToHost v _ cnt off =>
      match view? s v with
      | none => True
      | some p => hostCopyBad p cnt off
  | .copyFromMem d src cnt doff soff =>
      match view? s d, view? s src with
      | some dv, some sv => memCopyBad dv dv sv cnt doff soff
      | _, _ => True
  | .copyToMem src d cnt doff soff =>
      match view? s src, view? s d with
      | some sv, some dv => memCopyBad sv dv sv cnt doff soff
      | _, _ => True
  | .assign _ _ => False
  | .free _ => False
  | .hostWrite _ _ _ => False
  | .hostRead _ _ _ => False

/-- the operation raised `occa::exception` -/
def Rejected (s : State) (op : Op) : Prop := ∃ e, (step s op).2 = .err e

/-- the request shapes of finding F05: the receiver is an uninitialised handle (both operands, for a
    device-to-device copy) and the C++ returns early without raising -/
def Silent (s : State) : Op → Prop
  | .slice _ src _ _ => view? s src = none
  | .clone _ src => view? s src = none
  | .copyFromHost v _ _ _ => view? s v = none
  | .copyToHost v _ _ _ => view? s v = none
  | .copyFromMem d src _ _ _ => view? s d = none ∧ view? s src = none
  | .copyToMem src d _ _ _ => view? s src = none ∧ view? s d = none
  | _ => False

theorem step_rejected (s : State) (op : Op) : Rejected s op ↔ Refused s op := by
  unfold Rejected
  have he := step_outcome s op
  generalize step s op = r at he
  cases he with
  | raise e hr => exact ⟨fun _ => hr, fun _ => ⟨e, rfl⟩⟩
  | trap hn => exact ⟨nofun, fun h => absurd h hn⟩
  | done o hn => exact ⟨nofun, fun h => absurd h hn⟩

/-- `Refused` and `Invalid` look at the same handle: they differ in the test put on its view, and on the uninitialised
    handle, where the C++ returns early (`Silent`) -/
theorem exists_view_iff {s : State} {x : Nat} {P Q : View → Prop} (h : ∀ p, view? s x = some p → (P p ↔ Q p)) :
    (∃ p, view? s x = some p ∧ P p) ↔
      (match view? s x with
        | none => True
        | some p => Q p) ∧ ¬ view? s x = none := by
  cases hv : view? s x with
  | none => exact ⟨fun ⟨_, h, _⟩ => (nomatch h), fun h => absurd rfl h.2⟩
  | some p => exact ⟨fun ⟨_, h', hp⟩ => by cases h'; exact ⟨(h p hv).mp hp, nofun⟩, fun hq => ⟨p, rfl, (h p hv).mpr hq.1⟩⟩

/-- the same for the two handles of a device-to-device copy -/
theorem match_views_iff {a b : Option View} {G B : View → View → Prop}
    (h : ∀ av bv, a = some av → b = some bv → (G av bv ↔ B av bv)) :
    (match (generalizing := false) a, b with
      | none, none => False
      | some av, some bv => G av bv
      | _, _ => True) ↔
    (match (generalizing := false) a, b with
      | some av, some bv => B av bv
      | _, _ => True) ∧ ¬ (a = none ∧ b = none) := by
  cases a <;> cases b
  · exact ⟨False.elim, fun h => h.2 ⟨rfl, rfl⟩⟩
  · exact ⟨fun _ => ⟨trivial, nofun⟩, fun _ => trivial⟩
  · exact ⟨fun _ => ⟨trivial, nofun⟩, fun _ => trivial⟩
  · exact (h _ _ rfl rfl).trans (and_iff_left nofun).symm

/-- Arithmetic only; `step` is not looked at. -/
theorem refused_iff_invalid {s : State} (hp : EszPos s) {op : Op} (hw : op.wf) :
    Refused s op ↔ Invalid s op ∧ ¬ Silent s op := by
  have never : ∀ {a : Prop}, a ↔ a ∧ ¬ False := (and_iff_left not_false).symm
  cases op with
  | malloc v n e data =>
    have := mul_neg_iff_pos (n := n) hw
    simp only [Refused, Invalid, Silent, not_false_eq_true, and_true]; omega
  | mallocFrom v n e src =>
    simp only [Refused, Invalid, Silent, not_false_eq_true, and_true, mul_neg_iff_pos (n := n) hw]
    exact ⟨fun ⟨h0, h⟩ => h.imp_right (And.intro h0),
      fun h => h.elim (fun h => ⟨by omega, .inl h⟩) fun ⟨h0, h⟩ => ⟨h0, .inr h⟩⟩
  | wrap v hb n e => exact (mul_neg_iff_pos hw).trans never
  | slice d src off cnt => exact exists_view_iff fun p hv => sliceView_error_iff (hp.view hv) off cnt
  | clone d src => exact ⟨False.elim, fun h => h.2 h.1⟩
  | copyFromHost v data cnt off => exact exists_view_iff fun p hv => not_fits_iff (hp.view hv) (hp.view hv) cnt off
  | copyToHost v cap cnt off => exact exists_view_iff fun p hv => not_fits_iff (hp.view hv) (hp.view hv) cnt off
  | copyFromMem d src cnt doff soff =>
    exact match_views_iff fun dv sv hd hsv => copyGuards_error_iff (hp.view hd) (hp.view hd) (hp.view hsv) cnt doff soff
  | copyToMem src d cnt doff soff =>
    exact match_views_iff fun sv dv hsv hd => copyGuards_error_iff (hp.view hsv) (hp.view hd) (hp.view hsv) cnt doff soff
  -- `cast`, `setDtype`: one clause for both; the other four never raise
  | _ => exact never

theorem step_rejected_iff {s : State} (hp : EszPos s) {op : Op} (hw : op.wf) (hs : ¬ Silent s op) :
    Rejected s op ↔ Invalid s op :=
  (step_rejected s op).trans ((refused_iff_invalid hp hw).trans (and_iff_left hs))

end Occa.Mem
