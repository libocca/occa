/-
C02 (OccaModel/Mem.lean), operation by operation, exactly: the row of each memory-typed expression
(`…Expr_yields`: exactly when it raises, when it may trap, when it yields no memory, and otherwise the view of the
new memory, with its bytes for `malloc` and `clone` and for a `mallocFrom` that copies), the two host copies as one
function (`hostCopy`), the byte move of the device copies (`copyBytes_cases`, `copyBytes_spec`).
-/
import OccaProofs.Lemmas.MemState
import OccaProofs.Lemmas.MemFits

namespace Occa.Mem

theorem sliceView_viewOk {s : State} {p v : View} {off cnt : Int} (hp : ViewOk s p)
    (h : sliceView p off cnt = .ok v) : ViewOk s v := by
  obtain ⟨hb, _, _, _, hin, _⟩ := sliceView_ok h
  obtain ⟨b, h1, h2⟩ := hp
  exact ⟨b, by rw [hb]; exact h1, by omega⟩

/-- the fresh root view of an allocation of `n` elements of size `e` -/
def rootView (s : State) (n : Int) (e : Nat) : View :=
  { buf := s.bufs.length, off := 0, size := (n * (e : Int)).toNat, esz := e }

/-- the content of a fresh allocation of `k` bytes: indeterminate, or the first `k` bytes supplied -/
def initBytes (k : Nat) : Option (List UInt8) → Buffer
  | none => List.replicate k none
  | some dt => (dt.take k).map some

/-- `s` after `buf->malloc(bytes)` (and `copyFrom(ptr)`) and `new serial::memory` for the root view -/
def alloc (s : State) (n : Int) (e : Nat) (data : Option (List UInt8)) : State :=
  { pushMem s (rootView s n e) with bufs := s.bufs ++ [initBytes (n * (e : Int)).toNat data] }

theorem extends_alloc {s : State} {n : Int} {e : Nat} {data : Option (List UInt8)}
    (hl : (initBytes (n * (e : Int)).toNat data).length = (n * (e : Int)).toNat) :
    Extends s (alloc s n e data) (rootView s n e) :=
  ⟨rfl, rfl, fun _ hi => List.getElem?_append_left hi,
    fun _ => ⟨initBytes (n * (e : Int)).toNat data, by simp [alloc, pushMem, rootView],
      by rw [hl]; exact Nat.le_of_eq (Nat.zero_add _)⟩⟩

theorem copyBytes_eq {s : State} {dst src : View} {db sb : Buffer} (hd : s.bufs[dst.buf]? = some db)
    (hs : s.bufs[src.buf]? = some sb) (bytes dOff sOff : Nat) :
    copyBytes s dst src bytes dOff sOff =
      (setBuf s dst.buf (writeAt db (dst.off + dOff) (readAt sb (src.off + sOff) bytes)), .ok none) := by
  unfold copyBytes
  rw [hs, hd]

theorem copyBytes_inv {s : State} (h : Inv s) {dst src : View} (hd : ViewOk s dst) (hs : ViewOk s src)
    {bytes dOff : Nat} (sOff : Nat) (h2 : dOff + bytes ≤ dst.size) :
    Inv (copyBytes s dst src bytes dOff sOff).1 ∧ (copyBytes s dst src bytes dOff sOff).1.mems = s.mems := by
  obtain ⟨db, hd1, hd2⟩ := hd
  obtain ⟨sb, hs1, _⟩ := hs
  rw [copyBytes_eq hd1 hs1]
  have := readAt_length_le sb (src.off + sOff) bytes
  exact ⟨h.setBuf hd1 (writeAt_length (by omega)), rfl⟩

theorem copyBytes_cases (s : State) (dst src : View) (bytes dOff sOff : Nat) :
    ((s.bufs[dst.buf]? = none ∨ s.bufs[src.buf]? = none) ∧ copyBytes s dst src bytes dOff sOff = (s, .trap)) ∨
      ∃ db sb, s.bufs[dst.buf]? = some db ∧ s.bufs[src.buf]? = some sb ∧
        copyBytes s dst src bytes dOff sOff =
          (setBuf s dst.buf (writeAt db (dst.off + dOff) (readAt sb (src.off + sOff) bytes)), .ok none) := by
  cases hs : s.bufs[src.buf]? with
  | none => exact .inl ⟨.inr rfl, by unfold copyBytes; rw [hs]⟩
  | some sb =>
    cases hd : s.bufs[dst.buf]? with
    | none => exact .inl ⟨.inl rfl, by unfold copyBytes; rw [hs, hd]⟩
    | some db => exact .inr ⟨db, sb, rfl, rfl, copyBytes_eq hd hs _ _ _⟩

/-- the destination receives the bytes the source range held *before* the copy: overlapping ranges included -/
theorem copyBytes_spec {s : State} {dst src : View} (hd : ViewOk s dst) (hsv : ViewOk s src)
    {bytes dOff sOff : Nat} (h1 : sOff + bytes ≤ src.size) (h2 : dOff + bytes ≤ dst.size) (q : View) (j : Nat) :
    byteAt (copyBytes s dst src bytes dOff sOff).1 q j =
      if q.buf = dst.buf ∧ dst.off + dOff ≤ q.off + j ∧ q.off + j < dst.off + dOff + bytes
      then byteAt s src (sOff + (q.off + j - (dst.off + dOff))) else byteAt s q j := by
  obtain ⟨db, hd1, hd2⟩ := hd
  obtain ⟨sb, hs1, hs2⟩ := hsv
  rw [copyBytes_eq hd1 hs1]
  have hr : (readAt sb (src.off + sOff) bytes).length = bytes := readAt_length (by omega)
  simp only []
  rw [byteAt_setBuf_writeAt hd1 (by rw [hr]; omega), hr]
  split
  · rename_i hc
    have : q.off + j - (dst.off + dOff) < bytes := by omega
    rw [getElem?_readAt this]
    unfold byteAt
    rw [hs1]
    simp only [Option.bind_some]
    congr 1; omega
  · rfl

theorem countBytes_rootView (s : State) {n : Int} {e : Nat} (hn : 0 ≤ n * (e : Int)) :
    countBytes (rootView s n e) (-1) = n * (e : Int) := by
  rcases Nat.eq_zero_or_pos e with rfl | he
  · simp [countBytes, rootView]
  have he' : (0 : Int) < (e : Int) := by exact_mod_cast he
  have hn0 : 0 ≤ n := by
    rw [Int.mul_comm] at hn
    exact Int.nonneg_of_mul_nonneg_right hn he'
  unfold countBytes View.len rootView
  simp only [if_true]
  have h1 : (n * (e : Int)).toNat = n.toNat * e := by
    have : ((n.toNat * e : Nat) : Int) = n * (e : Int) := by
      rw [Int.natCast_mul, Int.toNat_of_nonneg hn0]
    omega
  rw [h1, Nat.mul_div_cancel _ he, Int.toNat_of_nonneg hn0, Int.mul_comm]

theorem sliceExpr_yields (s : State) (src : Nat) (off cnt : Int) :
    (sliceExpr s src off cnt).Yields s (view? s src = none)
      (∃ p, view? s src = some p ∧ ∃ e, sliceView p off cnt = .error e) False
      (fun _ v => ∃ p, view? s src = some p ∧ sliceView p off cnt = .ok v) := by
  unfold sliceExpr
  cases hp : view? s src with
  | none => exact ⟨nofun, rfl, rfl⟩
  | some p =>
    simp only []
    cases hv : sliceView p off cnt with
    | error e => exact ⟨p, rfl, e, hv⟩
    | ok v =>
      refine ⟨fun ⟨p', h, e, he⟩ => ?_, rfl, v, extends_pushMem fun h => sliceView_viewOk (h.viewOk hp) hv, p, rfl, hv⟩
      cases h; rw [hv] at he; cases he

theorem castExpr_yields (s : State) (src e : Nat) :
    (castExpr s src e).Yields s False (view? s src = none) False
      (fun _ v => ∃ p c, view? s src = some p ∧ sliceView p 0 (-1) = .ok c ∧ v = { c with esz := e }) := by
  unfold castExpr
  cases hp : view? s src with
  | none => exact rfl
  | some p =>
    obtain ⟨c, hv⟩ := sliceView_all p
    simp only [hv]
    have hc : Inv s → ViewOk s c := fun h => sliceView_viewOk (h.viewOk hp) hv
    exact ⟨nofun, rfl, _, extends_pushMem hc, p, c, rfl, hv, rfl⟩

theorem wrapExpr_yields (s : State) (hb : Nat) (n : Int) (e : Nat) :
    (wrapExpr s hb n e).Yields s False (n * (e : Int) < 0) (¬ (hb < nHostBufs ∧ (n * (e : Int)).toNat ≤ hostBufSize))
      (fun _ v => v = { buf := hb, off := 0, size := (n * (e : Int)).toNat, esz := e } ∧ 0 ≤ n * (e : Int) ∧
        hb < nHostBufs) := by
  unfold wrapExpr
  simp only []
  by_cases h1 : n * (e : Int) ≥ 0
  case neg => rw [if_pos h1]; exact Int.not_le.mp h1
  rw [if_neg (not_not_intro h1)]
  by_cases h2 : hb < nHostBufs ∧ (n * (e : Int)).toNat ≤ hostBufSize
  case neg => rw [if_pos h2]; exact ⟨Int.not_lt.mpr h1, h2⟩
  rw [if_neg (not_not_intro h2)]
  refine ⟨Int.not_lt.mpr h1, rfl, _, extends_pushMem fun h => ?_, rfl, h1, h2.1⟩
  obtain ⟨b, hb1, hb2⟩ := h.host hb h2.1
  exact ⟨b, hb1, by simp only []; omega⟩

theorem mallocExpr_yields (s : State) (n : Int) (e : Nat) (data : Option (List UInt8)) :
    (mallocExpr s n e data).Yields s (n = 0) (n ≠ 0 ∧ n * (e : Int) < 0)
      (∃ dt, data = some dt ∧ dt.length < (n * (e : Int)).toNat)
      (fun s1 v => n ≠ 0 ∧ 0 ≤ n * (e : Int) ∧ v = rootView s n e ∧
        s1.bufs[s.bufs.length]? = some (initBytes (n * (e : Int)).toNat data) ∧
        (initBytes (n * (e : Int)).toNat data).length = (n * (e : Int)).toNat) := by
  unfold mallocExpr
  by_cases h0 : n = 0
  · rw [if_pos h0]; exact ⟨fun h => h.1 h0, rfl, h0⟩
  rw [if_neg h0]
  simp only []
  by_cases h1 : n * (e : Int) ≥ 0
  case neg => rw [if_pos h1]; exact ⟨h0, Int.not_le.mp h1⟩
  rw [if_neg (not_not_intro h1)]
  have hE : ¬ (n ≠ 0 ∧ n * (e : Int) < 0) := fun h => Int.not_lt.mpr h1 h.2
  cases data with
  | none =>
    exact ⟨hE, rfl, _, extends_alloc (data := none) List.length_replicate, h0, h1, rfl, List.getElem?_concat_length,
      List.length_replicate⟩
  | some dt =>
    simp only []
    by_cases h2 : dt.length < (n * (e : Int)).toNat
    · rw [if_pos h2]; exact ⟨hE, dt, rfl, h2⟩
    · rw [if_neg h2]
      have hl := length_take_map_some (Nat.not_lt.mp h2)
      exact ⟨hE, rfl, _, extends_alloc (data := some dt) hl, h0, h1, rfl, List.getElem?_concat_length, hl⟩

/-- `malloc(n, dtype, src)`: a fresh allocation, then `copyFrom(src)` with the default arguments into it; of that copy's
    guards only one can fire (`copyGuards_all`) -/
theorem mallocFromExpr_yields (s : State) (n : Int) (e src : Nat) :
    (mallocFromExpr s n e src).Yields s (n = 0)
      (n ≠ 0 ∧ (n * (e : Int) < 0 ∨
        ∃ sv, view? s src = some sv ∧ sv.size ≠ 0 ∧ (sv.size : Int) < n * (e : Int))) (¬ Inv s)
      (fun s1 v => v = rootView s n e ∧ ∀ sv, Inv s → view? s src = some sv → sv.size ≠ 0 →
        ∀ j, j < (n * (e : Int)).toNat → byteAt s1 v j = byteAt s sv j) := by
  unfold mallocFromExpr
  have hm := mallocExpr_yields s n e none
  generalize hov : view? s src = ov
  cases hr : mallocExpr s n e none with
  | err er => rw [hr] at hm; exact ⟨hm.1, .inl hm.2⟩
  | trap => rw [hr] at hm; obtain ⟨_, dt, h, _⟩ := hm; cases h
  | val s1 om =>
    rw [hr] at hm
    cases om with
    | none => obtain ⟨_, rfl, h0⟩ := hm; exact ⟨fun h => h.1 h0, rfl, h0⟩
    | some m =>
      obtain ⟨_, rfl, v, hx, h0, hnn, rfl, hnb, hnl⟩ := hm
      simp only [hx.mems_new]
      -- the allocation alone: when `src` is uninitialised or empty
      have hplain : (∀ sv, ov = some sv → sv.size = 0) →
          (MRes.val s1 (some s.mems.length)).Yields s (n = 0) (n ≠ 0 ∧ (n * (e : Int) < 0 ∨
            ∃ sv, ov = some sv ∧ sv.size ≠ 0 ∧ (sv.size : Int) < n * (e : Int))) (¬ Inv s)
            (fun s1 v => v = rootView s n e ∧ ∀ sv, Inv s → ov = some sv → sv.size ≠ 0 →
              ∀ j, j < (n * (e : Int)).toNat → byteAt s1 v j = byteAt s sv j) := fun hsv =>
        ⟨fun ⟨_, h⟩ => h.elim (fun h => by omega) fun ⟨sv, h, hz, _⟩ => hz (hsv sv h), rfl, _, hx, rfl,
          fun sv _ h hz => absurd (hsv sv h) hz⟩
      cases ov with
      | none => exact hplain nofun
      | some sv =>
        simp only []
        by_cases hz : sv.size = 0
        · rw [if_pos hz]; exact hplain fun _ h => by cases h; exact hz
        rw [if_neg hz, copyGuards_all, countBytes_rootView s hnn]
        by_cases hlt : (sv.size : Int) < n * (e : Int)
        · rw [if_pos hlt]; exact ⟨h0, .inr ⟨sv, rfl, hz, hlt⟩⟩
        rw [if_neg hlt]
        have hne : ¬ (n ≠ 0 ∧ (n * (e : Int) < 0 ∨
            ∃ sv', some sv = some sv' ∧ sv'.size ≠ 0 ∧ (sv'.size : Int) < n * (e : Int))) :=
          fun ⟨_, h⟩ => h.elim (fun h => by omega) fun ⟨sv', h, _, hl⟩ => by cases h; exact hlt hl
        have hsv : Inv s → ViewOk s1 sv := fun h => (h.viewOk hov).mono hx.bufs.bufLe
        simp only []
        rcases copyBytes_cases s1 (rootView s n e) sv (n * (e : Int)).toNat 0 0 with ⟨hno, hc⟩ | ⟨db, sb, hdb, hsb, hc⟩
        · rw [hc]; exact ⟨hne, fun h => hno.elim (hx.viewOk h).ne_none (hsv h).ne_none⟩
        · have hr := readAt_length_le sb (sv.off + 0) (n * (e : Int)).toNat
          obtain rfl := Option.some.inj (hnb.symm.trans hdb)
          rw [hc]
          refine ⟨hne, rfl, _, hx.setBuf hnb (Nat.le_refl _) (writeAt_length (by simp only [rootView]; omega)), rfl,
            fun sv' h hsv' _ j hj => ?_⟩
          cases hsv'
          have := copyBytes_spec (hx.viewOk h) (hsv h) (bytes := (n * (e : Int)).toNat) (sOff := 0) (dOff := 0) (by omega)
            (Nat.le_of_eq (Nat.zero_add _)) (rootView s n e) j
          rw [hc, if_pos ⟨rfl, Nat.le_add_right _ _, by simp only [rootView]; omega⟩,
            byteAt_kept hx.bufs (h.viewOk hov).buf_lt] at this
          simpa [rootView] using this

theorem cloneExpr_yields (s : State) (src : Nat) :
    (cloneExpr s src).Yields s (∀ p, view? s src = some p → p.size = 0) False (¬ Inv s)
      (fun s1 v => ∃ p, view? s src = some p ∧ v = { rootView s (p.size : Int) 1 with esz := p.esz } ∧
        (Inv s → ∀ j, j < p.size → byteAt s1 v j = byteAt s p j)) := by
  unfold cloneExpr
  cases hp : view? s src with
  | none => exact ⟨id, rfl, nofun⟩
  | some p =>
    simp only []
    by_cases hz : p.size = 0
    · rw [if_pos hz]; exact ⟨id, rfl, fun _ h => by cases h; exact hz⟩
    rw [if_neg hz]
    have ha := mallocFromExpr_yields s (p.size : Int) 1 src
    cases hmf : mallocFromExpr s (p.size : Int) 1 src with
    | err er =>
      rw [hmf] at ha
      obtain ⟨_, h | ⟨sv, h1, _, h2⟩⟩ := ha
      · omega
      · rw [hp] at h1; cases h1; omega
    | trap => rw [hmf] at ha; exact ⟨id, ha.2⟩
    | val s1 om =>
      rw [hmf] at ha
      cases om with
      | none => obtain ⟨_, _, h0⟩ := ha; omega
      | some m =>
        obtain ⟨_, rfl, v, hx, rfl, hc⟩ := ha
        simp only [hx.mems_new]
        exact ⟨id, rfl, _, hx.retag p.esz, p, rfl, rfl, fun h j hj => hc p h hp hz j (by omega)⟩

/-- `copyFrom(ptr)` / `copyTo(ptr)`: the handle's own three guards, the caller's array of `cap` bytes, then `k` -/
def hostCopy (s : State) (v : Nat) (cnt off : Int) (cap : Nat) (e3 : Err) (k : View → Buffer → State × Res) :
    State × Res :=
  match view? s v with
  | none => (s, .ok none)
  | some p =>
    if ¬ (countBytes p cnt ≥ -1) then (s, .err .negSize)
    else if ¬ ((p.esz : Int) * off ≥ 0) then (s, .err .negOff)
    else if ¬ udimLe (countBytes p cnt + (p.esz : Int) * off) p.size then (s, .err e3)
    else if cap < (countBytes p cnt).toNat then (s, .trap)
    else
      match s.bufs[p.buf]? with
      | none => (s, .trap)
      | some b => k p b

theorem step_copyFromHost_eq (s : State) (v : Nat) (data : List UInt8) (cnt off : Int) :
    step s (.copyFromHost v data cnt off) = hostCopy s v cnt off data.length .dstRange fun p b =>
      (setBuf s p.buf (writeAt b (p.off + ((p.esz : Int) * off).toNat)
        ((data.take (countBytes p cnt).toNat).map some)), .ok none) := rfl

theorem step_copyToHost_eq (s : State) (v cap : Nat) (cnt off : Int) :
    step s (.copyToHost v cap cnt off) = hostCopy s v cnt off cap .srcRange fun p b =>
      (s, .ok (some (readAt b (p.off + ((p.esz : Int) * off).toNat) (countBytes p cnt).toNat))) := rfl

section hostCopy
variable {s : State} {v cap : Nat} {p : View} {cnt off : Int} {e3 : Err} {k : View → Buffer → State × Res}

theorem hostCopy_of_not_fits (hp : view? s v = some p) (hf : ¬ Fits p cnt ((p.esz : Int) * off) p.size) :
    ∃ e, hostCopy s v cnt off cap e3 k = (s, .err e) := by
  simp only [hostCopy, hp]
  by_cases g1 : countBytes p cnt ≥ -1
  case neg => exact ⟨_, if_pos g1⟩
  by_cases g2 : (p.esz : Int) * off ≥ 0
  case neg => exact ⟨_, by rw [if_neg (not_not_intro g1), if_pos g2]⟩
  have g3 : ¬ udimLe (countBytes p cnt + (p.esz : Int) * off) p.size = true := fun g3 => hf ⟨g1, g2, g3⟩
  exact ⟨_, by rw [if_neg (not_not_intro g1), if_neg (not_not_intro g2), if_pos g3]⟩

theorem hostCopy_of_fits (hp : view? s v = some p) (hf : Fits p cnt ((p.esz : Int) * off) p.size) :
    hostCopy s v cnt off cap e3 k =
      if cap < (countBytes p cnt).toNat then (s, .trap) else
        match s.bufs[p.buf]? with
        | none => (s, .trap)
        | some b => k p b := by
  simp only [hostCopy, hp]
  rw [if_neg (not_not_intro hf.1), if_neg (not_not_intro hf.2.1), if_neg (not_not_intro hf.2.2)]

theorem hostCopy_ok {s' : State} {o : Option (List Byte)} (hp : view? s v = some p)
    (hs : hostCopy s v cnt off cap e3 k = (s', .ok o)) :
    Fits p cnt ((p.esz : Int) * off) p.size ∧ (countBytes p cnt).toNat ≤ cap ∧
      ∃ b, s.bufs[p.buf]? = some b ∧ k p b = (s', .ok o) := by
  by_cases hf : Fits p cnt ((p.esz : Int) * off) p.size
  case neg => obtain ⟨e, he⟩ := hostCopy_of_not_fits (cap := cap) (e3 := e3) (k := k) hp hf; rw [he] at hs; cases hs
  rw [hostCopy_of_fits hp hf] at hs
  by_cases hl : cap < (countBytes p cnt).toNat
  · rw [if_pos hl] at hs; cases hs
  rw [if_neg hl] at hs
  cases hb : s.bufs[p.buf]? with
  | none => rw [hb] at hs; cases hs
  | some b => rw [hb] at hs; exact ⟨hf, by omega, b, rfl, hs⟩

end hostCopy
end Occa.Mem
