/-
Lemmas for C22: the declaration and break/continue checks of okl.cpp against their declarative
reading over statement occurrences ("a statement together with the statements around it"),
the header checks, and that no check of the validation can trap.
-/
import OccaProofs.Lemmas.OklLoops

namespace Occa.Okl

/-- every statement of the tree with the kinds of the statements around it, nearest first -/
def occs (anc : List Kind) : Tree → List (List Kind × Node)
  | .nil => []
  | .node n kids next => (anc, n) :: (occs (n.kind :: anc) kids ++ occs anc next)

theorem forall_mem_occs_node {P : List Kind × Node → Prop} (anc : List Kind) (n : Node) (kids next : Tree) :
    (∀ x ∈ occs anc (.node n kids next), P x) ↔
      P (anc, n) ∧ (∀ x ∈ occs (n.kind :: anc) kids, P x) ∧ ∀ x ∈ occs anc next, P x := by
  simp only [occs, List.mem_cons, List.mem_append, or_imp, forall_and, forall_eq]

def Kind.isOuter : Kind → Bool
  | .okl o _ _ _ => o
  | _ => false

def Kind.isInner : Kind → Bool
  | .okl _ i _ _ => i
  | _ => false

theorem flags_eq (k : Kind) (anc : List Kind) :
    k.flags (anc.any Kind.isOuter) (anc.any Kind.isInner) =
      ((k :: anc).any Kind.isOuter, (k :: anc).any Kind.isInner) := by
  cases k with
  | okl o i h nb => simp only [Kind.flags, List.any_cons, Kind.isOuter, Kind.isInner, Bool.or_comm]
  | _ => rfl

/-- the declaration rule for one statement occurrence -/
def DeclOk (x : List Kind × Node) : Prop :=
  (∀ d, x.2.kind = .decl (.shared d) →
      d ≠ [] ∧ (∀ s ∈ d, s.isSome = true) ∧ x.1.any Kind.isOuter = true ∧ x.1.any Kind.isInner = false) ∧
  (x.2.kind = .decl .exclusive → x.1.any Kind.isOuter = true ∧ x.1.any Kind.isInner = false) ∧
  (x.2.uses ≠ [] → (x.2.kind :: x.1).any Kind.isInner = true)

theorem declHere_iff (io ii : Bool) (k : Kind) : declHere io ii k = true ↔
    (∀ d, k = .decl (.shared d) → d ≠ [] ∧ (∀ s ∈ d, s.isSome = true) ∧ io = true ∧ ii = false) ∧
    (k = .decl .exclusive → io = true ∧ ii = false) := by
  cases k with
  | decl dk =>
    cases dk with
    | plain => simp only [declHere, Kind.decl.injEq, reduceCtorEq, false_imp_iff, implies_true, and_self]
    | exclusive =>
      simp only [declHere, usageOk, ↓reduceIte, Bool.and_eq_true, Bool.not_eq_eq_eq_not, Bool.not_true, and_comm,
        Kind.decl.injEq, reduceCtorEq, false_imp_iff, implies_true, forall_const, true_and]
    | shared d =>
      simp only [declHere, sharedDeclOk, usageOk, ↓reduceIte, Bool.and_eq_true, Bool.not_eq_eq_eq_not,
        Bool.not_true, List.isEmpty_eq_false_iff, ne_eq, List.all_eq_true, and_comm, Kind.decl.injEq,
        DeclKind.shared.injEq, and_left_comm, forall_eq', reduceCtorEq, false_imp_iff, true_and]
  | _ => simp only [declHere, reduceCtorEq, false_imp_iff, implies_true, and_self]

theorem all_const_iff {α : Type} (l : List α) (b : Bool) : (l.all fun _ => b) = true ↔ (l ≠ [] → b = true) := by
  cases l <;> simp +contextual [List.all_eq_true]

theorem declOk_iff (anc : List Kind) (n : Node) :
    declHere (anc.any Kind.isOuter) (anc.any Kind.isInner) n.kind = true ∧
      (n.uses.all fun _ => usageOk ((n.kind :: anc).any Kind.isOuter) ((n.kind :: anc).any Kind.isInner) false) = true
      ↔ DeclOk (anc, n) := by
  simp only [DeclOk, declHere_iff, all_const_iff, usageOk, Bool.false_eq_true, ↓reduceIte, and_assoc]

theorem declsOk_iff (t : Tree) : ∀ anc : List Kind,
    declsOk (anc.any Kind.isOuter) (anc.any Kind.isInner) t = true ↔ ∀ x ∈ occs anc t, DeclOk x := by
  induction t with
  | nil => intro anc; simp [declsOk, occs]
  | node n kids next ihk ihn =>
    intro anc
    rw [forall_mem_occs_node, ← ihk, ← ihn, ← declOk_iff, declsOk, flags_eq]
    simp only [Bool.and_eq_true, and_assoc]

/-- does a statement of this kind capture a `break` (isCont = false) / `continue` (isCont = true)? -/
def Kind.catches (isCont : Bool) : Kind → Bool
  | .okl _ _ _ _ | .for_ | .while_ => true
  | .switch_ => !isCont
  | _ => false

def Kind.isOklLoop : Kind → Bool
  | .okl o i _ _ => o || i
  | _ => false

theorem directlyInOkl_cons (isCont : Bool) (k : Kind) (l : List Anc) :
    directlyInOkl isCont (k.anc :: l) =
      if k.catches isCont then k.isOklLoop else directlyInOkl isCont l := by
  cases k with
  | okl o i h nb => cases o <;> cases i <;> rfl
  | switch_ => cases isCont <;> rfl
  | _ => rfl

theorem directlyInOkl_eq_false (isCont : Bool) (anc : List Kind) :
    directlyInOkl isCont (anc.map Kind.anc) = false ↔
      ∀ k, anc.find? (Kind.catches isCont) = some k → k.isOklLoop = false := by
  induction anc with
  | nil => simp [directlyInOkl]
  | cons k r ih =>
    rw [List.map_cons, directlyInOkl_cons, List.find?_cons]
    cases h : k.catches isCont <;> simp [ih]

/-- the break/continue rule for one statement occurrence: the statement that captures it is not an
    @outer/@inner loop -/
def BreakOk (x : List Kind × Node) : Prop :=
  (x.2.kind = .brk → ∀ k, x.1.find? (Kind.catches false) = some k → k.isOklLoop = false) ∧
  (x.2.kind = .cont → ∀ k, x.1.find? (Kind.catches true) = some k → k.isOklLoop = false)

theorem breakHere_iff (anc : List Kind) (n : Node) :
    breakHere (anc.map Kind.anc) n.kind = true ↔ BreakOk (anc, n) := by
  unfold BreakOk
  cases n.kind <;>
    simp only [breakHere, Bool.not_eq_true', directlyInOkl_eq_false, reduceCtorEq, false_imp_iff, true_imp_iff,
      and_self, and_true, true_and]

theorem breaksOk_iff (t : Tree) : ∀ anc : List Kind,
    breaksOk (anc.map Kind.anc) t = true ↔ ∀ x ∈ occs anc t, BreakOk x := by
  induction t with
  | nil => intro anc; simp [breaksOk, occs]
  | node n kids next ihk ihn =>
    intro anc
    rw [forall_mem_occs_node, ← ihk, ← ihn, ← breakHere_iff, breaksOk]
    simp only [List.map_cons, Bool.and_eq_true, and_assoc]

theorem Res.and_eq_ok (a : Res) (b : Unit → Res) : a.and b = .ok ↔ a = .ok ∧ b () = .ok := by
  cases a <;> simp [Res.and]

theorem Res.ofBool_eq_ok (b : Bool) : Res.ofBool b = .ok ↔ b = true := by
  cases b <;> simp [Res.ofBool]

theorem hdrsGo_iff (attr : Bool) (hs : List (Bool × Res)) :
    hdrsGo attr hs = .ok ↔ ∀ x ∈ hs, x.1 = attr → x.2 = .ok := by
  induction hs with
  | nil => exact ⟨nofun, fun _ => rfl⟩
  | cons x r ih =>
    obtain ⟨o, h⟩ := x
    rw [List.forall_mem_cons, ← ih, hdrsGo]
    split
    · next ho => rw [Res.and_eq_ok]; exact and_congr_left' ⟨fun h _ => h, fun h => h ho⟩
    · next ho => exact (and_iff_right fun h => absurd h ho).symm

/-- the loop rules, declaratively, on the forest of @outer/@inner loops of a kernel -/
def LoopsSpec (f : LF) : Prop :=
  (∃ x ∈ loopHdrs f, x.1 = true) ∧ (∃ x ∈ loopHdrs f, x.1 = false) ∧
  (∀ x ∈ loopHdrs f, x.2 = .ok) ∧ NestingSpec f

theorem loopsOk_iff (body : Tree) : loopsOk body = .ok ↔ LoopsSpec (forest body) := by
  have guard : ∀ (b : Bool) (r : Res), (if b = false then .bad else r) = Res.ok ↔ b = true ∧ r = .ok := by
    intro b r; cases b <;> simp
  -- the two header passes (all @outer loops, then all @inner loops) together look at every loop
  have both : ∀ hs : List (Bool × Res),
      ((∀ x ∈ hs, x.1 = true → x.2 = .ok) ∧ ∀ x ∈ hs, x.1 = false → x.2 = .ok) ↔ ∀ x ∈ hs, x.2 = .ok :=
    fun hs => ⟨fun h x hx => (Bool.eq_false_or_eq_true x.1).elim (h.1 x hx) (h.2 x hx),
      fun h => ⟨fun x hx _ => h x hx, fun x hx _ => h x hx⟩⟩
  simp only [loopsOk, LoopsSpec, guard, Res.and_eq_ok, hdrsGo_iff, Res.ofBool_eq_ok, countsGo_innerMost,
    List.any_eq_true, Bool.not_eq_true', ← and_assoc, both]

/-- `kernelIsValid`: the four checks, in order -/
theorem rulesOk_iff (k : Kernel) : rulesOk k = true ↔ k.retVoid = true ∧ loopsOk k.body = .ok ∧
    declsOk false false k.body = true ∧ breaksOk [] k.body = true := by
  simp only [rulesOk, rulesRes, beq_iff_eq, Res.and_eq_ok, Res.ofBool_eq_ok]

theorem Res.and_ne_trap {a : Res} {b : Unit → Res} (ha : a ≠ .trap) (hb : b () ≠ .trap) : a.and b ≠ .trap := by
  cases a
  · exact hb
  · exact ha
  · exact ha

theorem Res.ofBool_ne_trap (b : Bool) : Res.ofBool b ≠ .trap := by
  cases b <;> simp [Res.ofBool]

theorem Hdr.verdict_ne_trap (h : Hdr) : h.verdict ≠ .trap := by
  unfold Hdr.verdict
  split
  · nofun
  split
  · nofun
  split
  · nofun
  · nofun
  · split <;> nofun

theorem Kind.loopVerdict_ne_trap (k : Kind) : k.loopVerdict ≠ .trap := by
  unfold Kind.loopVerdict
  split
  · nofun
  · exact Hdr.verdict_ne_trap _
  · nofun

theorem loopHdrs_append (a b : LF) : loopHdrs (a.append b) = loopHdrs a ++ loopHdrs b := by
  induction a with
  | nil => rfl
  | node o h k n _ ihn => simp only [LF.append, loopHdrs, ihn, List.cons_append, List.append_assoc]

theorem loopHdrs_forest_ne_trap (t : Tree) : ∀ x ∈ loopHdrs (forest t), x.2 ≠ .trap := by
  induction t with
  | nil => nofun
  | node n kids next ihk ihn =>
    intro x hx
    rw [forest] at hx
    split at hx
    · simp only [loopHdrs, List.mem_cons, List.mem_append] at hx
      exact hx.elim (fun e => e ▸ n.kind.loopVerdict_ne_trap) fun hx => hx.elim (ihk x) (ihn x)
    · rw [loopHdrs_append, List.mem_append] at hx
      exact hx.elim (ihk x) (ihn x)

theorem hdrsGo_ne_trap (attr : Bool) (hs : List (Bool × Res)) (h : ∀ x ∈ hs, x.2 ≠ .trap) :
    hdrsGo attr hs ≠ .trap := by
  induction hs with
  | nil => nofun
  | cons x r ih =>
    have ih := ih fun y hy => h y (List.mem_cons_of_mem _ hy)
    rw [hdrsGo]
    split
    · exact Res.and_ne_trap (h x List.mem_cons_self) ih
    · exact ih

theorem loopsOk_ne_trap (body : Tree) : loopsOk body ≠ .trap := by
  have hf := loopHdrs_forest_ne_trap body
  simp only [loopsOk]
  split
  · nofun
  split
  · nofun
  · exact Res.and_ne_trap (hdrsGo_ne_trap true _ hf)
      (Res.and_ne_trap (hdrsGo_ne_trap false _ hf) (Res.ofBool_ne_trap _))

end Occa.Okl
