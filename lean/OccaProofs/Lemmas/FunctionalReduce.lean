/-
The block-wise reduction of C23 equals the sequential fold: the algebra (`Absorbs op a`: a start value the running
result absorbs; one theorem), the index blocks of the CPU kernel, and what `indexOf`, a min-reduction, computes.  At the
end `tupleOf`, the predicate in which the forLoop clause of C23 is stated.
-/
import OccaProofs.Lemmas.FunctionalLoops

namespace Occa.Functional
open Occa Occa.Gen

/-- Every block of the reduction is folded from the same start value `a`.  That is harmless as long as the running
    result absorbs `a` (`x · a = x`) and keeps doing so: `a` an identity (`of_identity`), or `op` commutative and
    idempotent (min, max, and, or) with any `a` (`of_semilattice`). -/
structure Absorbs {β : Type} (op : β → β → β) (a : β) : Prop where
  assoc : ∀ x y z, op (op x y) z = op x (op y z)
  self : op a a = a
  keep : ∀ x y, op x a = x → op (op x y) a = op x y

namespace Absorbs
variable {β : Type} {op : β → β → β} {a : β}

theorem of_identity (assoc : ∀ x y z, op (op x y) z = op x (op y z)) (idl : ∀ x, op a x = x) (idr : ∀ x, op x a = x) :
    Absorbs op a :=
  ⟨assoc, idl a, fun _ _ _ => idr _⟩

theorem of_semilattice (assoc : ∀ x y z, op (op x y) z = op x (op y z)) (comm : ∀ x y, op x y = op y x)
    (idem : ∀ x, op x x = x) (a : β) : Absorbs op a :=
  ⟨assoc, idem a, fun x y h => by rw [assoc, comm y, ← assoc, h]⟩

theorem foldl (h : Absorbs op a) (xs : List β) : ∀ acc : β, op acc a = acc → op (xs.foldl op acc) a = xs.foldl op acc := by
  induction xs with
  | nil => exact fun _ e => e
  | cons y xs ih => exact fun acc e => ih _ (h.keep acc y e)

end Absorbs

/-- No commutativity is needed: the blocks are combined in order. -/
theorem reduceBlocks_of_absorbs {β : Type} {op : β → β → β} {a : β} (h : Absorbs op a) (blocks : List (List β)) :
    reduceBlocks op op a blocks = blocks.flatten.foldl op a := by
  have : Std.Associative op := ⟨h.assoc⟩
  have step : ∀ (bs : List (List β)) (acc : β), op acc a = acc →
      (bs.map (fun b => b.foldl op a)).foldl op acc = bs.flatten.foldl op acc := by
    intro bs
    induction bs with
    | nil => exact fun _ _ => rfl
    | cons b bs ih =>
      intro acc e
      rw [List.map_cons, List.foldl_cons, List.flatten_cons, List.foldl_append, ← List.foldl_assoc (op := op), e]
      exact ih _ (h.foldl b acc e)
  cases blocks with
  | nil => rfl
  | cons b bs =>
    rw [List.flatten_cons, List.foldl_append]
    exact step bs _ (h.foldl b a h.self)

theorem reduceBlocks_map {α β : Type} (g : α → β) (op : β → β → β) (init : β) (blocks : List (List α)) :
    reduceBlocks (fun acc x => op acc (g x)) op init blocks = reduceBlocks op op init (blocks.map (List.map g)) := by
  unfold reduceBlocks
  rw [List.map_map]
  congr 2
  funext b
  exact List.foldl_map.symm

/-- the index blocks of the Serial/OpenMP reduction kernel -/
def cpuBlocks (len : Int) : List (List Int) :=
  (List.range cpuReduceBlocks.toNat).map fun (k : Nat) => forVals (cpuStartIndex len k) (cpuEndIndex len k) 1

theorem cpuReduce_eq_reduceBlocks (len init : Int) (f comb : Int → Int → Int) :
    cpuReduce len init f comb = reduceBlocks f comb init (cpuBlocks len) := by
  unfold cpuReduce reduceBlocks cpuBlocks cpuPartial
  rw [List.map_map]
  rfl

/-- `forVals_blocks` for the unit loop with `cpuBlockSize len` iterations to a block -/
theorem cpuBlocks_flatten (len : Int) (hl : 0 ≤ len) : (cpuBlocks len).flatten = forVals 0 len 1 := by
  have hB : 0 < cpuReduceBlocks := by decide
  -- the block size is `len / cpuReduceBlocks` rounded up, so that many blocks reach `len`
  have hb : cpuBlockSize len = (Loop.ceilN len cpuReduceBlocks : Int) := Loop.tdiv_eq_ceilN len _ hB hl
  unfold cpuBlocks cpuStartIndex cpuEndIndex cpuUnsafeEndIndex cpuStartIndex
  simp only [decide_eq_true_eq, ite_lt_eq_min, ← List.flatMap_def, hb]
  simpa only [Int.zero_add] using forVals_blocks 1 len _ _ (by decide) (Int.natCast_nonneg _) (Int.mul_one _).symm 0
    cpuReduceBlocks.toNat (by
      rw [Loop.ceilN_one, Int.sub_zero, Int.toNat_natCast, Int.toNat_le, Int.natCast_mul,
        Int.toNat_of_nonneg (Int.le_of_lt hB)]
      exact (Loop.ceilN_le_iff hB _).mp (Nat.le_refl _))

theorem cpuReduce_of_absorbs {op : Int → Int → Int} {a : Int} (h : Absorbs op a) (g : Int → Int) (len : Int)
    (hl : 0 ≤ len) : cpuReduce len a (fun acc i => op acc (g i)) op = ((forVals 0 len 1).map g).foldl op a := by
  rw [cpuReduce_eq_reduceBlocks, reduceBlocks_map, reduceBlocks_of_absorbs h, ← List.map_flatten, cpuBlocks_flatten len hl]

theorem map_getD_forVals (xs : List Int) :
    (forVals 0 (xs.length : Int) 1).map (fun i => xs.getD i.toNat 0) = xs := by
  rw [forVals_natCast, List.map_map]
  apply List.ext_getElem
  · rw [List.length_map, List.length_range]
  · intro i h1 h2
    rw [List.getElem_map, List.getElem_range, Function.comp_apply, Int.toNat_natCast, List.getD_eq_getElem?_getD,
      List.getElem?_eq_getElem h2]
    rfl

theorem cpuReduce_list {op : Int → Int → Int} {a : Int} (h : Absorbs op a) (xs : List Int) :
    cpuReduce xs.length a (fun acc i => op acc (xs.getD i.toNat 0)) op = xs.foldl op a := by
  rw [cpuReduce_of_absorbs h _ _ (Int.natCast_nonneg _), map_getD_forVals]

theorem minI_eq : minI = min := funext fun a => funext (ite_lt_eq_min a)
theorem maxI_eq : maxI = max := funext fun a => funext fun b => (ite_lt_eq_max b a).trans (Int.max_comm b a)

theorem absorbs_minI (a : Int) : Absorbs minI a := minI_eq ▸ .of_semilattice Int.min_assoc Int.min_comm Int.min_self a
theorem absorbs_maxI (a : Int) : Absorbs maxI a := maxI_eq ▸ .of_semilattice Int.max_assoc Int.max_comm Int.max_self a

theorem cpuReduce_filter {op : Int → Int → Int} {a : Int} (h : Absorbs op a) (p : Int → Bool) (len : Int) (hl : 0 ≤ len) :
    cpuReduce len a (fun acc i => if p i then op acc i else acc) op = ((forVals 0 len 1).filter p).foldl op a := by
  rw [cpuReduce_eq_reduceBlocks, ← cpuBlocks_flatten len hl, List.filter_flatten, ← reduceBlocks_of_absorbs h, reduceBlocks,
    reduceBlocks, List.map_map]
  simp only [Function.comp_def, List.foldl_filter]

theorem min_first (p : Nat → Bool) (n : Nat) (m : Int)
    (hm : ((n : Int) :: ((List.range n).filter p).map Nat.cast).min? = some m) :
    (m = n ∧ ∀ i < n, ¬ p i) ∨ ∃ k : Nat, m = k ∧ k < n ∧ p k ∧ ∀ i < k, ¬ p i := by
  obtain ⟨hmem, hle⟩ := List.min?_eq_some_iff.mp hm
  have hg : ∀ i < n, p i → m ≤ i := fun i hi hp =>
    hle _ (List.mem_cons_of_mem _ (List.mem_map.mpr ⟨i, List.mem_filter.mpr ⟨List.mem_range.mpr hi, hp⟩, rfl⟩))
  rcases List.mem_cons.mp hmem with e | e
  · exact Or.inl ⟨e, fun i hi hp => by have := hg i hi hp; omega⟩
  · obtain ⟨k, hk, rfl⟩ := List.mem_map.mp e
    obtain ⟨hk, hp⟩ := List.mem_filter.mp hk
    have hk := List.mem_range.mp hk
    exact Or.inr ⟨k, rfl, hk, hp, fun i hi hpi => by have := hg i (by omega) hpi; omega⟩

/-- `indexOf` is a min-reduction in disguise: its step `foundIndex <= index ? foundIndex : index` at a match is
    `min foundIndex index`, and it leaves `foundIndex` alone elsewhere.  So the result is the least of the start value
    `length` and the matching indices: the first match, or `length`. -/
theorem indexOfArr_min (xs : List Int) (t : Int) :
    ∃ m : Int, indexOfArr xs t = .ok (if m < xs.length then m else -1) ∧
      ((m = xs.length ∧ ∀ i < xs.length, ¬ xs.getD i 0 = t) ∨
        ∃ k : Nat, m = k ∧ k < xs.length ∧ xs.getD k 0 = t ∧ ∀ i < k, ¬ xs.getD i 0 = t) := by
  have hstep : (fun acc i : Int => if (xs.getD i.toNat 0 != t || decide (acc ≤ i)) = true then acc else i) =
      fun acc i => if xs.getD i.toNat 0 == t then minI acc i else acc := by
    funext acc i
    rw [minI_eq]
    by_cases hx : xs.getD i.toNat 0 = t
    · simp only [hx, bne_self_eq_false, Bool.false_or, decide_eq_true_eq, beq_self_eq_true, if_true]
      omega
    · rw [if_pos (by rw [bne_iff_ne.mpr hx]; rfl), if_neg (by rw [beq_eq_false_iff_ne.mpr hx]; decide)]
  have hred : reduceGen xs.length 7 true (xs.length : Int) (xs.getD 0 0)
        (fun acc i => if (xs.getD i.toNat 0 != t || decide (acc ≤ i)) = true then acc else i) minI =
      .ok (((forVals 0 (xs.length : Int) 1).filter fun i => xs.getD i.toNat 0 == t).foldl minI (xs.length : Int)) := by
    unfold reduceGen
    by_cases h0 : (emptyGuard && xs.length == 0) = true
    · have hl : xs.length = 0 := (Bool.and_eq_true _ _ ▸ h0).2 |> beq_iff_eq.mp
      rw [if_pos h0, hl]
      rfl
    · rw [if_neg h0, hstep]
      simp only [if_true]
      rw [cpuReduce_filter (absorbs_minI _) _ _ (by omega)]
  have h := min_first (fun i => xs.getD i 0 == t) xs.length
  simp only [beq_iff_eq] at h
  refine ⟨_, by unfold indexOfArr; simp only; rw [hred], h _ ?_⟩
  rw [minI_eq, forVals_natCast, List.filter_map]
  exact List.min?_cons'

/-- `t` takes its `k`-th component from the `k`-th list -/
def tupleOf : List Int → List (List Int) → Prop
  | [], [] => True
  | x :: t, d :: ds => x ∈ d ∧ tupleOf t ds
  | _, _ => False

end Occa.Functional
