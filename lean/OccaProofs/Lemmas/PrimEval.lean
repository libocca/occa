/-
The main induction of C14: the model of occa's evaluator agrees with the C++ semantics on every
well-typed expression under the guard `cleanF`.  The guard leaves out the three known deviations and, as a
limit of the proof and not a deviation, `&&` / `||` with a floating operand and one of another type (on
`1.5 && 2` both sides give `true`).  With floating literals the agreement is symbolic: both sides build the
same term over the (uninterpreted) IEEE operations.
Then a static-typing argument about `typeOf` alone: an expression without floating literals has no floating
type, so for it `clean` is `cleanF` (`cleanF_of_integral`), and the integer theorem is a case of the general one.
-/
import OccaProofs.Lemmas.PrimOps
import OccaProofs.Lemmas.PrimFloatLit
namespace Occa.Prim.Lemmas
open Occa Occa.CExpr Occa.CxxSem Occa.Gen Occa.Prim

theorem Res.bind_val {r : Res} {f : Val → Res} {v : Val} (h : r.bind f = .val v) : ∃ a, r = .val a ∧ f a = .val v := by
  cases r <;> simp [Res.bind] at h
  exact ⟨_, rfl, h⟩

theorem shortCircuit_on : shortCircuit = true := by decide

theorem binType_logic_rel {op : BinOp} (h : op = .land ∨ op = .lor) (a b : Ty) : binType op a b = some .bool := by
  rcases h with rfl | rfl <;> rfl

theorem typeOf_un {op : UnOp} {e : Expr} {τ : Ty} :
    typeOf (.un op e) = some τ ↔ ∃ a, typeOf e = some a ∧ unType op a = some τ :=
  Option.bind_eq_some_iff

theorem typeOf_bin {op : BinOp} {l r : Expr} {τ : Ty} :
    typeOf (.bin op l r) = some τ ↔ ∃ a, typeOf l = some a ∧ ∃ b, typeOf r = some b ∧ binType op a b = some τ := by
  simp only [typeOf, Option.bind_eq_some_iff]

theorem typeOf_tern {c t f : Expr} {τ : Ty} :
    typeOf (.tern c t f) = some τ ↔
      ∃ k, typeOf c = some k ∧ ∃ a, typeOf t = some a ∧ ∃ b, typeOf f = some b ∧ condType a b = τ := by
  simp only [typeOf, Option.bind_eq_some_iff, Option.some.injEq]

theorem eval_bin {op : BinOp} (h : ¬ (op = .land ∨ op = .lor)) (l r : Expr) :
    CxxSem.eval (.bin op l r) = (CxxSem.eval l).bind fun a => (CxxSem.eval r).bind fun b => binop op a b := by
  cases op <;> simp_all [CxxSem.eval]

theorem eval_bin_model {op : BinOp} (h : ¬ (op = .land ∨ op = .lor)) {l r : Expr} {pl : Prim}
    (hl : Prim.eval l = .ok pl) : Prim.eval (.bin op l r) = (Prim.eval r).bind (binary op pl) := by
  simp [Prim.eval, hl, Outcome.bind, h]

theorem eval_logic {op : BinOp} (h : op = .land ∨ op = .lor) (l r : Expr) :
    CxxSem.eval (.bin op l r) = (CxxSem.eval l).bind fun a =>
      if truth a = (op == .land) then (CxxSem.eval r).bind fun b => .val (ofBool (truth b))
      else .val (ofBool (truth a)) := by
  rcases h with rfl | rfl <;> simp only [CxxSem.eval] <;> congr 1 <;> funext a <;> cases truth a <;> rfl

theorem eval_logic_model {op : BinOp} (h : op = .land ∨ op = .lor) {l r : Expr} {p : Prim} {b : Bool}
    (hl : Prim.eval l = .ok p) (hb : toBool p = .ok b) :
    Prim.eval (.bin op l r) =
      if b = (op == .land) then (Prim.eval r).bind (binary op p) else .ok (Prim.ofVal (ofBool b)) := by
  have hs : p.ty.isSome = true := by
    cases hp : p.ty with
    | none => simp [toBool, toT, hp, Outcome.bind] at hb
    | some t => rfl
  simp only [Prim.eval, hl, Outcome.bind, shortCircuit_on, hs, hb]
  rcases h with rfl | rfl <;> cases b <;> simp

theorem eval_tern_model {c t f : Expr} {p : Prim} {b : Bool} (hc : Prim.eval c = .ok p) (hb : toBool p = .ok b) :
    Prim.eval (.tern c t f) = if b then Prim.eval t else Prim.eval f := by
  simp only [Prim.eval, hc, Outcome.bind, hb]

theorem cleanF_un {op : UnOp} {e : Expr} (h : cleanF (.un op e) = true) :
    cleanF e = true ∧ ¬ (op = .bnot ∧ typeOf e = some .bool) := by
  simp only [cleanF, Bool.and_eq_true, Bool.not_eq_true', Bool.and_eq_false_iff, decide_eq_false_iff_not] at h
  exact ⟨h.1, fun ⟨h1, h2⟩ => h.2.elim (· h1) (· h2)⟩

theorem cleanF_bin {op : BinOp} {l r : Expr} (h : cleanF (.bin op l r) = true) :
    cleanF l = true ∧ cleanF r = true ∧
    ¬ (BinOp.isBit op = true ∧ typeOf l = some .bool ∧ typeOf r = some .bool) ∧
    ((op = .land ∨ op = .lor) → logicOk (typeOf l) (typeOf r) = true) := by
  have hb : BinOp.isBit op = (decide (op = .band) || decide (op = .bxor) || decide (op = .bor)) := by
    cases op <;> rfl
  rw [hb]
  simp only [cleanF, Bool.and_eq_true, Bool.not_eq_true', Bool.or_eq_true, decide_eq_true_eq,
    Bool.and_eq_false_iff, Bool.or_eq_false_iff, decide_eq_false_iff_not] at h ⊢
  obtain ⟨⟨⟨hl, hr⟩, hbit⟩, hlog⟩ := h
  refine ⟨hl, hr, fun ⟨h1, h2, h3⟩ => ?_, fun hop => hlog.resolve_left fun ⟨n1, n2⟩ => hop.elim n1 n2⟩
  rcases hbit with (hbit | hbit) | hbit
  · rcases h1 with (h1 | h1) | h1
    · exact hbit.1.1 h1
    · exact hbit.1.2 h1
    · exact hbit.2 h1
  · exact hbit h2
  · exact hbit h3

theorem cleanF_tern {c t f : Expr} (h : cleanF (.tern c t f) = true) :
    cleanF c = true ∧ cleanF t = true ∧ cleanF f = true ∧ typeOf t = typeOf f := by
  simpa [cleanF, and_assoc] using h

/-- what the induction carries: where the guard holds, the C++ type is `τ` and the C++ value is `v`,
    the model yields `v`, and `v` is a well-formed value of type `τ` -/
def Agree (e : Expr) : Prop :=
  cleanF e = true → ∀ τ, typeOf e = some τ → ∀ v, CxxSem.eval e = .val v →
    Prim.eval e = .ok (Prim.ofVal v) ∧ GoodF v ∧ v.ty = τ

theorem agree_lit (l : Lit) : Agree (.lit l) := by
  intro _ τ ht v h
  change litVal l = .val v at h
  have hty : v.ty = τ := by simpa [typeOf, litType, h] using ht
  have : loadTok l.text = Prim.ofVal v ∧ GoodF v := by
    cases l with
    | float fl => exact (floatlit_agree fl v h).imp_right Or.inr
    | _ => exact (lit_agree rfl h).imp_right Or.inl
  exact ⟨congrArg Outcome.ok this.1, this.2, hty⟩

theorem agree_un {op : UnOp} {e : Expr} (ih : Agree e) : Agree (.un op e) := by
  intro hc τ ht v h
  obtain ⟨hc, hb⟩ := cleanF_un hc
  obtain ⟨te, hte, hτ⟩ := typeOf_un.mp ht
  obtain ⟨a, ha, hv⟩ := Res.bind_val (r := CxxSem.eval e) h
  obtain ⟨i1, i2, i3⟩ := ih hc te hte a ha
  obtain ⟨g, ty⟩ := unop_spec i2 hv
  rw [i3, hτ] at ty
  refine ⟨?_, g, (Option.some.inj ty).symm⟩
  show (Prim.eval e).bind (unary op) = _
  rw [i1]
  exact unary_agree (i3 ▸ hτ) (fun ⟨e1, e2⟩ => hb ⟨e1, by rw [hte, ← i3, e2]⟩) hv

theorem agree_logic {op : BinOp} (hop : op = .land ∨ op = .lor) {l r : Expr} (ihl : Agree l) (ihr : Agree r) :
    Agree (.bin op l r) := by
  intro hc τ ht v h
  obtain ⟨hcl, hcr, _, hlogic⟩ := cleanF_bin hc
  obtain ⟨tl, htl, tr, htr, hτ⟩ := typeOf_bin.mp ht
  rw [eval_logic hop] at h
  obtain ⟨a, ha, hv⟩ := Res.bind_val h
  obtain ⟨i1, i2, i3⟩ := ihl hcl tl htl a ha
  rw [binType_logic_rel hop] at hτ
  cases hτ
  rw [eval_logic_model hop i1 (toBool_ofVal a)]
  split at hv
  · rename_i hta
    obtain ⟨b, hb, hv⟩ := Res.bind_val hv
    obtain ⟨j1, j2, j3⟩ := ihr hcr tr htr b hb
    cases hv
    refine ⟨?_, Or.inl (good_ofBool _), rfl⟩
    have hok := hlogic hop
    rw [htl, htr, ← i3, ← j3] at hok
    rw [if_pos hta, j1]
    exact binary_logic hop i2 j2 hok (binop_logic_right hop hta b)
  · rename_i hta
    cases hv
    exact ⟨if_neg hta, Or.inl (good_ofBool _), rfl⟩

theorem agree_arith {op : BinOp} (hop : ¬ (op = .land ∨ op = .lor)) {l r : Expr} (ihl : Agree l) (ihr : Agree r) :
    Agree (.bin op l r) := by
  intro hc τ ht v h
  obtain ⟨hcl, hcr, hbit, _⟩ := cleanF_bin hc
  obtain ⟨tl, htl, tr, htr, hτ⟩ := typeOf_bin.mp ht
  rw [eval_bin hop] at h
  obtain ⟨a, ha, hv⟩ := Res.bind_val h
  obtain ⟨b, hb, hv⟩ := Res.bind_val hv
  obtain ⟨i1, i2, i3⟩ := ihl hcl tl htl a ha
  obtain ⟨j1, j2, j3⟩ := ihr hcr tr htr b hb
  obtain ⟨g, ty⟩ := binop_spec i2 j2 hv
  rw [i3, j3, hτ] at ty
  refine ⟨?_, g, (Option.some.inj ty).symm⟩
  rw [eval_bin_model hop i1, j1]
  show binary op (Prim.ofVal a) (Prim.ofVal b) = _
  by_cases hconv : BinOp.isConv op = true
  · exact binary_conv hconv i2 j2 (fun ⟨e1, e2, e3⟩ => hbit ⟨e1, by rw [htl, ← i3, e2], by rw [htr, ← j3, e3]⟩) hv
  · exact binary_shift ((BinOp.not_conv hconv).resolve_right hop) i2 hv

theorem agree_tern {c t f : Expr} (ihc : Agree c) (iht : Agree t) (ihf : Agree f) : Agree (.tern c t f) := by
  intro hc τ ht v h
  obtain ⟨hcc, hct, hcf, hsame⟩ := cleanF_tern hc
  obtain ⟨tc, htc, ta, hta, tb, htb, hτ⟩ := typeOf_tern.mp ht
  obtain ⟨a, ha, hv⟩ := Res.bind_val (r := CxxSem.eval c) h
  obtain ⟨i1, _, _⟩ := ihc hcc tc htc a ha
  rw [hta, htb, Option.some.injEq] at hsame
  subst hsame
  simp only [hta, htb, condType, if_true] at hv hτ
  subst hτ
  -- the selected operand already has the result type: the conversion of `?:` does nothing
  have key : ∀ s, Agree s → cleanF s = true → typeOf s = some ta →
      ((CxxSem.eval s).bind fun x => .val (cvt ta x)) = .val v →
      Prim.eval s = .ok (Prim.ofVal v) ∧ GoodF v ∧ v.ty = ta := by
    intro s ih hcs hts hs
    obtain ⟨x, hx, hs⟩ := Res.bind_val hs
    obtain ⟨j1, j2, j3⟩ := ih hcs ta hts x hx
    cases hs
    rw [← j3, cvt_self j2]
    exact ⟨j1, j2, rfl⟩
  rw [eval_tern_model i1 (toBool_ofVal a)]
  cases htr : truth a <;> simp only [htr, if_true, Bool.false_eq_true, if_false] at hv ⊢
  · exact key f ihf hcf htb hv
  · exact key t iht hct hta hv

theorem eval_agree (e : Expr) : Agree e := by
  induction e with
  | lit l => exact agree_lit l
  | paren e ih => exact ih
  | un op e ih => exact agree_un ih
  | bin op l r ihl ihr =>
    by_cases hop : op = .land ∨ op = .lor
    · exact agree_logic hop ihl ihr
    · exact agree_arith hop ihl ihr
  | tern c t f ihc iht ihf => exact agree_tern ihc iht ihf

theorem evalTop_agree {e : Expr} {v : Val} (hc : cleanF e = true) (h : evalTop e = .val v) :
    Prim.eval e = .ok (Prim.ofVal v) := by
  unfold evalTop at h
  split at h
  · cases h
  · split at h
    · cases h
    · exact (eval_agree e hc _ ‹_› v h).1

theorem unType_notFloat : ∀ (op : UnOp) (t : Ty), t.isFloat = false → ∀ τ ∈ unType op t, τ.isFloat = false := by
  decide +kernel

theorem binType_notFloat {op : BinOp} {a b τ : Ty} (ha : a.isFloat = false) (hb : b.isFloat = false)
    (h : binType op a b = some τ) : τ.isFloat = false := by
  by_cases hc : BinOp.isConv op = true
  · rw [binType_conv hc, common_notFloat ha hb] at h
    split at h <;> cases h
    · rfl
    · exact common_notFloat ha hb
  · rcases BinOp.not_conv hc with hop | hop
    · have : binType op a b = some a.promote := by rcases hop with rfl | rfl <;> simp [binType, ha, hb]
      cases this.symm.trans h
      exact (promote_isFloat a).trans ha
    · cases (binType_logic_rel hop a b).symm.trans h
      rfl

theorem integral_notFloat (e : Expr) : integral e = true → ∀ τ, typeOf e = some τ → τ.isFloat = false := by
  induction e with
  | lit l =>
    intro hi τ ht
    simp only [typeOf, litType] at ht
    split at ht
    · cases ht; exact (lit_agree hi ‹_›).2.1.notFloat
    · cases ht
  | paren e ih => exact ih
  | un op e ih =>
    intro hi τ ht
    obtain ⟨te, hte, hτ⟩ := typeOf_un.mp ht
    exact unType_notFloat op te (ih hi te hte) τ hτ
  | bin op l r ihl ihr =>
    intro hi τ ht
    simp only [integral, Bool.and_eq_true] at hi
    obtain ⟨tl, htl, tr, htr, hτ⟩ := typeOf_bin.mp ht
    exact binType_notFloat (ihl hi.1 tl htl) (ihr hi.2 tr htr) hτ
  | tern c t f _ iht ihf =>
    intro hi τ ht
    simp only [integral, Bool.and_eq_true] at hi
    obtain ⟨_, _, ta, hta, tb, htb, rfl⟩ := typeOf_tern.mp ht
    unfold condType
    split
    · exact iht hi.1.2 ta hta
    · exact common_notFloat (iht hi.1.2 ta hta) (ihf hi.2 tb htb)

theorem cleanF_of_integral (e : Expr) : integral e = true → clean e = true → cleanF e = true := by
  induction e with
  | lit l => intro _ _; rfl
  | paren e ih => exact ih
  | un op e ih =>
    intro hi hc
    simp only [clean, cleanF, Bool.and_eq_true] at hc ⊢
    exact ⟨ih hi hc.1, hc.2⟩
  | bin op l r ihl ihr =>
    intro hi hc
    simp only [integral, clean, cleanF, Bool.and_eq_true] at hi hc ⊢
    refine ⟨⟨⟨ihl hi.1 hc.1.1, ihr hi.2 hc.1.2⟩, hc.2⟩, ?_⟩
    have h1 := integral_notFloat l hi.1
    have h2 := integral_notFloat r hi.2
    cases hl : typeOf l with
    | none => simp [logicOk]
    | some x =>
      cases hr : typeOf r with
      | none => simp [logicOk]
      | some y => simp [logicOk, h1 x hl, h2 y hr]
  | tern c t f ihc iht ihf =>
    intro hi hc
    simp only [integral, clean, cleanF, Bool.and_eq_true] at hi hc ⊢
    exact ⟨⟨⟨ihc hi.1.1 hc.1.1.1, iht hi.1.2 hc.1.1.2⟩, ihf hi.2 hc.1.2⟩, hc.2⟩

end Occa.Prim.Lemmas
