/-
Path strings and key lists: splitting a '/'-joined list of plain keys gives the keys back.
-/
import OccaModel.JsonPath
import OccaProofs.Lemmas.JsonStr

namespace Occa.Json

/-- a key that can be written inside a path: non-empty, no '/', no '\', no NUL -/
def PlainKey (k : Bytes) : Prop := k ≠ [] ∧ ∀ c ∈ k, c ≠ cSlash ∧ c ≠ cBackslash ∧ c ≠ 0

def joinPath : List Bytes → Bytes
  | [] => []
  | [k] => k
  | k :: k2 :: ks => k ++ cSlash :: joinPath (k2 :: ks)

theorem takeSegE_plain (k r acc : Bytes) (hk : ∀ c ∈ k, c ≠ cSlash ∧ c ≠ cBackslash ∧ c ≠ 0) :
    takeSegE false (k ++ r) acc = takeSegE false r (acc ++ k) := by
  induction k generalizing acc with
  | nil => simp
  | cons c t ih =>
    obtain ⟨hc, ht⟩ := List.forall_mem_cons.mp hk
    simp only [List.cons_append, takeSegE, hc.1, hc.2.1, if_false]
    rw [ih _ ht]
    simp

theorem PlainKey.noNul {k : Bytes} (h : PlainKey k) : NoNulB k := fun c hc => (h.2 c hc).2.2

theorem noNul_joinPath : ∀ (ks : List Bytes), (∀ k ∈ ks, PlainKey k) → NoNulB (joinPath ks)
  | [], _ => nofun
  | [k], h => (h k (by simp)).noNul
  | k :: k2 :: ks, h =>
    noNulB_append (h k (by simp)).noNul
      (noNulB_cons (by decide) (noNul_joinPath (k2 :: ks) fun x hx => h x (by simp [hx])))

theorem joinPath_ne_nil (k : Bytes) (ks : List Bytes) (h : PlainKey k) : joinPath (k :: ks) ≠ [] := by
  cases ks with
  | nil => exact h.1
  | cons k2 t => simp [joinPath]

theorem splitPathF_nil (n : Nat) : splitPathF n [] = [] := by
  cases n <;> rfl

/-- the text after the first key of a path string: nothing, or a slash and the remaining keys; the loop takes the
    key and continues at the remaining keys -/
theorem joinPath_cons (k : Bytes) (rest : List Bytes) :
    ∃ t, joinPath (k :: rest) = k ++ t ∧ takeSegE false t k = (k, t)
      ∧ (if peek t = cSlash then t.drop 1 else t) = joinPath rest ∧ (joinPath rest).length ≤ t.length := by
  cases rest with
  | nil => exact ⟨[], (List.append_nil k).symm, rfl, rfl, Nat.le_refl _⟩
  | cons k2 r => exact ⟨cSlash :: joinPath (k2 :: r), rfl, rfl, rfl, Nat.le_succ _⟩

theorem splitPathF_join : ∀ (ks : List Bytes) (n : Nat), (∀ k ∈ ks, PlainKey k) → (joinPath ks).length < n →
    splitPathF n (joinPath ks) = ks
  | [], n, _, _ => splitPathF_nil n
  | k :: rest, n + 1, h, hn => by
    obtain ⟨hk, hrest⟩ := List.forall_mem_cons.mp h
    obtain ⟨t, ht, hseg, hnext, hle⟩ := joinPath_cons k rest
    have hlen : (joinPath rest).length < n := by
      have := List.length_pos_iff.mpr hk.1
      rw [ht, List.length_append] at hn
      omega
    have hs : takeSeg (k ++ t) [] = (k, t) := (takeSegE_plain k t [] hk.2).trans hseg
    cases hkt : k ++ t with
    | nil => exact absurd (List.append_eq_nil_iff.mp hkt).1 hk.1
    | cons c s =>
      rw [ht, hkt]
      simp only [splitPathF]
      rw [← hkt, hs, hnext, splitPathF_join rest n hrest hlen]

theorem splitPath_join (ks : List Bytes) (h : ∀ k ∈ ks, PlainKey k) : splitPath (joinPath ks) = ks := by
  unfold splitPath
  rw [cstr_noNul _ (noNul_joinPath ks h)]
  exact splitPathF_join ks _ h (by omega)

end Occa.Json
