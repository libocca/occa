/-
List-level facts about `Ring.add` / `Ring.remove` (the list view of ring_t::addRef/removeRef)
and about `upd`.  Everything the handle-layer proofs need about rings goes through these.  Then
`if c then [] else l`, the form a ring has after a destruction (`Killed.ring`), an allocation (`NewObj`) or a reset;
membership in it, and `if c then none else a` for a pointer field, are core's `List.mem_ite_nil_left` and
`Option.ite_none_left_eq_some`.  At the end, the device's `kernelRing` / `memoryRing` /
`streamRing` as one family indexed by `slot`: what `chGet` reads after a `chSet` (`chGet_chSet`, `mem_chSet_add`,
`mem_chSet_remove`), the counterpart of `mem_upd_add` / `mem_upd_remove`.
-/
import OccaModel.Gc

namespace Occa.Gc

section upd
variable {α β : Type} [DecidableEq α]

@[simp] theorem upd_same (f : α → β) (a : α) (b : β) : upd f a b a = b := by simp [upd]
theorem upd_other (f : α → β) {a x : α} (b : β) (h : x ≠ a) : upd f a b x = f x := by simp [upd, h]
theorem upd_apply (f : α → β) (a x : α) (b : β) : upd f a b x = if x = a then b else f x := rfl

theorem upd_upd (f : α → β) (a : α) (b c : β) : upd (upd f a b) a c = upd f a c := by
  funext x; by_cases h : x = a <;> simp [upd, h]

theorem upd_self (f : α → β) (a : α) : upd f a (f a) = f := by
  funext x; by_cases h : x = a <;> simp [upd, h]

end upd

section ring
variable {α : Type} [DecidableEq α]

theorem Ring.remove_perm_erase (l : List α) (e : α) : (Ring.remove l e).Perm (l.erase e) := by
  cases l with
  | nil => simp [Ring.remove]
  | cons h t =>
    by_cases he : h = e
    · subst he
      simp only [Ring.remove, if_true, List.erase_cons_head]
      cases hl : t.getLast? with
      | none =>
        have : t = [] := List.getLast?_eq_none_iff.mp hl
        simp [this]
      | some x =>
        obtain ⟨ys, rfl⟩ := List.getLast?_eq_some_iff.mp hl
        simpa using @List.perm_append_comm _ [x] ys
    · have hne : ¬ (h == e) = true := by simpa using he
      simp [Ring.remove, he, List.erase_cons_tail hne]

theorem Ring.mem_remove {l : List α} (hn : l.Nodup) (e x : α) :
    x ∈ Ring.remove l e ↔ x ∈ l ∧ x ≠ e := by
  rw [(Ring.remove_perm_erase l e).mem_iff, hn.mem_erase_iff]
  exact And.comm

theorem Ring.nodup_remove {l : List α} (hn : l.Nodup) (e : α) : (Ring.remove l e).Nodup :=
  (Ring.remove_perm_erase l e).nodup_iff.mpr (hn.erase e)

theorem Ring.length_remove {l : List α} {e : α} (h : e ∈ l) :
    (Ring.remove l e).length = l.length - 1 := by
  rw [(Ring.remove_perm_erase l e).length_eq, List.length_erase_of_mem h]

theorem Ring.remove_of_not_mem {l : List α} {e : α} (h : e ∉ l) : Ring.remove l e = l := by
  cases l with
  | nil => rfl
  | cons a t =>
    have h1 : a ≠ e := fun c => h (by simp [c])
    have h2 : e ∉ t := fun c => h (by simp [c])
    simp [Ring.remove, h1, List.erase_of_not_mem h2]

theorem Ring.not_mem_remove {l : List α} (hn : l.Nodup) (e : α) : e ∉ Ring.remove l e := by
  intro h
  exact ((Ring.mem_remove hn e e).mp h).2 rfl

theorem Ring.remove_eq_nil {l : List α} (hn : l.Nodup) (e : α) :
    Ring.remove l e = [] ↔ ∀ x ∈ l, x = e := by
  constructor
  · intro h x hx
    refine Decidable.byContradiction fun hne => ?_
    have : x ∈ Ring.remove l e := (Ring.mem_remove hn e x).mpr ⟨hx, hne⟩
    simp [h] at this
  · intro h
    apply List.eq_nil_iff_forall_not_mem.mpr
    intro x hx
    have := (Ring.mem_remove hn e x).mp hx
    exact this.2 (h x this.1)

theorem Ring.mem_add {l : List α} (e x : α) : x ∈ Ring.add l e ↔ x ∈ l ∨ x = e := by
  unfold Ring.add
  split
  · rename_i hh
    obtain ⟨ys, rfl⟩ := List.head?_eq_some_iff.mp hh
    constructor
    · intro h; exact Or.inl h
    · rintro (h | h)
      · exact h
      · simp [h]
  · by_cases hx : x = e
    · simp [hx]
    · simp [hx, List.mem_erase_of_ne hx]

theorem Ring.nodup_add {l : List α} (hn : l.Nodup) (e : α) : (Ring.add l e).Nodup := by
  unfold Ring.add
  split
  · exact hn
  · rw [List.nodup_append]
    refine ⟨hn.erase e, by simp, ?_⟩
    intro a ha b hb
    have : b = e := by simpa using hb
    subst this
    intro hab
    subst hab
    exact hn.not_mem_erase ha

theorem Ring.add_ne_nil (l : List α) (e : α) : Ring.add l e ≠ [] := by
  intro h
  have : e ∈ Ring.add l e := (Ring.mem_add e e).mpr (Or.inr rfl)
  simp [h] at this

theorem Ring.add_of_not_mem {l : List α} {e : α} (h : e ∉ l) : Ring.add l e = l ++ [e] := by
  unfold Ring.add
  split
  · rename_i hh
    obtain ⟨ys, rfl⟩ := List.head?_eq_some_iff.mp hh
    exact absurd (by simp) h
  · rw [List.erase_of_not_mem h]

theorem Ring.remove_head_length (h : α) (t : List α) : (Ring.remove (h :: t) h).length = t.length := by
  rw [Ring.length_remove (by simp)]; simp

section
variable {β : Type} [DecidableEq β] {f : β → List α} {b : β} {m : α}

theorem mem_upd_remove (hn : (f b).Nodup) (b' : β) (x : α) :
    x ∈ upd f b (Ring.remove (f b) m) b' ↔ x ∈ f b' ∧ (b' = b → x ≠ m) := by
  by_cases hb : b' = b
  · rw [hb, upd_same, Ring.mem_remove hn]; simp
  · rw [upd_other _ _ hb]; simp [hb]

theorem nodup_upd_remove (hn : (f b).Nodup) (b' : β) (h : (f b').Nodup) : (upd f b (Ring.remove (f b) m) b').Nodup := by
  by_cases hb : b' = b
  · rw [hb, upd_same]; exact Ring.nodup_remove hn m
  · rwa [upd_other _ _ hb]

theorem mem_upd_add (b' : β) (x : α) : x ∈ upd f b (Ring.add (f b) m) b' ↔ x ∈ f b' ∨ (b' = b ∧ x = m) := by
  by_cases hb : b' = b
  · rw [hb, upd_same, Ring.mem_add]; simp
  · rw [upd_other _ _ hb]; simp [hb]

theorem nodup_upd_add (b' : β) (h : (f b').Nodup) : (upd f b (Ring.add (f b) m) b').Nodup := by
  by_cases hb : b' = b
  · rw [hb, upd_same]; exact Ring.nodup_add (hb ▸ h) m
  · rwa [upd_other _ _ hb]

end

end ring

section ite
variable {α : Type} {c : Prop} [Decidable c]

theorem nodup_ite_nil {l : List α} (h : l.Nodup) : (if c then [] else l).Nodup := by
  split <;> simp [h]

end ite

/-- which of the device's three rings a child of class `k` is kept in -/
def slot : Kind → Kind
  | .ker => .ker
  | .str => .str
  | _ => .buf

theorem chGet_slot (s : St) (k : Kind) (d : Nat) : s.chGet k d = s.chGet (slot k) d := by
  cases k <;> rfl

theorem chSet_slot (s : St) (k : Kind) (d : Nat) (l : List Nat) : s.chSet k d l = s.chSet (slot k) d l := by
  cases k <;> rfl

theorem slot_cases (k : Kind) : slot k = .ker ∨ slot k = .str ∨ slot k = .buf := by
  cases k <;> decide

theorem slot_ker {K : Kind} (h : slot K = .ker) : K = .ker := by revert h; cases K <;> decide

theorem slot_str {K : Kind} (h : slot K = .str) : K = .str := by revert h; cases K <;> decide

theorem slot_buf {K : Kind} (h : slot K = .buf) (h1 : K ≠ .dev) (h2 : K ≠ .mem) : K = .buf ∨ K = .pool := by
  revert h h1 h2; cases K <;> decide

theorem bufpool_ne {K : Kind} (h : K = .buf ∨ K = .pool) : K ≠ .dev ∧ K ≠ .mem := by
  rcases h with rfl | rfl <;> decide

theorem kind_clash {C : Prop} {s : St} {x : Nat} {a b : Kind} (ha : s.kind x = a) (hb : s.kind x = b)
    (h : a ≠ b := by decide) : C :=
  absurd (ha.symm.trans hb) h

theorem ne_of_kind {s : St} {x y : Nat} {a b : Kind} (hx : s.kind x = a) (hy : s.kind y = b)
    (h : a ≠ b := by decide) : x ≠ y :=
  fun e => h (hx.symm.trans (e ▸ hy))

theorem chGet_of_slot_eq (s : St) {k k' : Kind} (h : slot k' = slot k) : s.chGet k' = s.chGet k := by
  funext d; rw [chGet_slot, h, ← chGet_slot]

theorem chGet_chSet (s : St) (k k' : Kind) (d d' : Nat) (l : List Nat) :
    (s.chSet k d l).chGet k' d' = if slot k' = slot k ∧ d' = d then l else s.chGet k' d' := by
  by_cases h : slot k' = slot k
  · rw [chGet_of_slot_eq _ h, chGet_of_slot_eq _ h]
    simp only [h, true_and]
    cases k <;> exact upd_apply ..
  · rw [if_neg fun c => h c.1, chSet_slot, chGet_slot _ k', chGet_slot s k']
    -- different slots are different fields
    have ha := slot_cases k
    have hb := slot_cases k'
    generalize slot k = a at *
    generalize slot k' = b at *
    rcases ha with rfl | rfl | rfl <;> rcases hb with rfl | rfl | rfl <;> first | exact absurd rfl h | rfl

theorem nodup_chSet {s : St} {k : Kind} {d : Nat} {l : List Nat} (hl : l.Nodup) {k' : Kind} {d' : Nat}
    (h : (s.chGet k' d').Nodup) : ((s.chSet k d l).chGet k' d').Nodup := by
  rw [chGet_chSet]
  split
  · exact hl
  · exact h

theorem chSet_eq (s : St) (k : Kind) (d : Nat) (l : List Nat) :
    ∃ a b c, s.chSet k d l = { s with dKer := a, dBuf := b, dStr := c } := by
  cases k <;> exact ⟨_, _, _, rfl⟩

theorem mem_chSet_remove {s : St} {k : Kind} {d c : Nat} (hn : (s.chGet k d).Nodup) (k' : Kind) (d' x : Nat) :
    x ∈ (s.chSet k d (Ring.remove (s.chGet k d) c)).chGet k' d'
      ↔ x ∈ s.chGet k' d' ∧ (slot k' = slot k ∧ d' = d → x ≠ c) := by
  rw [chGet_chSet]
  split
  · rename_i h
    rw [chGet_of_slot_eq s h.1, h.2, Ring.mem_remove hn]; simp [h]
  · rename_i h
    simp [h]

theorem mem_chSet_add (s : St) (k : Kind) (d c : Nat) (k' : Kind) (d' x : Nat) :
    x ∈ (s.chSet k d (Ring.add (s.chGet k d) c)).chGet k' d'
      ↔ x ∈ s.chGet k' d' ∨ ((slot k' = slot k ∧ d' = d) ∧ x = c) := by
  rw [chGet_chSet]
  split
  · rename_i h
    rw [chGet_of_slot_eq s h.1, h.2, Ring.mem_add]; simp [h]
  · rename_i h
    simp [h]

end Occa.Gc
