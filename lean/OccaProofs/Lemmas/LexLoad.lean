/-
Helper lemmas for C12: the scanner part of `primitive::load`: what its definitions do on the forms of input the proofs
meet (`loadF_succ` and the equations read off it), that it only moves forward, over no backslash and no NUL
(`loadF_suffix`), what it refuses (`loadF_none`, `not_primitive_of_first`).  The literals it accepts are in LexNum.
-/
import OccaProofs.Lemmas.LexTotal
import OccaProofs.Lemmas.LexOps

namespace Occa.Lex
open Occa.Gen

theorem isSigned_of_hd {r : Str} (h : hd r ≠ '+' ∧ hd r ≠ '-') : isSigned r = false := by
  simp [isSigned, h.1, h.2]

theorem isSigned_append {a : Str} (h : a ≠ []) (b : Str) : isSigned (a ++ b) = isSigned a := by
  rw [isSigned, hd_append h, ← isSigned]

theorem startsWith_of_hd {a : Char} {p r : Str} (h : hd r ≠ a) : startsWith (a :: p) r = false := by
  cases r with
  | nil => rfl
  | cons c t => simp [startsWith, List.isPrefixOf, Ne.symm (show c ≠ a from h)]

/-- a character that `primitive::load` can move over: none of its tests accepts a backslash or the terminator -/
abbrev LoadCh (c : Char) : Prop := c ≠ '\\' ∧ c ≠ NUL

theorem ne_of_pred {p : Char → Bool} {c x : Char} (h : p c = true) (hx : p x = false) : c ≠ x :=
  fun e => by rw [e, hx] at h; cases h

theorem LoadCh.of_pred {p : Char → Bool} {c : Char} (h : p c = true) (hp : p '\\' = false ∧ p NUL = false) : LoadCh c :=
  ⟨ne_of_pred h hp.1, ne_of_pred h hp.2⟩

theorem loadFormatted_some {r : Str} {o : Option Str} (h : loadFormatted r = some o) :
    ∃ x t p, r = '0' :: x :: t ∧ LoadCh x ∧ (p '\\' = false ∧ p NUL = false) ∧ o = loadDigits p t := by
  unfold loadFormatted at h
  split at h
  · next x t =>
    split at h
    · next hb => exact ⟨x, t, isBin, rfl, .of_pred (p := fun y => y == 'b' || y == 'B') hb (by decide), by decide,
        (Option.some.inj h).symm⟩
    split at h
    · next hx => exact ⟨x, t, isHex, rfl, .of_pred (p := fun y => y == 'x' || y == 'X') hx (by decide), by decide,
        (Option.some.inj h).symm⟩
    · cases h
  · cases h

theorem loadFormatted_none {r : Str} (h : ∀ x t, r = '0' :: x :: t → x ≠ 'b' ∧ x ≠ 'B' ∧ x ≠ 'x' ∧ x ≠ 'X') :
    loadFormatted r = none := by
  unfold loadFormatted
  split
  · obtain ⟨h1, h2, h3, h4⟩ := h _ _ rfl
    simp [h1, h2, h3, h4]
  · rfl

theorem loadFormatted_none_of_hd {r : Str} (h : hd r ≠ '0') : loadFormatted r = none :=
  loadFormatted_none fun _ _ e => absurd (e ▸ rfl) h

@[simp] theorem loadF_zero (s : Bool) (r : Str) : loadF 0 s r = none := rfl

theorem loadF_succ (f : Nat) (s : Bool) (r : Str) : loadF (f + 1) s r =
    if startsWith ['t', 'r', 'u', 'e'] r then some (r.drop 4)
    else if startsWith ['f', 'a', 'l', 's', 'e'] r then some (r.drop 5)
    else if isSigned r && !s then none
    else loadBody (loadF f true) (loadSignSkip r) := rfl

theorem loadScan_bool (s : Bool) {p : Str} (hp : p = ['t', 'r', 'u', 'e'] ∨ p = ['f', 'a', 'l', 's', 'e']) (rest : Str) :
    loadScan s (p ++ rest) = some rest := by
  rcases hp with rfl | rfl <;> simp [loadScan, loadF_succ, startsWith, List.isPrefixOf]

theorem loadF_unsigned (f : Nat) (s : Bool) {r : Str} (h1 : startsWith ['t', 'r', 'u', 'e'] r = false)
    (h2 : startsWith ['f', 'a', 'l', 's', 'e'] r = false) (h3 : isSigned r = false) :
    loadF (f + 1) s r = loadBody (loadF f true) r := by
  simp [loadF_succ, h1, h2, h3, loadSignSkip]

theorem loadF_none_signed (f : Nat) (r : Str)
    (h1 : startsWith ['t', 'r', 'u', 'e'] r = false) (h2 : startsWith ['f', 'a', 'l', 's', 'e'] r = false)
    (h3 : isSigned r = true) : loadF (f + 1) false r = none := by
  simp [loadF_succ, h1, h2, h3]

theorem loadF_none (f : Nat) (s : Bool) (r : Str)
    (h1 : startsWith ['t', 'r', 'u', 'e'] r = false) (h2 : startsWith ['f', 'a', 'l', 's', 'e'] r = false)
    (h3 : isSigned r = false) (h4 : hd r ≠ '0') (h5 : ∀ x ∈ r.takeWhile isDigitOrDot, isDigit x = false) :
    loadF (f + 1) s r = none := by
  have h5' : ¬ ∃ x, x ∈ r.takeWhile isDigitOrDot ∧ isDigit x = true := by
    rintro ⟨x, hx, hd'⟩; rw [h5 x hx] at hd'; cases hd'
  rw [loadF_unsigned f s h1 h2 h3]
  simp [loadBody, loadFormatted_none_of_hd h4, h5']

theorem loadF_of_hd (f : Nat) (s : Bool) {a : Char} (h : a ≠ 't' ∧ a ≠ 'f' ∧ a ≠ '+' ∧ a ≠ '-') (t : Str) :
    loadF (f + 1) s (a :: t) = loadBody (loadF f true) (a :: t) :=
  loadF_unsigned f s (startsWith_of_hd h.1) (startsWith_of_hd h.2.1) (isSigned_of_hd h.2.2)

theorem loadF_signed (f : Nat) {sg d : Char} (hsg : sg = '+' ∨ sg = '-') (hd : d ∉ lexWhitespace) (t : Str) :
    loadF (f + 1) true (sg :: d :: t) = loadBody (loadF f true) (d :: t) := by
  rcases hsg with rfl | rfl <;> simp [loadF_succ, startsWith, isSigned, loadSignSkip, hd]

theorem loadF_true_of_false (f : Nat) (r x : Str) (h : loadF f false r = some x) : loadF f true r = some x := by
  cases f with
  | zero => simp at h
  | succ f =>
    rw [loadF_succ] at h ⊢
    by_cases h1 : startsWith ['t', 'r', 'u', 'e'] r = true
    · rwa [if_pos h1] at h ⊢
    rw [if_neg h1] at h ⊢
    by_cases h2 : startsWith ['f', 'a', 'l', 's', 'e'] r = true
    · rwa [if_pos h2] at h ⊢
    rw [if_neg h2] at h ⊢
    -- with `includeSign` a sign is never refused; without it, `h` says there was none
    cases hs : isSigned r
    · simpa [hs] using h
    · simp [hs] at h

theorem SuffixP.dropWhile_load (p : Char → Bool) (r : Str) (hp : p '\\' = false ∧ p NUL = false) :
    SuffixP LoadCh (r.dropWhile p) r :=
  SuffixP.dropWhile p r fun _ h => .of_pred h hp

theorem suffixLoop_suffix (ld : Str → Option Str) (hld : ∀ t x, ld t = some x → SuffixP LoadCh x t) (r : Str) :
    SuffixP LoadCh (suffixLoop ld r) r := by
  induction r with
  | nil => exact SuffixP.refl _
  | cons c t ih =>
    unfold suffixLoop
    split
    · exact SuffixP.cons c (.of_pred ‹_› (by decide)) ih
    · split
      · cases h : ld t with
        | none => exact SuffixP.cons c (.of_pred ‹_› (by decide)) (SuffixP.refl _)
        | some x => exact SuffixP.cons c (.of_pred ‹_› (by decide)) (hld t x h)
      · split
        · exact SuffixP.cons c (.of_pred ‹_› (by decide)) ih
        · exact SuffixP.refl _

theorem dropWhile_moved {p : Char → Bool} (hp : p '\\' = false ∧ p NUL = false) {t : Str} (h : t.takeWhile p ≠ []) :
    SuffixP LoadCh (t.dropWhile p) t ∧ (t.dropWhile p).length < t.length := by
  refine ⟨SuffixP.dropWhile_load p t hp, ?_⟩
  have e := len_takeWhile_dropWhile p t
  have : (t.takeWhile p).length ≠ 0 := fun h0 => h (List.eq_nil_of_length_eq_zero h0)
  omega

theorem loadDigits_suffix (p : Char → Bool) (hp : p '\\' = false ∧ p NUL = false) (t x : Str)
    (h : loadDigits p t = some x) : SuffixP LoadCh x t ∧ x.length < t.length := by
  unfold loadDigits at h
  split at h
  · cases h
  · next hne => exact Option.some.inj h ▸ dropWhile_moved hp (by simpa using hne)

theorem loadSignSkip_suffix (r : Str) : SuffixP LoadCh (loadSignSkip r) r := by
  unfold loadSignSkip
  split
  · next hs =>
    cases r with
    | nil => cases hs
    | cons c t =>
      have hc : LoadCh c := .of_pred (p := fun c => c == '+' || c == '-') hs (by decide)
      exact SuffixP.cons c hc (by simpa using SuffixP.dropWhile_load (lexWhitespace.contains ·) t (by decide))
  · exact SuffixP.refl _

theorem loadBody_suffix (ld : Str → Option Str) (hld : ∀ t x, ld t = some x → SuffixP LoadCh x t) (r1 x : Str)
    (h : loadBody ld r1 = some x) : SuffixP LoadCh x r1 ∧ x.length < r1.length := by
  unfold loadBody at h
  split at h
  · cases h
  · next r2 hf =>
    obtain ⟨y, t, p, rfl, hy, hp, hd⟩ := loadFormatted_some hf
    obtain ⟨s1, l1⟩ := loadDigits_suffix p hp t r2 hd.symm
    obtain rfl : r2.dropWhile isLU = x := Option.some.inj h
    have s2 := SuffixP.dropWhile_load isLU r2 (by decide)
    exact ⟨.cons '0' (by decide) (.cons y hy (s2.trans s1)), by have := s2.suffix.length_le; simp; omega⟩
  · split at h
    · next hany =>
      obtain rfl : suffixLoop ld (r1.dropWhile isDigitOrDot) = x := Option.some.inj h
      obtain ⟨s1, l1⟩ := dropWhile_moved (p := isDigitOrDot) (by decide) (t := r1) fun h0 => by
        rw [h0] at hany
        cases hany
      have s2 := suffixLoop_suffix ld hld (r1.dropWhile isDigitOrDot)
      exact ⟨s2.trans s1, by have := s2.suffix.length_le; omega⟩
    · cases h

theorem drop_of_startsWith {p r : Str} (h : startsWith p r = true) (hp : ∀ c ∈ p, LoadCh c) (hne : p ≠ []) :
    SuffixP LoadCh (r.drop p.length) r ∧ (r.drop p.length).length < r.length := by
  obtain ⟨t, rfl⟩ := List.isPrefixOf_iff_prefix.mp h
  have : p.length ≠ 0 := fun e => hne (List.eq_nil_of_length_eq_zero e)
  rw [List.drop_left]
  exact ⟨⟨p, rfl, hp⟩, by rw [List.length_append]; omega⟩

theorem loadF_suffix : ∀ (f : Nat) (s : Bool) (r x : Str), loadF f s r = some x → SuffixP LoadCh x r ∧ x.length < r.length := by
  intro f
  induction f with
  | zero => intro s r x h; simp at h
  | succ f ih =>
    intro s r x h
    rw [loadF_succ] at h
    by_cases h1 : startsWith ['t', 'r', 'u', 'e'] r = true
    · rw [if_pos h1, Option.some.injEq] at h
      exact h ▸ drop_of_startsWith h1 (by decide) (by simp)
    rw [if_neg h1] at h
    by_cases h2 : startsWith ['f', 'a', 'l', 's', 'e'] r = true
    · rw [if_pos h2, Option.some.injEq] at h
      exact h ▸ drop_of_startsWith h2 (by decide) (by simp)
    rw [if_neg h2] at h
    by_cases h3 : (isSigned r && !s) = true
    · rw [if_pos h3] at h; cases h
    rw [if_neg h3] at h
    obtain ⟨s1, l1⟩ := loadBody_suffix (loadF f true) (fun t x hx => (ih true t x hx).1) _ x h
    have s2 := loadSignSkip_suffix r
    exact ⟨s1.trans s2, by have := s2.suffix.length_le; omega⟩

theorem loadScan_suffix {s : Bool} {r x : Str} (h : loadScan s r = some x) : SuffixP LoadCh x r ∧ x.length < r.length :=
  loadF_suffix _ s r x h

theorem isPrimitiveAt_of_none {r : Str} (h : loadScan false r = none) : isPrimitiveAt r = false := by
  simp [isPrimitiveAt, h]

theorem not_primitive_of_first {a : Char} (rest : Str) (h : a ≠ 't' ∧ a ≠ 'f' ∧ a ≠ '+' ∧ a ≠ '-')
    (hd' : isDigitOrDot a = false) : isPrimitiveAt (a :: rest) = false := by
  refine isPrimitiveAt_of_none (loadF_none _ _ _ (startsWith_of_hd h.1) (startsWith_of_hd h.2.1) (isSigned_of_hd h.2.2) ?_ ?_)
  · intro e; simp only [hd_cons] at e; subst e; revert hd'; decide
  · rw [takeWhile_nil_of_hd (by simpa using hd')]; simp

end Occa.Lex
