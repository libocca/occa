/-
Consequences of the invariant used by the property theorems: free() destroys, drop removes a variable,
nothing is alive without handles.
-/
import OccaProofs.Lemmas.GcStep

namespace Occa.Gc

theorem free_dead {s : St} (h : Inv s) {k : HKind} {i o : Nat} (hl : s.vlive (.user k i) = true)
    (hp : s.ptr (.user k i) = some o) :
    (step s (.free k i)).1.alive o = false ∧ (step s (.free k i)).1.next = s.next := by
  have h2 := (h.free_handle k i).2 o hp
  exact ite_st (P := fun t => t.alive o = false ∧ t.next = s.next) (fun c => by simp [hl] at c) fun _ =>
    ⟨h2.dead, h2.next⟩

theorem drop_vlive {s : St} (h : Inv s) (k : HKind) (i : Nat) (k' : HKind) (i' : Nat) :
    (step s (.drop k i)).1.vlive (.user k' i') = (s.vlive (.user k' i') && !decide ((k', i') = (k, i))) := by
  refine ite_st (P := fun t => t.vlive (.user k' i') = (s.vlive (.user k' i') && !decide ((k', i') = (k, i))))
    (fun c => ?_) fun _ => ?_
  · by_cases e : (k', i') = (k, i)
    · cases e; simpa using c
    · simp [e]
  · rw [(h.toA.destruct (v := .user k i) nofun).user k' i', upd_apply]
    by_cases e : (k', i') = (k, i)
    · cases e; simp
    · rw [if_neg fun x => e (by cases x; rfl)]; simp [e]

theorem no_leak_core {s : St} (h : Inv s) (hv : ∀ k i, s.vlive (.user k i) = false)
    (hu : ∀ o, s.alive o = true → s.useRefs o = true) : ∀ o, s.alive o = false := by
  have nodev : ∀ d, s.alive d = true → s.kind d = .dev → False := by
    intro d hda hdk
    rcases h.inv.ring_ne d hda (by rw [hdk]; decide) (hu d hda) with hne | ⟨_, x, _⟩
    · obtain ⟨v, hvm⟩ := List.exists_mem_of_ne_nil _ hne
      have hp := h.inv.ring_ptr v d hvm
      have hk := (h.ptr_facts hp).2.1
      have hl := h.inv.ptr_live v d hp
      cases v with
      | user k i => rw [hv k i] at hl; cases hl
      | cur d' => rw [hdk] at hk; cases hk
      | tmp k => rw [h.tmp k] at hl; cases hl
    · exact x
  intro o
  cases ho : s.alive o
  · rfl
  · obtain ⟨d, _, hda, hdk⟩ := h.deviceOf_spec ho
    exact (nodev d hda hdk).elim

/-- the operations that destroy the listed variables -/
def dropAll (vs : List (HKind × Nat)) : List Op := vs.map fun v => Op.drop v.1 v.2

theorem runFrom_append (s : St) (a b : List Op) : runFrom s (a ++ b) = runFrom (runFrom s a) b := by
  simp [runFrom, List.foldl_append]

theorem dropAll_vlive {s : St} (h : Inv s) (vs : List (HKind × Nat)) (k : HKind) (i : Nat) :
    (runFrom s (dropAll vs)).vlive (.user k i) = (s.vlive (.user k i) && !decide ((k, i) ∈ vs)) := by
  induction vs generalizing s with
  | nil => simp [dropAll, runFrom]
  | cons v t ih =>
    have hstep : runFrom s (dropAll (v :: t)) = runFrom (step s (.drop v.1 v.2)).1 (dropAll t) := rfl
    rw [hstep, ih (step_inv h _), drop_vlive h]
    by_cases e1 : (k, i) = (v.1, v.2)
    · have : (k, i) = v := e1
      simp [this]
    · have : (k, i) ≠ v := e1
      by_cases e2 : (k, i) ∈ t <;> simp [e1, e2]

theorem step_drop_useRefs_sub {s : St} (h : Inv s) (k : HKind) (i : Nat) :
    ∀ o, (step s (.drop k i)).1.alive o = true → s.alive o = true := fun o =>
  guard1 (P := fun t => t.alive o = true → s.alive o = true) id fun _ =>
    (h.inv.detach (v := .user k i)).2.alive_sub o

end Occa.Gc
