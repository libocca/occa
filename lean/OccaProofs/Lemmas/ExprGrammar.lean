/-
The reader's side of "printing adds no parentheses": the stratified C/C++ expression grammar, as an
inductive derivation relation over tokens, and the theorem that the token sequence printed for a
`Grouped` tree is derivable *as that tree*.

`Derives p ts e`: the tokens `ts` form an expression whose top-level construct has precedence number
≤ p (cppreference numbering as in operator.cpp: 0 primary, 2 postfix, 3 prefix unary / cast, 5 `* / %`,
6 `+ -`, 7 shifts, 9 relational, 10 equality, 11 `&`, 12 `^`, 13 `|`, 14 `&&`, 15 `||`, 16 `?:`) and the
grammar's parse tree is `e`.  Every binary operator is left-associative: `E_q → E_q op E_{q-1}`;
`?:` is `E_15 ? E : E_16` (between `?` and `:` any expression stands, as in C).  (Unambiguity of this grammar — a text has at most one tree — is the
standard property of the C expression grammar and is not re-proved here.)
-/
import OccaProofs.Lemmas.ExprGroup

namespace Occa.LoopExpr

inductive Tok
  | id (n : String)
  | num (v : Int)
  | lp | rp | lb | rb
  | castInt            -- the three tokens `( int )`
  | un (op : String)
  | bin (op : String)
  | q | colon
deriving DecidableEq, Repr

/-- occa's spacing: binary operators and `? :` are surrounded by blanks, the cast is followed by one -/
def Tok.render : Tok → String
  | .id n => n
  | .num v => toString v
  | .lp => "("
  | .rp => ")"
  | .lb => "["
  | .rb => "]"
  | .castInt => "(int) "
  | .un op => op
  | .bin op => " " ++ op ++ " "
  | .q => " ? "
  | .colon => " : "

/-- the token sequence the occa printer emits for a tree -/
def toks : Expr → List Tok
  | .var n => [.id n]
  | .lit v => [.num v]
  | .paren e => [.lp] ++ toks e ++ [.rp]
  | .cast e => .castInt :: toks e
  | .un op e => .un op :: toks e
  | .bin op l r => toks l ++ [.bin op] ++ toks r
  | .tern c t f => toks c ++ [.q] ++ toks t ++ [.colon] ++ toks f
  | .sub a i => toks a ++ [.lb] ++ toks i ++ [.rb]

def renderAll : List Tok → String
  | [] => ""
  | t :: r => t.render ++ renderAll r

theorem renderAll_append (a b : List Tok) : renderAll (a ++ b) = renderAll a ++ renderAll b := by
  induction a with
  | nil => simp [renderAll]
  | cons t r ih => simp [renderAll, ih, String.append_assoc]

theorem print_eq_render (e : Expr) : print e = renderAll (toks e) := by
  induction e <;> simp [print, toks, renderAll_append, renderAll, Tok.render, String.append_assoc, *]

inductive Derives : Nat → List Tok → Expr → Prop
  | var (n : String) : Derives 0 [.id n] (.var n)
  | num (v : Int) (h : 0 ≤ v) : Derives 0 [.num v] (.lit v)
  | negnum (v : Int) (h : v < 0) : Derives 3 [.num v] (.lit v)          -- prints as `-3`: a unary-level item
  | paren {ts e p} : Derives p ts e → Derives 0 ([.lp] ++ ts ++ [.rp]) (.paren e)
  | sub {ta ti a i p} : Derives 2 ta a → Derives p ti i → Derives 2 (ta ++ [.lb] ++ ti ++ [.rb]) (.sub a i)
  | cast {ts e} : Derives 3 ts e → Derives 3 (.castInt :: ts) (.cast e)
  | un {ts e} (op : String) : lookup Gen.unaryPrec op = 3 → signClash op e = false →
      Derives 3 ts e → Derives 3 (.un op :: ts) (.un op e)
  | bin {tl tr l r} (op : String) (q : Nat) : lookup Gen.binaryPrec op = q → q ≠ 0 →
      Derives q tl l → Derives (q - 1) tr r → Derives q (tl ++ [.bin op] ++ tr) (.bin op l r)
  | tern {tc tt tf c t f p} : Derives 15 tc c → Derives p tt t → Derives 16 tf f →
      Derives 16 (tc ++ [.q] ++ tt ++ [.colon] ++ tf) (.tern c t f)
  | weaken {p q ts e} : Derives p ts e → p ≤ q → Derives q ts e

theorem lookup_forall {p : Nat → Prop} (t : List (String × Nat)) (h0 : p 0) (ht : ∀ r ∈ t, p r.2) (op : String) :
    p (lookup t op) := by
  unfold lookup
  cases hf : t.find? (fun r => r.1 == op) with
  | none => exact h0
  | some r => exact ht r (List.mem_of_find?_eq_some hf)

theorem unary_is_3 (op : String) (h : lookup Gen.unaryPrec op ≠ 0) : lookup Gen.unaryPrec op = 3 :=
  lookup_forall (p := fun n => n ≠ 0 → n = 3) Gen.unaryPrec (fun h => absurd rfl h) (by decide) op h

theorem grouped_derives : ∀ e : Expr, Grouped e → Derives (prec e) (toks e) e
  | .var n, _ => Derives.var n
  | .lit v, _ => by
    by_cases h : v < 0
    · simpa [prec, h, toks] using Derives.negnum v h
    · simpa [prec, h, toks] using Derives.num v (by omega)
  | .paren e, h => by
    have he : Grouped e := by simpa [Grouped, grouped] using h
    exact Derives.paren (grouped_derives e he)
  | .cast e, h => by
    simp only [Grouped, grouped, Bool.and_eq_true, decide_eq_true_eq] at h
    obtain ⟨hpe, he⟩ := h
    have c3 : Gen.castPrec = 3 := by decide
    have := Derives.cast ((grouped_derives e he).weaken (by rw [← c3]; exact hpe))
    simpa [prec, c3, toks] using this
  | .un op e, h => by
    simp only [Grouped, grouped, Bool.and_eq_true, decide_eq_true_eq, bne_iff_ne, ne_eq, Bool.not_eq_true'] at h
    obtain ⟨⟨⟨hop, hpe⟩, hclash⟩, he⟩ := h
    have u3 := unary_is_3 op hop
    have := Derives.un op u3 hclash ((grouped_derives e he).weaken (by rw [← u3]; exact hpe))
    simpa [prec, u3, toks] using this
  | .bin op l r, h => by
    simp only [Grouped, grouped, Bool.and_eq_true, decide_eq_true_eq, bne_iff_ne, ne_eq] at h
    obtain ⟨⟨⟨⟨hop, hpl⟩, hpr⟩, hl⟩, hr⟩ := h
    show Derives (lookup Gen.binaryPrec op) _ _
    exact Derives.bin op (lookup Gen.binaryPrec op) rfl hop ((grouped_derives l hl).weaken hpl)
      ((grouped_derives r hr).weaken (by omega))
  | .tern c t f, h => by
    simp only [Grouped, grouped, Bool.and_eq_true, decide_eq_true_eq] at h
    obtain ⟨⟨⟨⟨hpc, hc⟩, ht⟩, hpf⟩, hf⟩ := h
    have t16 : Gen.ternaryPrec = 16 := by decide
    rw [t16] at hpc hpf
    have := Derives.tern ((grouped_derives c hc).weaken (by omega)) (grouped_derives t ht)
      ((grouped_derives f hf).weaken hpf)
    simpa [prec, t16, toks] using this
  | .sub a i, h => by
    simp only [Grouped, grouped, Bool.and_eq_true, decide_eq_true_eq] at h
    obtain ⟨⟨hpa, ha⟩, hi⟩ := h
    exact Derives.sub ((grouped_derives a ha).weaken hpa) (grouped_derives i hi)

theorem prec_le (e : Expr) : prec e ≤ 16 := by
  cases e with
  | lit v => simp only [prec]; split <;> omega
  | un op e => exact lookup_forall (p := (· ≤ 16)) Gen.unaryPrec (by decide) (by decide) op
  | bin op l r => exact lookup_forall (p := (· ≤ 16)) Gen.binaryPrec (by decide) (by decide) op
  | _ => simp only [prec]; decide

/-- The text printed for a grouped tree is the rendering of a token sequence which the C expression grammar
    derives, as a full expression, with exactly that tree. -/
theorem grouped_reads (e : Expr) (h : Grouped e) :
    ∃ ts : List Tok, renderAll ts = print e ∧ Derives 16 ts e :=
  ⟨toks e, (print_eq_render e).symm, (grouped_derives e h).weaken (prec_le e)⟩

end Occa.LoopExpr
