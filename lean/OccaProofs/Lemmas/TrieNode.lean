/-
Lemmas about the unfrozen side of the trie model: the child maps (`find`, `upsert`, `eraseKey`,
`replaceKey`), the exact lookup `lookupN`, the structural invariant `WF` (child maps sorted, no
empty subtree), what `addN`, `nestedRemove`, `decrementIndex`, `removeN` do to both, `getN` as the
longest prefix on which `lookupN` is defined, and `size()` as the number of such keys (`keysN`).
Core Lean only.
-/
import OccaProofs.Lemmas.TrieSpec
import OccaProofs.Lemmas.TrieLongest
import OccaProofs.Lemmas.TrieGen

set_option linter.unusedSectionVars false

namespace Occa.Trie
open Node
variable {α : Type} [DecidableEq α] [LT α] [DecidableRel (α := α) (· < ·)]

mutual
theorem Node.induct_node {P : Node α → Prop} (h : ∀ v ks, (∀ p ∈ ks, P p.2) → P (mk v ks)) :
    ∀ n : Node α, P n
  | mk v ks => h v ks (Node.induct_kids h ks)
theorem Node.induct_kids {P : Node α → Prop} (h : ∀ v ks, (∀ p ∈ ks, P p.2) → P (mk v ks)) :
    ∀ ks : List (α × Node α), ∀ p ∈ ks, P p.2
  | [] => fun _ hp => nomatch hp
  | (_, n) :: r => fun _ hp =>
    match List.mem_cons.mp hp with
    | .inl e => e ▸ Node.induct_node h n
    | .inr hp => Node.induct_kids h r _ hp
end

@[simp] theorem val_mk (v : Option Nat) (ks : List (α × Node α)) : (mk v ks).val = v := rfl
@[simp] theorem kids_mk (v : Option Nat) (ks : List (α × Node α)) : (mk v ks).kids = ks := rfl
theorem Node.eta (n : Node α) : n = mk n.val n.kids := by cases n; rfl

/-- a node without value and without children (what `nestedRemove` calls an empty tree) -/
def Dead (n : Node α) : Prop := n.val = none ∧ n.kids = []

instance (n : Node α) : Decidable (Dead n) := by unfold Dead; exact inferInstance

/-- the value index stored at exactly the key `k` below `n` -/
def lookupN : List α → Node α → Option Nat
  | [], n => n.val
  | c :: cs, n =>
    match find c n.kids with
    | none => none
    | some ch => lookupN cs ch

@[simp] theorem lookupN_nil (n : Node α) : lookupN [] n = n.val := rfl

theorem lookupN_cons (c : α) (cs : List α) (n : Node α) :
    lookupN (c :: cs) n = (find c n.kids).bind (lookupN cs) := by
  rw [lookupN]; cases find c n.kids <;> rfl

theorem lookupN_dead {n : Node α} (h : Dead n) (k : List α) : lookupN k n = none := by
  cases k with
  | nil => exact h.1
  | cons c cs => rw [lookupN_cons, h.2]; rfl

theorem lookupN_empty (k : List α) : lookupN k (Node.empty : Node α) = none := lookupN_dead ⟨rfl, rfl⟩ k

/-- the keys of a child map are strictly increasing (the `std::map` order) -/
def KeysLt (ks : List (α × Node α)) : Prop := (ks.map (·.1)).Pairwise (· < ·)

theorem keysLt_nil : KeysLt ([] : List (α × Node α)) := List.Pairwise.nil

theorem keysLt_cons {p : α × Node α} {r : List (α × Node α)} :
    KeysLt (p :: r) ↔ (∀ q ∈ r, p.1 < q.1) ∧ KeysLt r := by
  simp only [KeysLt, List.map_cons, List.pairwise_cons, List.mem_map, forall_exists_index, and_imp,
    forall_apply_eq_imp_iff₂]

theorem find_mem {c : α} {ks : List (α × Node α)} {n : Node α} (h : find c ks = some n) : (c, n) ∈ ks := by
  induction ks with
  | nil => cases h
  | cons p r ih =>
    simp only [find] at h
    split at h
    · next hk => cases h; exact hk ▸ List.mem_cons_self
    · exact List.mem_cons_of_mem _ (ih h)

theorem find_isSome_iff {c : α} {ks : List (α × Node α)} : (find c ks).isSome ↔ c ∈ ks.map (·.1) := by
  induction ks with
  | nil => simp [find]
  | cons p r ih =>
    simp only [find, List.map_cons, List.mem_cons, ← ih]
    by_cases h : c = p.1
    · rw [if_pos h]; exact ⟨fun _ => .inl h, fun _ => rfl⟩
    · rw [if_neg h]; exact ⟨.inr, fun h' => h'.resolve_left h⟩

theorem find_eq_none_iff {c : α} {ks : List (α × Node α)} : find c ks = none ↔ ∀ p ∈ ks, p.1 ≠ c := by
  rw [← Option.not_isSome_iff_eq_none, find_isSome_iff]
  simp only [List.mem_map, not_exists, not_and, ne_eq]

theorem mem_iff_find [TotalLT α] {c : α} {n : Node α} {ks : List (α × Node α)} (hs : KeysLt ks) :
    (c, n) ∈ ks ↔ find c ks = some n := by
  refine ⟨fun h => ?_, find_mem⟩
  induction ks with
  | nil => cases h
  | cons p r ih =>
    rw [keysLt_cons] at hs
    rcases List.mem_cons.mp h with rfl | h
    · simp [find]
    · have : ¬ c = p.1 := fun e => TotalLT.irrefl c (e ▸ hs.1 (c, n) h : c < c)
      simp only [find, this, if_false]
      exact ih hs.2 h

theorem find_upsert [TotalLT α] (c c' : α) (f : Node α → Node α) (ks : List (α × Node α)) (hs : KeysLt ks) :
    find c' (upsert c f ks) = if c' = c then some (f ((find c ks).getD Node.empty)) else find c' ks := by
  induction ks with
  | nil => simp only [upsert, find]; split <;> rfl
  | cons p r ih =>
    rw [keysLt_cons] at hs
    simp only [upsert]
    by_cases h1 : c = p.1
    · subst h1; simp only [find, if_true, Option.getD_some]; split <;> rfl
    · rw [if_neg h1]
      by_cases h3 : c < p.1
      · -- `c` sorts before every key, so it does not occur
        have : find c r = none := find_eq_none_iff.mpr fun q hq e =>
          TotalLT.irrefl c (TotalLT.trans h3 (e ▸ hs.1 q hq))
        simp only [if_pos h3, find, h1, if_false, this, Option.getD_none]
      · simp only [if_neg h3, find, h1, if_false, ih hs.2]
        by_cases h2 : c' = p.1
        · rw [if_pos h2, if_neg (h2 ▸ Ne.symm h1), if_pos h2]
        · rw [if_neg h2, if_neg h2]

theorem find_eraseKey (c c' : α) (ks : List (α × Node α)) :
    find c' (eraseKey c ks) = if c' = c then none else find c' ks :=
  assoc_filter_ne find (fun _ => rfl) (fun _ _ _ => rfl) c c' ks

theorem find_replaceKey (c c' : α) (n : Node α) (ks : List (α × Node α)) :
    find c' (replaceKey c n ks) = if c' = c then (find c ks).map (fun _ => n) else find c' ks := by
  induction ks with
  | nil => simp [replaceKey, find]
  | cons p r ih =>
    simp only [replaceKey]
    by_cases h1 : c = p.1
    · subst h1; simp only [find, if_true, Option.map_some]; split <;> rfl
    · simp only [find, ih, h1, if_false]
      by_cases h2 : c' = p.1
      · rw [if_pos h2, if_neg (h2 ▸ Ne.symm h1), if_pos h2]
      · rw [if_neg h2, if_neg h2]

theorem find_map_snd (g : Node α → Node α) (c : α) (ks : List (α × Node α)) :
    find c (ks.map fun p => (p.1, g p.2)) = (find c ks).map g := by
  induction ks with
  | nil => rfl
  | cons p r ih => simp only [List.map_cons, find, ih]; split <;> rfl

theorem keysLt_upsert [TotalLT α] {c : α} {f : Node α → Node α} {ks : List (α × Node α)} (hs : KeysLt ks) :
    KeysLt (upsert c f ks) := by
  induction ks with
  | nil => exact keysLt_cons.mpr ⟨fun _ h => (nomatch h), keysLt_nil⟩
  | cons p r ih =>
    simp only [upsert]
    split
    · exact hs
    · next hne =>
      have hs' := keysLt_cons.mp hs
      split
      · next hlt =>
        refine keysLt_cons.mpr ⟨fun q hq => ?_, hs⟩
        rcases List.mem_cons.mp hq with rfl | hq
        · exact hlt
        · exact TotalLT.trans hlt (hs'.1 q hq)
      · next hnlt =>
        have hpc : p.1 < c := ((TotalLT.tri c p.1).resolve_left hnlt).resolve_left hne
        refine keysLt_cons.mpr ⟨fun q hq => ?_, ih hs'.2⟩
        -- a key of `upsert c f r` is `c` or a key of `r`
        have := find_isSome_iff.mpr (List.mem_map_of_mem (f := (·.1)) hq)
        rw [find_upsert _ _ _ _ hs'.2] at this
        split at this
        · next e => exact e ▸ hpc
        · obtain ⟨n, hn⟩ := Option.isSome_iff_exists.mp this
          exact hs'.1 (q.1, n) (find_mem hn)

theorem keysLt_of_keys_eq {ks ks' : List (α × Node α)} (h : ks'.map (·.1) = ks.map (·.1)) (hs : KeysLt ks) :
    KeysLt ks' := by unfold KeysLt; rw [h]; exact hs

theorem keys_replaceKey (c : α) (n : Node α) (ks : List (α × Node α)) :
    (replaceKey c n ks).map (·.1) = ks.map (·.1) := by
  induction ks with
  | nil => rfl
  | cons p r ih => simp only [replaceKey]; split <;> simp [ih]

theorem keysLt_eraseKey {c : α} {ks : List (α × Node α)} (h : KeysLt ks) : KeysLt (eraseKey c ks) :=
  List.Pairwise.sublist ((List.filter_sublist).map _) h

mutual
/-- `P` holds of the child map of `n` and of every node below it -/
def AllN (P : List (α × Node α) → Prop) : Node α → Prop
  | mk _ ks => P ks ∧ AllKids P ks
def AllKids (P : List (α × Node α) → Prop) : List (α × Node α) → Prop
  | [] => True
  | (_, n) :: r => AllN P n ∧ AllKids P r
end

theorem allN_mk {P : List (α × Node α) → Prop} {v : Option Nat} {ks : List (α × Node α)} :
    AllN P (mk v ks) ↔ P ks ∧ ∀ p ∈ ks, AllN P p.2 := by
  rw [AllN]
  refine and_congr_right' ?_
  induction ks with
  | nil => simp [AllKids]
  | cons p r ih => simp only [AllKids, ih, List.mem_cons, forall_eq_or_imp]

theorem allN_mono {P Q : List (α × Node α) → Prop} (h : ∀ ks, P ks → Q ks) (n : Node α) :
    AllN P n → AllN Q n := by
  induction n using Node.induct_node with
  | h v ks ih =>
    simp only [allN_mk]
    exact fun hp => ⟨h ks hp.1, fun p hpm => ih p hpm (hp.2 p hpm)⟩

abbrev Sorted (n : Node α) : Prop := AllN KeysLt n

theorem sorted_mk {v : Option Nat} {ks : List (α × Node α)} :
    Sorted (mk v ks) ↔ KeysLt ks ∧ ∀ p ∈ ks, Sorted p.2 := allN_mk

/-- per child map: keys strictly increasing and no child is an empty tree -/
def Good (ks : List (α × Node α)) : Prop := KeysLt ks ∧ ∀ p ∈ ks, ¬ Dead p.2

/-- the structural invariant of a trie node -/
abbrev WF (n : Node α) : Prop := AllN Good n

theorem WF.sorted {n : Node α} (h : WF n) : Sorted n := allN_mono (fun _ h => h.1) n h

theorem wf_mk {v : Option Nat} {ks : List (α × Node α)} :
    WF (mk v ks) ↔ Good ks ∧ ∀ p ∈ ks, WF p.2 := allN_mk

theorem wf_empty : WF (Node.empty : Node α) := wf_mk.mpr ⟨⟨keysLt_nil, fun _ h => (nomatch h)⟩, fun _ h => (nomatch h)⟩

/-- `WF` read through `find`: the form in which the operations on child maps are reasoned about -/
theorem wf_mk_find [TotalLT α] {v : Option Nat} {ks : List (α × Node α)} :
    WF (mk v ks) ↔ KeysLt ks ∧ ∀ c n, find c ks = some n → ¬ Dead n ∧ WF n := by
  rw [wf_mk, Good, and_assoc]
  refine and_congr_right fun hs => ⟨fun h c n hf => ?_, fun h => ⟨fun p hp => ?_, fun p hp => ?_⟩⟩
  · exact ⟨h.1 _ (find_mem hf), h.2 _ (find_mem hf)⟩
  · exact (h p.1 p.2 ((mem_iff_find hs).mp hp)).1
  · exact (h p.1 p.2 ((mem_iff_find hs).mp hp)).2

theorem lookupN_addN [TotalLT α] (k k' : List α) (i : Nat) (n : Node α) (hs : Sorted n) :
    lookupN k' (addN k i n) = if k' = k then some i else lookupN k' n := by
  induction k generalizing k' n with
  | nil => cases n; cases k' <;> simp [addN, lookupN_cons]
  | cons c cs ih =>
    obtain ⟨v, ks⟩ := n
    rw [sorted_mk] at hs
    cases k' with
    | nil => simp [addN]
    | cons c' cs' =>
      simp only [addN, lookupN_cons, kids_mk, find_upsert _ _ _ _ hs.1, List.cons.injEq]
      by_cases h : c' = c
      · subst h
        cases hf : find c' ks with
        | none => simp only [if_true, Option.bind_some, Option.getD_none, ih _ _ wf_empty.sorted, lookupN_empty,
            Option.bind_none, true_and]
        | some ch => simp only [if_true, Option.bind_some, Option.getD_some, ih _ _ (hs.2 _ (find_mem hf)), true_and]
      · simp [h]

theorem upsert_ne_nil (c : α) (f : Node α → Node α) (ks : List (α × Node α)) : upsert c f ks ≠ [] := by
  cases ks with
  | nil => exact List.cons_ne_nil _ _
  | cons p r =>
    simp only [upsert]
    split
    · exact List.cons_ne_nil _ _
    · split <;> exact List.cons_ne_nil _ _

theorem addN_not_dead (k : List α) (i : Nat) (n : Node α) : ¬ Dead (addN k i n) := by
  obtain ⟨v, ks⟩ := n
  cases k with
  | nil => exact fun h => nomatch h.1
  | cons c cs => exact fun h => upsert_ne_nil _ _ _ h.2

theorem wf_addN [TotalLT α] (k : List α) (i : Nat) (n : Node α) (h : WF n) : WF (addN k i n) := by
  induction k generalizing n with
  | nil => cases n; exact wf_mk.mpr (wf_mk.mp h)
  | cons c cs ih =>
    obtain ⟨v, ks⟩ := n
    rw [wf_mk_find] at h
    refine wf_mk_find.mpr ⟨keysLt_upsert h.1, fun c' n' hf => ?_⟩
    rw [find_upsert _ _ _ _ h.1] at hf
    split at hf
    · cases hf
      refine ⟨addN_not_dead _ _ _, ih _ ?_⟩
      cases hc : find c ks with
      | none => exact wf_empty
      | some ch => exact (h.2 _ _ hc).2
    · exact h.2 _ _ hf

/-- what `nestedRemove` does below the node it is at, for the rest `k` of the key: the new node and
    whether it is to be erased.  For the empty rest the C++ clears the value in place. -/
def below : List α → Node α → Node α × Bool
  | [], n => (mk none n.kids, n.kids.isEmpty)
  | c :: cs, n => nestedRemove c cs n

theorem below_nil (n : Node α) : below [] n = (mk none n.kids, n.kids.isEmpty) := rfl
theorem below_cons (c : α) (cs : List α) (n : Node α) : below (c :: cs) n = nestedRemove c cs n := rfl

theorem nestedRemove_mk (c : α) (cs : List α) (v : Option Nat) (ks : List (α × Node α)) :
    nestedRemove c cs (mk v ks) =
      match find c ks with
      | none => (mk v ks, false)
      | some leaf =>
        let ks' := if (below cs leaf).2 then eraseKey c ks else replaceKey c (below cs leaf).1 ks
        (mk v ks', v.isNone && ks'.isEmpty) := by
  cases cs <;> simp only [nestedRemove, below_nil, below_cons, gen_eraseEmptiedChild, gen_eraseLeafChild] <;> rfl

theorem find_pruned (c c' : α) (r : Node α × Bool) (ks : List (α × Node α)) :
    find c' (if r.2 then eraseKey c ks else replaceKey c r.1 ks) =
      if c' = c then (if r.2 then none else (find c ks).map fun _ => r.1) else find c' ks := by
  obtain ⟨n, b⟩ := r
  cases b
  · exact find_replaceKey c c' n ks
  · exact find_eraseKey c c' ks

theorem dead_mk {v : Option Nat} {ks : List (α × Node α)} :
    Dead (mk v ks) ↔ (v.isNone && ks.isEmpty) = true := by
  simp [Dead]

/-- the converse needs `n` not dead (on a dead `n`, `find` misses and the flag is `false`):
    `wf_below` has that from `WF` -/
theorem below_flag (k : List α) (n : Node α) :
    ((below k n).2 = true → Dead (below k n).1) ∧ (¬ Dead n → Dead (below k n).1 → (below k n).2 = true) := by
  cases k with
  | nil => exact ⟨fun h => ⟨rfl, List.isEmpty_iff.mp h⟩, fun _ hd => List.isEmpty_iff.mpr hd.2⟩
  | cons c cs =>
    obtain ⟨v, ks⟩ := n
    cases hf : find c ks with
    | none => simp only [below_cons, nestedRemove_mk, hf]; exact ⟨fun h => (nomatch h), fun hn hd => absurd hd hn⟩
    | some leaf => simp only [below_cons, nestedRemove_mk, hf]; exact ⟨dead_mk.mpr, fun _ => dead_mk.mp⟩

theorem lookupN_below (k k' : List α) (n : Node α) :
    lookupN k' (below k n).1 = if k' = k then none else lookupN k' n := by
  induction k generalizing k' n with
  | nil => cases k' <;> simp [below_nil, lookupN_cons]
  | cons c cs ih =>
    obtain ⟨v, ks⟩ := n
    cases hf : find c ks with
    | none =>
      simp only [below_cons, nestedRemove_mk, hf]
      split
      · next h => rw [h, lookupN_cons, kids_mk, hf]; rfl
      · rfl
    | some leaf =>
      simp only [below_cons, nestedRemove_mk, hf]
      cases k' with
      | nil => simp
      | cons c' cs' =>
        simp only [lookupN_cons, kids_mk, find_pruned, List.cons.injEq]
        by_cases hc : c' = c
        · -- an erased child is dead, so looking below it finds nothing either way
          have : (if (below cs leaf).2 then none else some (below cs leaf).1).bind (lookupN cs') =
              lookupN cs' (below cs leaf).1 := by
            split
            · next h => exact (lookupN_dead ((below_flag _ _).1 h) _).symm
            · rfl
          simp only [hc, hf, if_true, Option.map_some, this, ih, true_and, Option.bind_some]
        · simp [hc]

theorem wf_below [TotalLT α] (k : List α) (n : Node α) (h : WF n) : WF (below k n).1 := by
  induction k generalizing n with
  | nil => cases n; exact wf_mk.mpr (wf_mk.mp h)
  | cons c cs ih =>
    obtain ⟨v, ks⟩ := n
    cases hf : find c ks with
    | none => simp only [below_cons, nestedRemove_mk, hf]; exact h
    | some leaf =>
      simp only [below_cons, nestedRemove_mk, hf]
      rw [wf_mk_find] at h ⊢
      refine ⟨?_, fun c' n' hf' => ?_⟩
      · split
        · exact keysLt_eraseKey h.1
        · exact keysLt_of_keys_eq (keys_replaceKey _ _ _) h.1
      · rw [find_pruned] at hf'
        by_cases hc : c' = c
        · rw [if_pos hc] at hf'
          by_cases he : (below cs leaf).2 = true
          · rw [if_pos he] at hf'; cases hf'
          · rw [if_neg he, hf] at hf'; cases hf'
            exact ⟨fun hd => he ((below_flag _ _).2 (h.2 _ _ hf).1 hd), ih _ (h.2 _ _ hf).2⟩
        · rw [if_neg hc] at hf'; exact h.2 _ _ hf'

theorem decrementKids_eq (vi : Nat) (ks : List (α × Node α)) :
    decrementKids vi ks = ks.map fun p => (p.1, decrementIndex vi p.2) := by
  induction ks with
  | nil => rfl
  | cons p r ih => rw [decrementKids, ih]; rfl

theorem decrementIndex_mk (vi : Nat) (v : Option Nat) (ks : List (α × Node α)) :
    decrementIndex vi (mk v ks) = mk (v.map (decIdx vi)) (ks.map fun p => (p.1, decrementIndex vi p.2)) := by
  rw [decrementIndex, decrementKids_eq]
  congr 2
  funext i
  simp only [gen_decrementCond, decIdx, decide_eq_true_eq]

theorem lookupN_decrementIndex (vi : Nat) (k : List α) (n : Node α) :
    lookupN k (decrementIndex vi n) = (lookupN k n).map (decIdx vi) := by
  induction k generalizing n with
  | nil => cases n; rw [decrementIndex_mk]; rfl
  | cons c cs ih =>
    obtain ⟨v, ks⟩ := n
    simp only [decrementIndex_mk, lookupN_cons, kids_mk, find_map_snd]
    cases find c ks with
    | none => rfl
    | some ch => exact ih ch

theorem dead_decrementIndex (vi : Nat) (n : Node α) : Dead (decrementIndex vi n) ↔ Dead n := by
  obtain ⟨v, ks⟩ := n
  simp only [decrementIndex_mk, Dead, val_mk, kids_mk, Option.map_eq_none_iff, List.map_eq_nil_iff]

theorem wf_decrementIndex [TotalLT α] (vi : Nat) (n : Node α) : WF n → WF (decrementIndex vi n) := by
  induction n using Node.induct_node with
  | h v ks ih =>
    rw [decrementIndex_mk, wf_mk_find, wf_mk_find]
    refine fun h => ⟨keysLt_of_keys_eq (by rw [List.map_map]; rfl) h.1, fun c n hf => ?_⟩
    rw [find_map_snd, Option.map_eq_some_iff] at hf
    obtain ⟨m, hm, rfl⟩ := hf
    exact ⟨fun hd => (h.2 c m hm).1 ((dead_decrementIndex vi m).mp hd), ih _ (find_mem hm) (h.2 c m hm).2⟩

theorem removeN_eq (k : List α) (vi : Nat) (n : Node α) : removeN k vi n = decrementIndex vi (below k n).1 := by
  cases k <;> rfl

theorem lookupN_removeN (k k' : List α) (vi : Nat) (n : Node α) :
    lookupN k' (removeN k vi n) = if k' = k then none else (lookupN k' n).map (decIdx vi) := by
  rw [removeN_eq, lookupN_decrementIndex, lookupN_below]
  split <;> rfl

theorem wf_removeN [TotalLT α] (k : List α) (vi : Nat) (n : Node α) (h : WF n) : WF (removeN k vi n) :=
  removeN_eq k vi n ▸ wf_decrementIndex vi _ (wf_below k n h)

theorem getN_nil (p : Nat) (n : Node α) : getN [] p n = (p, n.val) := by
  cases n; simp only [getN, gen_getMissLength, val_mk]

theorem getN_cons (c : α) (cs : List α) (p : Nat) (n : Node α) :
    getN (c :: cs) p n =
      match find c n.kids with
      | none => (p, n.val)
      | some child =>
        if (getN cs (p + 1) child).2.isNone && n.val.isSome then (p, n.val) else getN cs (p + 1) child := by
  cases n; simp only [getN, gen_getMissLength, gen_getNextIndex, gen_getFallbackLength, val_mk, kids_mk]; rfl

theorem getN_exact (q : List α) (p : Nat) (n : Node α) :
    (if (getN q p n).1 = p + q.length then (getN q p n).2 else none) = lookupN q n := by
  induction q generalizing p n with
  | nil => simp [getN_nil]
  | cons c cs ih =>
    rw [getN_cons, lookupN_cons]
    cases find c n.kids with
    | none => simp
    | some ch =>
      simp only [Option.bind_some, ← ih (p + 1) ch, List.length_cons]
      generalize getN cs (p + 1) ch = r
      by_cases h : (r.2.isNone && n.val.isSome) = true
      · have h2 : r.2 = none := Option.isNone_iff_eq_none.mp (Bool.and_eq_true_iff.mp h).1
        rw [if_pos h, h2, ite_self]
        exact if_neg (by show ¬ p = _; omega)
      · rw [if_neg h, Nat.add_assoc, Nat.add_comm 1]

theorem getValueIndex_eq_lookupN (c : List α) (n : Node α) : getValueIndex c n = lookupN c n := by
  rw [← getN_exact c 0 n, Nat.zero_add]; rfl

/-- the `if` is what `Trie.get` makes of the answer of `getLongest` -/
theorem get_valueIndex (root : Node α) (q : List α) :
    (if (trieGetLongest root q).length ≠ q.length then Result.fail else trieGetLongest root q).valueIndex
      = lookupN q root := by
  rw [← getN_exact q 0 root, Nat.zero_add, trieGetLongest]
  generalize getN q 0 root = r
  obtain ⟨l, o⟩ := r
  cases o with
  | none => simp [Result.fail]
  | some i => by_cases h : l = q.length <;> simp [h, Result.fail]

/-- the longest prefix of `q` stored below `n`, as (length, value index) -/
def best (n : Node α) (q : List α) : Option (Nat × Nat) := longestBy (fun k => lookupN k n) q

theorem best_nil (n : Node α) : best n [] = n.val.map fun i => (0, i) := rfl

theorem best_cons (n : Node α) (c : α) (cs : List α) :
    best n (c :: cs) =
      match (find c n.kids).bind (fun ch => best ch cs) with
      | some (m, i) => some (m + 1, i)
      | none => n.val.map fun i => (0, i) := by
  simp only [best, longestBy, lookupN_cons, lookupN_nil]
  cases find c n.kids with
  | none => simp only [Option.bind_none, longestBy_none]
  | some ch => simp only [Option.bind_some]; cases longestBy (fun k => lookupN k ch) cs <;> rfl

/-- the last value seen on the way down once `n` (at depth `p`) has been visited: what the frozen loop
    keeps in `retLength`, `retValueIndex` -/
def seen (n : Node α) (p : Nat) (a : Nat × Option Nat) : Nat × Option Nat :=
  if n.val.isSome then (p, n.val) else a

/-- `getN` with the answer for "no value found" made an argument -/
def getOr (q : List α) (p : Nat) (n : Node α) (a : Nat × Option Nat) : Nat × Option Nat :=
  if (getN q p n).2.isSome then getN q p n else a

theorem getOr_nil (p : Nat) (n : Node α) (a : Nat × Option Nat) : getOr [] p n a = seen n p a := by
  rw [getOr, getN_nil]; rfl

/-- the recursion of `trieNode::get`, which falls back to the value of the node it returns to,
    is the loop that carries the last value seen downwards -/
theorem getOr_cons (c : α) (cs : List α) (p : Nat) (n : Node α) (a : Nat × Option Nat) :
    getOr (c :: cs) p n a =
      match find c n.kids with
      | none => seen n p a
      | some ch => getOr cs (p + 1) ch (seen n p a) := by
  rw [getOr, getN_cons]
  cases find c n.kids with
  | none => rfl
  | some ch =>
    simp only [getOr, seen]
    generalize getN cs (p + 1) ch = r
    obtain ⟨l, o⟩ := r
    cases o <;> cases n.val <;> rfl

theorem getOr_eq_best (q : List α) (p : Nat) (n : Node α) (a : Nat × Option Nat) :
    getOr q p n a = match best n q with
      | some (m, i) => (p + m, some i)
      | none => a := by
  induction q generalizing p n a with
  | nil => rw [getOr_nil, best_nil, seen]; cases n.val <;> rfl
  | cons c cs ih =>
    rw [getOr_cons, best_cons]
    cases find c n.kids with
    | none => rw [seen]; cases n.val <;> rfl
    | some ch =>
      simp only [ih, Option.bind_some]
      cases best ch cs with
      | none => rw [seen]; cases n.val <;> rfl
      | some r => simp only [Nat.add_assoc, Nat.add_comm 1]

theorem trieGetLongest_eq (root : Node α) (q : List α) :
    trieGetLongest root q = match best root q with
      | some (m, i) => ⟨m, some i⟩
      | none => Result.fail := by
  rw [show trieGetLongest root q = ⟨(getOr q 0 root (0, none)).1, (getOr q 0 root (0, none)).2⟩ by
    simp only [trieGetLongest, getOr]; split <;> rfl, getOr_eq_best]
  cases best root q with
  | none => rfl
  | some r => simp only [Nat.zero_add]

mutual
/-- all keys below `n` that hold a value (depth first) -/
def keysN : Node α → List (List α)
  | mk v ks => (if v.isSome then [[]] else []) ++ keysKids ks
def keysKids : List (α × Node α) → List (List α)
  | [] => []
  | (c, n) :: r => (keysN n).map (c :: ·) ++ keysKids r
end

mutual
theorem sizeN_eq : ∀ n : Node α, sizeN n = (keysN n).length
  | mk v ks => by
    rw [sizeN, keysN, List.length_append, sizeKids_eq ks]
    cases v <;> rfl
theorem sizeKids_eq : ∀ ks : List (α × Node α), sizeKids ks = (keysKids ks).length
  | [] => rfl
  | (c, n) :: r => by
    rw [sizeKids, keysKids, List.length_append, List.length_map, sizeN_eq n, sizeKids_eq r]
end

theorem mem_keysKids {k : List α} {ks : List (α × Node α)} :
    k ∈ keysKids ks ↔ ∃ p ∈ ks, ∃ k' ∈ keysN p.2, p.1 :: k' = k := by
  induction ks with
  | nil => simp [keysKids]
  | cons p r ih => simp only [keysKids, List.mem_append, List.mem_map, ih, List.mem_cons, exists_eq_or_imp]

theorem mem_keysN_mk {k : List α} {v : Option Nat} {ks : List (α × Node α)} :
    k ∈ keysN (mk v ks) ↔ (k = [] ∧ v.isSome) ∨ ∃ p ∈ ks, ∃ k' ∈ keysN p.2, p.1 :: k' = k := by
  refine List.mem_append.trans (or_congr ?_ mem_keysKids)
  cases v <;> simp

theorem mem_keysN [TotalLT α] (n : Node α) (hs : Sorted n) (k : List α) :
    k ∈ keysN n ↔ (lookupN k n).isSome := by
  induction n using Node.induct_node generalizing k with
  | h v ks ih =>
    rw [sorted_mk] at hs
    rw [mem_keysN_mk]
    cases k with
    | nil => simp
    | cons c cs =>
      simp only [lookupN_cons, kids_mk, reduceCtorEq, false_and, false_or, List.cons.injEq,
        Option.isSome_iff_exists, Option.bind_eq_some_iff]
      constructor
      · rintro ⟨p, hp, k', hk', rfl, rfl⟩
        obtain ⟨i, hi⟩ := Option.isSome_iff_exists.mp ((ih p hp (hs.2 p hp) _).mp hk')
        exact ⟨i, p.2, (mem_iff_find hs.1).mp hp, hi⟩
      · rintro ⟨i, ch, hf, hl⟩
        have hm := find_mem hf
        exact ⟨_, hm, cs, (ih _ hm (hs.2 _ hm) cs).mpr (Option.isSome_iff_exists.mpr ⟨i, hl⟩), rfl, rfl⟩

theorem nodup_keysKids [TotalLT α] (ks : List (α × Node α)) (hlt : KeysLt ks)
    (h : ∀ p ∈ ks, (keysN p.2).Nodup) : (keysKids ks).Nodup := by
  induction ks with
  | nil => exact List.nodup_nil
  | cons p r ih =>
    rw [keysLt_cons] at hlt
    rw [keysKids, List.nodup_append]
    refine ⟨(h p List.mem_cons_self).map _ fun a b hab e => hab (List.cons.inj e).2,
      ih hlt.2 fun q hq => h q (List.mem_cons_of_mem _ hq), ?_⟩
    -- keys below different children differ in their first character
    rintro _ ha _ hb rfl
    obtain ⟨k', _, rfl⟩ := List.mem_map.mp ha
    obtain ⟨q, hq, k'', _, e⟩ := mem_keysKids.mp hb
    exact TotalLT.irrefl p.1 ((List.cons.inj e).1 ▸ hlt.1 q hq)

theorem nodup_keysN [TotalLT α] (n : Node α) (hs : Sorted n) : (keysN n).Nodup := by
  induction n using Node.induct_node with
  | h v ks ih =>
    rw [sorted_mk] at hs
    rw [keysN, List.nodup_append]
    refine ⟨by cases v <;> simp, nodup_keysKids ks hs.1 fun p hp => ih p hp (hs.2 p hp), ?_⟩
    rintro _ ha _ hb rfl
    obtain ⟨_, _, _, _, e⟩ := mem_keysKids.mp hb
    cases v <;> simp [← e] at ha

/-- `size()` of a node: the number of keys on which `lookupN` is defined, counted through any
    duplicate-free enumeration `l` of those keys -/
theorem sizeN_eq_length [TotalLT α] (n : Node α) (hs : Sorted n) (l : List (List α)) (hl : l.Nodup)
    (h : ∀ k, k ∈ l ↔ (lookupN k n).isSome) : sizeN n = l.length := by
  rw [sizeN_eq]
  exact ((List.perm_ext_iff_of_nodup (nodup_keysN n hs) hl).mpr fun k => (mem_keysN n hs k).trans (h k).symm).length_eq

theorem exists_key_of_not_dead (n : Node α) (h : WF n) (hn : ¬ Dead n) : ∃ k, (lookupN k n).isSome := by
  induction n using Node.induct_node with
  | h v ks ih =>
    rw [wf_mk] at h
    cases v with
    | some i => exact ⟨[], rfl⟩
    | none =>
      cases ks with
      | nil => exact absurd ⟨rfl, rfl⟩ hn
      | cons p r =>
        obtain ⟨k, hk⟩ := ih p List.mem_cons_self (h.2 p List.mem_cons_self) (h.1.2 p List.mem_cons_self)
        exact ⟨p.1 :: k, by simpa [lookupN_cons, find] using hk⟩

theorem child_iff_lookupN (n : Node α) (h : WF n) (c : α) :
    c ∈ n.kids.map (·.1) ↔ ∃ k, (lookupN (c :: k) n).isSome := by
  rw [← find_isSome_iff]
  simp only [lookupN_cons]
  cases hf : find c n.kids with
  | none => simp
  | some ch =>
    rw [Node.eta n, wf_mk] at h
    have hm := find_mem hf
    simpa using exists_key_of_not_dead ch (h.2 _ hm) (h.1.2 _ hm)

end Occa.Trie
