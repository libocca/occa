/-
C02 tie (T): the guard events of the C++ memory functions, in source order, as they stood when
OccaModel/Mem.lean was transcribed from them (repaired code: F03, F04, F35, F36, F37, F38 applied).
translate/gen_mem.py regenerates `Occa.Gen.memGuards` from /repo's current sources on every run;
`C02_guards_as_modelled` (Props/C02.lean) states that the two lists are equal.  When a guard is
dropped, added, reordered or edited, that theorem stops checking: revisit the model, then update
this list.

Where each event lives in the model:
  ret:             `View.len` (Lean's `/` on Nat is 0 for a zero divisor, as the repaired length())
  return:/assert:  the `match view? …` heads of sliceExpr/doCopy…/cloneExpr/castExpr, the two `match`es of doSetDtype
                   (`s.vars v`, `s.mems[m]?`), `if n = 0` in mallocExpr
  let:             `countBytes`, `offset_`, `bytes` in sliceView / copyGuards / doCopy…Host / mallocExpr / wrapExpr
  error:           the `if ¬ … then .error …` chain of sliceView / copyGuards / doCopy…Host / mallocExpr / wrapExpr
  if:              `if sv.size = 0` in mallocFromExpr
  call:            `copyBytes` reads the source before writing (memmove); host copies cannot overlap device memory
-/
import OccaGen.MemGuards

namespace Occa.Mem

def guardsModelled : List (String × List String) := [
  ("memory::length", ["return:modeMemory == NULL", "let:dtypeSize = modeMemory->dtype_->bytes()", "ret:(dtypeSize ? (modeMemory->size / dtypeSize) : 0)"]),
  ("memory::slice", ["return:!isInitialized()", "let:dtypeSize = modeMemory->dtype_->bytes()", "let:offset_ = dtypeSize * offset", "let:bytes = dtypeSize * ((count == -1) ? (length() - offset) : count)", "error:bytes >= 0", "error:offset >= 0", "error:(offset + (dim_t) count) <= (dim_t) size()"]),
  ("memory::copyFrom(ptr)", ["return:!isInitialized()", "let:dtypeSize = modeMemory->dtype_->bytes()", "let:bytes = dtypeSize * ((count == -1) ? length() : count)", "let:offset_ = dtypeSize * offset", "error:bytes >= -1", "error:offset_ >= 0", "error:udim_t(bytes + offset_) <= modeMemory->size"]),
  ("memory::copyFrom(memory)", ["return:!isInitialized() && !src.isInitialized()", "assert:this", "assert:src", "let:dtypeSize = modeMemory->dtype_->bytes()", "let:bytes = dtypeSize * ((count == -1) ? length() : count)", "let:destOffset_ = dtypeSize * destOffset", "let:srcOffset_ = src.modeMemory->dtype_->bytes() * srcOffset", "error:bytes >= -1", "error:destOffset_ >= 0", "error:srcOffset_ >= 0", "error:udim_t(bytes + srcOffset_) <= src.modeMemory->size", "error:udim_t(bytes + destOffset_) <= modeMemory->size"]),
  ("memory::copyTo(ptr)", ["return:!isInitialized()", "let:dtypeSize = modeMemory->dtype_->bytes()", "let:bytes = dtypeSize * ((count == -1) ? length() : count)", "let:offset_ = dtypeSize * offset", "error:bytes >= -1", "error:offset_ >= 0", "error:udim_t(bytes + offset_) <= modeMemory->size"]),
  ("memory::copyTo(memory)", ["return:!isInitialized() && !dest.isInitialized()", "assert:this", "assert:dest", "let:dtypeSize = modeMemory->dtype_->bytes()", "let:bytes = dtypeSize * ((count == -1) ? length() : count)", "let:destOffset_ = dest.modeMemory->dtype_->bytes() * destOffset", "let:srcOffset_ = dtypeSize * srcOffset", "error:bytes >= -1", "error:destOffset_ >= 0", "error:srcOffset_ >= 0", "error:udim_t(bytes + srcOffset_) <= modeMemory->size", "error:udim_t(bytes + destOffset_) <= dest.modeMemory->size"]),
  ("memory::cast", []),
  ("memory::clone", ["return:!modeMemory || !byte_size()"]),
  ("memory::setDtype", ["assert:this", "error:dtype__.isRegistered()"]),
  ("modeMemory_t::slice", ["error:modeBuffer != NULL", "error:offset + offset_ >= 0"]),
  ("device::malloc(ptr)", ["assert:this", "return:entries == 0", "let:bytes = entries * dtype.bytes()", "error:bytes >= 0"]),
  ("device::malloc(memory)", ["if:entries && src.byte_size()"]),
  ("device::wrapMemory", ["assert:this", "let:bytes = entries * dtype.bytes()", "error:bytes >= 0"]),
  ("serial::memory::copyTo", ["call:memcpy"]),
  ("serial::memory::copyFrom(ptr)", ["call:memcpy"]),
  ("serial::memory::copyFrom(memory)", ["call:memmove"])
]

end Occa.Mem
