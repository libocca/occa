/-
`useRefs` is only ever switched off by `dontUseRefs()`: histories without it pin nothing.
The field has two writers, `St.setUseRefs` (called by `dontUseRefs` only) and `St.alloc`, which writes
`true` at the new id; every other function of the model returns it as it found it.
-/
import OccaProofs.Lemmas.GcStep

namespace Occa.Gc

@[simp] theorem touch_useRefs (s : St) (o : Nat) : (s.touch o).useRefs = s.useRefs :=
  (apply_ite St.useRefs ..).trans (ite_self _)

@[simp] theorem died_useRefs (s : St) (o : Nat) : (s.died o).useRefs = s.useRefs :=
  (apply_ite St.useRefs ..).trans (ite_self _)

@[simp] theorem chSet_useRefs (s : St) (k : Kind) (d : Nat) (l : List Nat) : (s.chSet k d l).useRefs = s.useRefs := by
  unfold St.chSet; split <;> rfl

@[simp] theorem nullWrappers_useRefs (n : Nat) (s : St) (o : Nat) : (nullWrappers n s o).useRefs = s.useRefs := by
  induction n generalizing s with
  | zero => rfl
  | succ n ih =>
    unfold nullWrappers
    split
    · rfl
    · rw [ih]; simp only [St.setPtr, St.setRing]

@[simp] theorem dtorMemBody_useRefs (s : St) (m : Nat) : (dtorMemBody s m).useRefs = s.useRefs := by
  unfold dtorMemBody; simp

@[simp] theorem destroySlices_useRefs (n : Nat) (s : St) (b : Nat) : (destroySlices n s b).useRefs = s.useRefs := by
  induction n generalizing s with
  | zero => rfl
  | succ n ih =>
    unfold destroySlices
    split
    · rfl
    · rw [ih]; simp [St.setPar, St.setKids]

@[simp] theorem dtorBufBase_useRefs (s : St) (b : Nat) : (dtorBufBase s b).useRefs = s.useRefs := by
  unfold dtorBufBase
  dsimp only
  split <;> simp [St.addBytes]

@[simp] theorem deleteBuf_useRefs (s : St) (b : Nat) : (deleteBuf s b).useRefs = s.useRefs := by
  unfold deleteBuf
  simp only [dtorBufBase_useRefs]
  split
  · split <;> simp
  · simp

@[simp] theorem deleteMem_useRefs (s : St) (m : Nat) : (deleteMem s m).useRefs = s.useRefs := by
  unfold deleteMem
  dsimp only [St.setPar]
  split
  · simp
  · simp [apply_ite St.useRefs, St.setKids]

@[simp] theorem deleteChild_useRefs (k : Kind) (s : St) (o : Nat) : (deleteChild k s o).useRefs = s.useRefs := by
  unfold deleteChild
  simp only []
  split <;> simp

@[simp] theorem deleteOf_useRefs (k : Kind) (s : St) (o : Nat) : (deleteOf k s o).useRefs = s.useRefs := by
  unfold deleteOf; cases k <;> simp

@[simp] theorem freeRing_useRefs (k : Kind) (n : Nat) (s : St) (d : Nat) : (freeRing k n s d).useRefs = s.useRefs := by
  induction n generalizing s with
  | zero => rfl
  | succ n ih =>
    unfold freeRing
    split
    · rfl
    · rw [ih]; simp

theorem dropRefWith_useRefs (del : St → Nat → St) (hd : ∀ s o, (del s o).useRefs = s.useRefs) (s : St) (v : Var) :
    (dropRefWith del s v).useRefs = s.useRefs := by
  unfold dropRefWith
  split
  · rfl
  · simp [apply_ite St.useRefs, St.setPtr, hd, St.setRing]

@[simp] theorem deleteDev_useRefs (s : St) (d : Nat) : (deleteDev s d).useRefs = s.useRefs := by
  unfold deleteDev
  simp [St.setPtr, St.setVLive, dropRefWith_useRefs _ (deleteChild_useRefs .str)]

@[simp] theorem deleteObj_useRefs (k : HKind) (s : St) (o : Nat) : (deleteObj k s o).useRefs = s.useRefs := by
  cases k <;> simp [deleteObj]

@[simp] theorem dropRef_useRefs (s : St) (v : Var) : (dropRef s v).useRefs = s.useRefs :=
  dropRefWith_useRefs _ (deleteObj_useRefs v.kind) s v

@[simp] theorem setMode_useRefs (s : St) (v : Var) (t : Option Nat) : (setMode s v t).useRefs = s.useRefs := by
  unfold setMode
  split
  · rfl
  · cases t <;> simp [St.setPtr, St.setRing]

-- a bare `rfl` first tries `construct s v =?= s`, field by field, before it unfolds anything
@[simp] theorem construct_useRefs (s : St) (v : Var) : (construct s v).useRefs = s.useRefs := by
  unfold construct St.setPtr St.setVLive; rfl

@[simp] theorem destruct_useRefs (s : St) (v : Var) : (destruct s v).useRefs = s.useRefs := by
  unfold destruct; simp [St.setPtr, St.setVLive]

@[simp] theorem freeHandle_useRefs (s : St) (v : Var) : (freeHandle s v).useRefs = s.useRefs := by
  unfold freeHandle
  split
  · rfl
  · split <;> simp [St.setPtr]

@[simp] theorem swapHandles_useRefs (s : St) (a b : Var) : (swapHandles s a b).useRefs = s.useRefs := by
  unfold swapHandles; simp

@[simp] theorem tempOf_useRefs (s : St) (k : HKind) (o : Nat) : (tempOf s k o).useRefs = s.useRefs := by
  unfold tempOf; simp

@[simp] theorem assignTemp_useRefs (s : St) (v : Var) (k : HKind) : (assignTemp s v k).useRefs = s.useRefs := by
  unfold assignTemp; simp

theorem upd_true {f : Nat → Bool} {o : Nat} (h : f o = true) (n : Nat) : upd f n true o = true := by
  simp [upd_apply, h]

theorem tempAssign_mono {s : St} {o : Nat} (h : s.useRefs o = true) {k k' : HKind} {x : Nat} {v : Var} :
    (assignTemp (tempOf s k x) v k').useRefs o = true := by
  rwa [assignTemp_useRefs, tempOf_useRefs]

theorem newDevice_mono {s : St} {o : Nat} (h : s.useRefs o = true) : (newDevice s).useRefs o = true :=
  tempAssign_mono (upd_true ((tempOf_useRefs _ _ _).symm ▸ upd_true h _) _)

def Op.isNorefs : Op → Bool
  | .norefs _ _ => true
  | _ => false

theorem step_useRefs_mono {s : St} {op : Op} (hn : op.isNorefs = false) {o : Nat} (h : s.useRefs o = true) :
    (step s op).1.useRefs o = true := by
  -- `ite_st` / `opt_st` (GcStep) read the property off a goal of the form `P _`
  let P : St → Prop := fun t => t.useRefs o = true
  have ht (x : Nat) : P (s.touch x) := by rwa [← touch_useRefs s x] at h
  have hs : P s := h
  show P (step s op).1
  cases op with dsimp only [step]
  | norefs => cases hn
  | ctor | copy | asg | swap | free | drop => exact ite_st (fun _ => hs) fun _ => by simp [P, h]
  | getstr | setstr | getdev =>
    exact ite_st (fun _ => hs) fun _ => opt_st (fun _ => by simp [P, h]) fun _ _ => by simp [P, h]
  | mkdev => exact ite_st (fun _ => hs) fun _ => by simp [P, newDevice_mono, h]
  | mkpool | mkker | mkstr =>
    exact ite_st (fun _ => hs) fun _ => opt_st (fun _ => hs) fun dv _ => tempAssign_mono (upd_true (ht dv) _)
  | malloc =>
    exact ite_st (fun _ => hs) fun _ => opt_st (fun _ => hs) fun dv _ =>
      ite_st (fun _ => by simp [P, h]) fun _ => tempAssign_mono (upd_true (upd_true (ht dv) _) _)
  | slice =>
    exact ite_st (fun _ => hs) fun _ => opt_st (fun _ => by simp [P, h]) fun mo _ => ite_st (fun _ => ht mo)
      fun _ => opt_st (fun _ => ht mo) fun b _ => tempAssign_mono (upd_true (by simp [h]) _)
  | reserve =>
    refine ite_st (fun _ => hs) fun _ => opt_st (fun _ => hs) fun pl _ =>
      ite_st (fun _ => by simp [P, h]) fun _ => tempAssign_mono (upd_true ?_ _)
    cases (s.touch pl).inner pl
    · exact upd_true (ht pl) _
    · exact ht pl

theorem runFrom_useRefs_mono {ops : List Op} (hn : ∀ op ∈ ops, op.isNorefs = false) {s : St} {o : Nat}
    (h : s.useRefs o = true) : (runFrom s ops).useRefs o = true := by
  induction ops generalizing s with
  | nil => exact h
  | cons op t ih =>
    exact ih (fun x hx => hn x (List.mem_cons_of_mem _ hx)) (step_useRefs_mono (hn op List.mem_cons_self) h)

end Occa.Gc
