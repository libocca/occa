/-
The recursion budget of the JSON loader model is never the reason for an error: `load` enters `loadObjLoop` /
`loadArrLoop` only after consuming `{` / `[`, a loop goes round only after consuming a comma, and a loop calls `load`
on a text at most as long as its own (`loadArrLoop` on the very same text).  So a character pays for at most two levels:
the loops are given `2·len + 3` where `load` is given `2·len + 2` (`load_good`, `objLoop_good`, `arrLoop_good`), and
`parseFuel len = 2·len + 2` suffices for EVERY input text (DESIGN section 3: every fuel-taking function gets a
lemma that a computable amount of fuel suffices).  The budget of `loadPrim` (the nesting of exponents, `1e1e1…`) is
another matter: running out of it is not an error outcome, and only `loadPrim_len` is proved about it here.
-/
import OccaModel.Json

namespace Occa.Json

theorem skipWs_len (s : Bytes) : (skipWs s).length ≤ s.length := by
  fun_induction skipWs s <;> simp <;> omega

theorem bareKey_len (s acc : Bytes) : (bareKey s acc).2.length ≤ s.length := by
  fun_induction bareKey s acc <;> simp <;> omega

theorem skipToNlE_len (e : Bool) (s : Bytes) : (skipToNlE e s).length ≤ s.length := by
  fun_induction skipToNlE e s <;> simp <;> omega

theorem readBin_len (s : Bytes) (a n : Nat) : (readBin s a n).2.2.length ≤ s.length := by
  fun_induction readBin s a n <;> simp <;> omega

theorem readHex_len (s : Bytes) (a n : Nat) : (readHex s a n).2.2.length ≤ s.length := by
  fun_induction readHex s a n <;> simp <;> omega

theorem sufLoop_len (fm : Bool) (s : Bytes) (l : Nat) (u f : Bool) :
    (sufLoop fm s l u f).2.2.2.2.length ≤ s.length := by
  fun_induction sufLoop fm s l u f <;> simp <;> omega

theorem scanDigitsDots_len (s : Bytes) (d : Nat) (dot : Bool) : (scanDigitsDots s d dot).2.2.length ≤ s.length := by
  fun_induction scanDigitsDots s d dot <;> simp <;> omega

theorem splitSign_len (s : Bytes) : (splitSign s).2.length ≤ s.length := by
  unfold splitSign
  split
  · exact Nat.le_trans (skipWs_len _) (by simp)
  · exact Nat.le_refl _

/-- `split` on the goals below is slow: it visits the whole remaining conditional. -/
theorem ite_snd_len {α : Type} {c : Prop} [Decidable c] {a b : α × Bytes} {n : Nat}
    (ha : a.2.length ≤ n) (hb : b.2.length ≤ n) : (if c then a else b).2.length ≤ n := by
  split <;> assumption

theorem loadFormatted_len (s0 : Bytes) (neg : Bool) (s : Bytes) (C1 : UInt8) (hs : s.length ≤ s0.length) :
    (loadFormatted s0 neg s C1).2.length ≤ s0.length := by
  unfold loadFormatted
  simp only []
  have hrb : (if C1 = 66 then readBin (s.drop 2) 0 0 else readHex (s.drop 2) 0 0).2.2.length ≤ (s.drop 2).length := by
    split
    · exact readBin_len _ _ _
    · exact readHex_len _ _ _
  generalize (if C1 = 66 then readBin (s.drop 2) 0 0 else readHex (s.drop 2) 0 0) = rb at hrb
  obtain ⟨v, n, rest⟩ := rb
  have hsl := sufLoop_len true rest 0 false false
  simp only [List.length_drop] at hrb
  exact ite_snd_len (Nat.le_refl _) (Nat.le_trans hsl (by omega))

theorem loadDecimal_len (expLoad : Bytes → Prim × Bytes) (hexp : ∀ t, (expLoad t).2.length ≤ t.length)
    (s0 s : Bytes) (neg : Bool) (hs : s.length ≤ s0.length) :
    (loadDecimal expLoad s0 s neg).2.length ≤ s0.length := by
  unfold loadDecimal
  simp only []
  have h1 := scanDigitsDots_len s 0 false
  generalize scanDigitsDots s 0 false = sc at h1
  obtain ⟨digits, dot, s1⟩ := sc
  have h2 := sufLoop_len false s1 0 false false
  generalize sufLoop false s1 0 false false = sl at h2
  obtain ⟨longs, uns, fl, how, s2⟩ := sl
  have h2' : s2.length ≤ s0.length := by simp only [] at h1 h2; omega
  have h3' : (expLoad s2).2.length ≤ s0.length := Nat.le_trans (hexp s2) h2'
  refine ite_snd_len (Nat.le_refl _) ?_
  cases how
  · exact ite_snd_len (ite_snd_len h2' h2') h2'
  · exact ite_snd_len (ite_snd_len h3' h3') h3'

theorem loadPrim_len : ∀ (fuel : Nat) (s : Bytes), (loadPrim fuel s).2.length ≤ s.length
  | 0, s => Nat.le_refl _
  | fuel + 1, s => by
    unfold loadPrim
    refine ite_snd_len (by simp) (ite_snd_len (by simp) (ite_snd_len ?_ ?_))
    · exact loadFormatted_len s _ _ _ (splitSign_len s)
    · exact loadDecimal_len (loadPrim fuel) (loadPrim_len fuel) s _ _ (splitSign_len s)

theorem loadStr_good (q : UInt8) (e : Bool) (s acc : Bytes) :
    loadStr q e s acc ≠ .error .fuel ∧ ∀ x r, loadStr q e s acc = .ok (x, r) → r.length ≤ s.length := by
  fun_induction loadStr q e s acc
  -- the two errors (end of text, `\u` without four hex digits), the closing quote; every other branch goes on
  case case1 | case9 => exact ⟨nofun, nofun⟩
  case case12 => exact ⟨nofun, fun _ _ h => by cases h; exact Nat.le_succ _⟩
  all_goals rename_i ih; exact ⟨ih.1, fun x r h => Nat.le_succ_of_le (ih.2 x r h)⟩

def Good (s : Bytes) (x : Res Json) : Prop :=
  x ≠ .error .fuel ∧ ∀ v r, x = .ok (v, r) → r.length ≤ s.length

theorem good_err {s : Bytes} {e : Err} (h : e ≠ .fuel) : Good s (.error e) :=
  ⟨fun hh => h (by injection hh), fun _ _ hh => by cases hh⟩

theorem good_ok {s : Bytes} {v : Json} {r : Bytes} (h : r.length ≤ s.length) : Good s (.ok (v, r)) := by
  refine ⟨?_, ?_⟩
  · intro hh; cases hh
  · intro v' r' hh; cases hh; exact h

theorem good_mono {s t : Bytes} {x : Res Json} (h : Good t x) (hl : t.length ≤ s.length) : Good s x :=
  ⟨h.1, fun v r hh => Nat.le_trans (h.2 v r hh) hl⟩

theorem good_ite {s : Bytes} {c : Prop} [Decidable c] {a b : Res Json} (ha : c → Good s a) (hb : ¬c → Good s b) :
    Good s (if c then a else b) := by
  split
  · exact ha ‹_›
  · exact hb ‹_›

theorem length_drop_one {s : Bytes} {c : UInt8} (h : peek s = c) (hc : c ≠ 0) : (s.drop 1).length + 1 = s.length := by
  cases s with
  | nil => exact absurd h.symm hc
  | cons _ _ => rfl

mutual
theorem load_good : ∀ (n : Nat) (s : Bytes), 2 * s.length + 2 ≤ n → Good s (load n s)
  | 0, s, h => by omega
  | n + 1, s0, h => by
    have hsk := skipWs_len s0
    unfold load
    generalize skipWs s0 = s at hsk
    have hd : ∀ k, (s.drop k).length ≤ s0.length := fun k => by rw [List.length_drop]; omega
    have hrec : ∀ {c : UInt8}, peek s = c → c ≠ 0 → 2 * (s.drop 1).length + 3 ≤ n := fun hc h0 => by
      have := length_drop_one hc h0; omega
    -- the branches of `load` in the order of the model: number, object, array, string, true, false, null, comment
    refine good_ite (fun _ => ?num) fun _ =>
      good_ite (fun hc => good_mono (objLoop_good n true _ [] (hrec hc (by decide))) (hd 1)) fun _ =>
      good_ite (fun hc => good_mono (arrLoop_good n _ [] (hrec hc (by decide))) (hd 1)) fun _ =>
      good_ite (fun _ => ?str) fun _ =>
      good_ite (fun _ => good_ite (fun _ => good_ok (hd 4)) fun _ => good_err nofun) fun _ =>
      good_ite (fun _ => good_ite (fun _ => good_ok (hd 5)) fun _ => good_err nofun) fun _ =>
      good_ite (fun _ => good_ite (fun _ => good_ok (hd 4)) fun _ => good_err nofun) fun _ =>
      good_ite (fun _ => good_ite (fun _ => good_ok (Nat.le_trans (skipToNlE_len false s) hsk)) fun _ =>
        good_err nofun) fun _ => good_err nofun
    case num =>
      have := loadPrim_len (s.length + 1) s
      exact good_ok (Nat.le_trans this hsk)
    have hs := loadStr_good (peek s) false (s.drop 1) []
    cases hl : loadStr (peek s) false (s.drop 1) [] with
    | error e => exact good_err fun he => hs.1 (hl ▸ he ▸ rfl)
    | ok xr => exact good_ok (Nat.le_trans (hs.2 _ _ hl) (hd 1))
theorem objLoop_good : ∀ (n : Nat) (hb : Bool) (s : Bytes) (acc : Obj), 2 * s.length + 3 ≤ n → Good s (loadObjLoop n hb s acc)
  | 0, _, s, _, h => by omega
  | n + 1, hb, s0, acc, h => by
    have hsk := skipWs_len s0
    unfold loadObjLoop
    refine good_ite (fun _ => good_ite (fun _ => good_err nofun) fun _ => good_ok (Nat.le_refl _)) fun _ => ?_
    generalize skipWs s0 = s at hsk
    have hd : (s.drop 1).length ≤ s.length := (List.drop_sublist ..).length_le
    refine good_ite (fun _ => good_ite (fun _ => good_ite (fun _ => good_ok (Nat.le_trans hd hsk)) fun _ =>
      good_err nofun) fun _ => good_ok hsk) fun _ => ?_
    have hkey : (if peek s = cQuote then loadStr cQuote false (s.drop 1) [] else .ok (bareKey s [])) ≠ .error .fuel
        ∧ ∀ k r, (if peek s = cQuote then loadStr cQuote false (s.drop 1) [] else .ok (bareKey s [])) = .ok (k, r) →
          r.length ≤ s.length := by
      have hs := loadStr_good cQuote false (s.drop 1) []
      split
      · exact ⟨hs.1, fun k r h => Nat.le_trans (hs.2 k r h) hd⟩
      · exact ⟨nofun, fun k r h => by have := bareKey_len s []; injection h with h; rwa [h] at this⟩
    generalize (if peek s = cQuote then loadStr cQuote false (s.drop 1) [] else .ok (bareKey s [])) = kr at hkey
    cases kr with
    | error e => exact good_err fun he => hkey.1 (he ▸ rfl)
    | ok ks =>
      obtain ⟨key, s1⟩ := ks
      have hs1 := hkey.2 _ _ rfl
      refine good_ite (fun _ => good_err nofun) fun _ => ?_
      have hsk1 := skipWs_len s1
      generalize skipWs s1 = s2 at hsk1
      refine good_ite (fun _ => good_err nofun) fun hcolon => ?_
      -- the ':' is consumed: the value is read from a strictly shorter text
      have := length_drop_one (Decidable.not_not.mp hcolon) (by decide)
      have hl := load_good n (s2.drop 1) (by omega)
      cases hv : load n (s2.drop 1) with
      | error e => exact good_err fun he => hl.1 (hv ▸ he ▸ rfl)
      | ok vr =>
        obtain ⟨v, r⟩ := vr
        have hr := hl.2 _ _ hv
        have hsk2 := skipWs_len r
        simp only []
        generalize skipWs r = r2 at hsk2
        have hd2 : (r2.drop 1).length ≤ r2.length := (List.drop_sublist ..).length_le
        exact good_ite (fun hc => good_mono (objLoop_good n hb (r2.drop 1) _
            (by have := length_drop_one hc (by decide); omega)) (by omega)) fun _ =>
          good_ite (fun _ => good_ite (fun _ => good_ok (by omega)) fun _ => good_ok (by omega)) fun _ =>
          good_ite (fun _ => good_ite (fun _ => good_err nofun) fun _ => good_ok (by omega)) fun _ => good_err nofun
theorem arrLoop_good : ∀ (n : Nat) (s : Bytes) (acc : List Json), 2 * s.length + 3 ≤ n → Good s (loadArrLoop n s acc)
  | 0, s, _, h => by omega
  | n + 1, s0, acc, h => by
    have hsk := skipWs_len s0
    unfold loadArrLoop
    refine good_ite (fun _ => good_err nofun) fun _ => ?_
    generalize skipWs s0 = s at hsk
    refine good_ite (fun _ => good_ok (Nat.le_trans ((List.drop_sublist ..).length_le) hsk)) fun _ => ?_
    have hl := load_good n s (by omega)
    cases hv : load n s with
    | error e => exact good_err fun he => hl.1 (hv ▸ he ▸ rfl)
    | ok vr =>
      obtain ⟨v, r⟩ := vr
      have hr := hl.2 _ _ hv
      have hsk2 := skipWs_len r
      simp only []
      generalize skipWs r = r2 at hsk2
      have hd2 : (r2.drop 1).length ≤ r2.length := (List.drop_sublist ..).length_le
      exact good_ite (fun hc => good_mono (arrLoop_good n (r2.drop 1) _
          (by have := length_drop_one hc (by decide); omega)) (by omega)) fun _ =>
        good_ite (fun _ => good_ok (by omega)) fun _ => good_ite (fun _ => good_err nofun) fun _ => good_err nofun
end

end Occa.Json
