/-
Lemmas for C25: the nested-dictionary laws of path reads/writes, has, remove, set and merge.

Everything is reduced to one key at a time.  `memberOf j k` reads one key, `setLit k v` writes one,
`removeK [k]` erases one; the path operations are recursions over these (`readK_cons`, `hasK_cons`,
`touchWith_cons`, `removeK_cons2`), so each path law is one induction over the path that uses
only the equations between the one-key operations; a write ends in `setLit k c j` at every level, a remove at every
level above the last (where it is `erase`), and `readK_cons_setLit` is the step of every read law (`readK_setLit_frame`
that of the two frame laws).  `WFJ` (every object of a value ordered like std::map) is kept by every operation of the
property (`Op`, `step`, `wfj_step`), so the laws that need it hold after any history.
-/
import OccaModel.JsonPath
import OccaProofs.Lemmas.JsonObj

namespace Occa.Json

/-- the member `k` as `std::map::find` sees it.  A member holding an undefined value (the placeholder a non-const
    `operator[]` leaves) is present here, `some .none`; the const read `readK [k]` gives `.none` for it as for a
    missing one (`readK_one`). -/
def memberOf (j : Json) (k : Bytes) : Option Json :=
  match j with
  | .obj kvs => lookup k kvs
  | _ => Option.none

theorem memberOf_none (k : Bytes) : memberOf .none k = Option.none := rfl

theorem memberOf_obj (kvs : Obj) (k : Bytes) : memberOf (.obj kvs) k = lookup k kvs := rfl

theorem memberOf_nonobj {j : Json} (h : j.isObj = false) (k : Bytes) : memberOf j k = Option.none := by
  cases j <;> first | rfl | cases h

theorem readK_one (k : Bytes) (j : Json) : readK [k] j = (memberOf j k).getD .none := by
  cases j with
  | obj kvs => simp only [readK, memberOf]; cases lookup k kvs <;> rfl
  | _ => rfl

theorem hasK_one (k : Bytes) (j : Json) : hasK [k] j = (memberOf j k).isSome := by
  cases j with
  | obj kvs => simp only [hasK, memberOf]; cases lookup k kvs <;> rfl
  | _ => rfl

theorem read1_of_not_has {k : Bytes} {j : Json} (h : hasK [k] j = false) : readK [k] j = .none := by
  rw [hasK_one] at h
  rw [readK_one]
  cases hm : memberOf j k with
  | none => rfl
  | some v => rw [hm] at h; cases h

theorem setLit_nonobj (k : Bytes) (v j : Json) (h : j.isObj = false) : setLit k v j = .obj [(k, v)] := by
  cases j <;> first | rfl | cases h

theorem memberOf_setLit (k : Bytes) (v j : Json) (q : Bytes) :
    memberOf (setLit k v j) q = if q = k then some v else memberOf j q := by
  cases j with
  | obj kvs => exact lookup_insert q k v kvs
  | _ => rfl

theorem read_setLit (k : Bytes) (v j : Json) : readK [k] (setLit k v j) = v := by
  rw [readK_one, memberOf_setLit, if_pos rfl]
  rfl

theorem read_setLit_ne {q k : Bytes} (h : q ≠ k) (v j : Json) : readK [q] (setLit k v j) = readK [q] j := by
  rw [readK_one, readK_one, memberOf_setLit, if_neg h]

theorem has_setLit (k : Bytes) (v j : Json) : hasK [k] (setLit k v j) = true := by
  rw [hasK_one, memberOf_setLit, if_pos rfl]
  rfl

theorem isObj_setLit (k : Bytes) (v j : Json) : (setLit k v j).isObj = true := by
  cases j <;> rfl

theorem removeK_single (k : Bytes) (kvs : Obj) : removeK [k] (.obj kvs) = .obj (erase k kvs) := by
  simp [removeK]

theorem removeK_nonobj (k : Bytes) (ks : List Bytes) (j : Json) (h : j.isObj = false) : removeK (k :: ks) j = j := by
  cases j <;> first | (cases ks <;> rfl) | simp [Json.isObj] at h

theorem memberOf_remove1_ne {q k : Bytes} (h : q ≠ k) (j : Json) : memberOf (removeK [k] j) q = memberOf j q := by
  cases j with
  | obj kvs => rw [removeK_single]; exact lookup_erase_ne h kvs
  | _ => rfl

theorem memberOf_remove1_self (k : Bytes) {kvs : Obj} (h : Sorted kvs) : memberOf (removeK [k] (.obj kvs)) k = Option.none := by
  rw [removeK_single]
  exact lookup_erase_self k h

theorem readK_nil (j : Json) : readK [] j = j := by cases j <;> rfl

theorem hasK_nil (j : Json) : hasK [] j = true := by cases j <;> rfl

theorem readK_none (ks : List Bytes) : readK ks .none = .none := by cases ks <;> rfl

theorem readK_cons (k : Bytes) (ks : List Bytes) (j : Json) : readK (k :: ks) j = readK ks (readK [k] j) := by
  cases j with
  | obj kvs =>
    simp only [readK]
    cases lookup k kvs with
    | none => exact (readK_none ks).symm
    | some v => rfl
  | _ => exact (readK_none ks).symm

theorem hasK_cons (k : Bytes) (ks : List Bytes) (j : Json) :
    hasK (k :: ks) j = (hasK [k] j && hasK ks (readK [k] j)) := by
  cases j with
  | obj kvs => simp only [hasK, readK]; cases lookup k kvs <;> rfl
  | _ => rfl

theorem readK_cons_setLit (q : Bytes) (qs : List Bytes) (k : Bytes) (c j : Json) :
    readK (q :: qs) (setLit k c j) = if q = k then readK qs c else readK (q :: qs) j := by
  rw [readK_cons, readK_cons q qs j]
  split
  · next h => rw [h, read_setLit]
  · next h => rw [read_setLit_ne h]

theorem readK_cons_nonobj (k : Bytes) (ks : List Bytes) (j : Json) (h : j.isObj = false) :
    readK (k :: ks) j = .none := by
  rw [readK_cons, readK_one, memberOf_nonobj h]
  exact readK_none ks

theorem readK_append : ∀ (a b : List Bytes) (j : Json), readK (a ++ b) j = readK b (readK a j)
  | [], _, j => by rw [readK_nil]; rfl
  | k :: a, b, j => by rw [List.cons_append, readK_cons, readK_append a b, readK_cons k a]

theorem hasNoneO_iff (kvs : Obj) : hasNoneO kvs = false ↔ ∀ p ∈ kvs, hasNone p.2 = false := by
  induction kvs with
  | nil => exact ⟨nofun, fun _ => rfl⟩
  | cons p r ih => simp only [hasNoneO, Bool.or_eq_false_iff, ih, List.forall_mem_cons]

theorem hasNone_read1 {j : Json} {k : Bytes} (hn : hasNone j = false) (hh : hasK [k] j = true) :
    hasNone (readK [k] j) = false := by
  rw [hasK_one] at hh
  rw [readK_one]
  cases j with
  | obj kvs =>
    rw [memberOf_obj] at hh ⊢
    cases hl : lookup k kvs with
    | none => rw [hl] at hh; cases hh
    | some v => exact (hasNoneO_iff kvs).mp hn _ (mem_of_lookup hl)
  | _ => cases hh

theorem touchWith_nil (f : Json → Json) (j : Json) : touchWith f [] j = .ok (f j) := by cases j <;> rfl

theorem touchGo_cons (f : Json → Json) (k : Bytes) (ks : List Bytes) (kvs : Obj) (ex : Bool) :
    touchGo f (k :: ks) (.obj kvs) ex =
      (touchGo f ks (if (readK [k] (.obj kvs)).isNone then .obj [] else readK [k] (.obj kvs))
        (!(readK [k] (.obj kvs)).isNone && ex)).map fun c => .obj (insert k c kvs) := by
  rw [readK_one, memberOf_obj]
  simp only [touchGo]
  generalize touchGo f ks _ _ = r
  cases r <;> rfl

/-- `touchWith` is itself a recursion over the path: below an undefined value or an object it continues
    with the member read by the const accessor and stores the result back with `set`; the `exists`
    flag and the conversion of `none` nodes of `touchGo` are what `touchWith` does at the next level -/
theorem touchWith_cons (f : Json → Json) (k : Bytes) (ks : List Bytes) (j : Json) :
    touchWith f (k :: ks) j =
      if j.isObj || j.isNone then (touchWith f ks (readK [k] j)).map (setLit k · j) else .error .notObject := by
  cases j with
  | none => exact touchGo_cons f k ks [] false
  | obj kvs =>
    refine (touchGo_cons f k ks kvs true).trans ?_
    rw [Bool.and_true]
    unfold touchWith
    cases (readK [k] (.obj kvs)).isNone <;> rfl
  | _ => rfl

theorem touchWith_cons_ok {f : Json → Json} {k : Bytes} {ks : List Bytes} {j j' : Json}
    (h : touchWith f (k :: ks) j = .ok j') : ∃ c, touchWith f ks (readK [k] j) = .ok c ∧ j' = setLit k c j := by
  rw [touchWith_cons] at h
  split at h
  · cases hc : touchWith f ks (readK [k] j) with
    | error e => rw [hc] at h; cases h
    | ok c => rw [hc] at h; cases h; exact ⟨c, rfl, rfl⟩
  · cases h

@[elab_as_elim]
theorem touchWith_induct {f : Json → Json} {motive : List Bytes → Json → Json → Prop}
    (nil : ∀ j, motive [] j (f j))
    (cons : ∀ k ks j c, motive ks (readK [k] j) c → motive (k :: ks) j (setLit k c j))
    {ks : List Bytes} {j j' : Json} (h : touchWith f ks j = .ok j') : motive ks j j' := by
  induction ks generalizing j j' with
  | nil => rw [touchWith_nil] at h; cases h; exact nil j
  | cons k ks ih =>
    obtain ⟨c, hc, rfl⟩ := touchWith_cons_ok h
    exact cons k ks j c (ih hc)

theorem has_touchWith {f : Json → Json} {ks : List Bytes} {j j' : Json} (h : touchWith f ks j = .ok j') :
    hasK ks j' = true :=
  touchWith_induct (fun _ => hasK_nil _)
    (fun k ks j c ih => by rw [hasK_cons, has_setLit, read_setLit, ih]; rfl) h

/-- `f(root[path])` is a nested-dictionary update, seen through const reads.  At the path and below it: read after
    write (`f` constant), and a const read after `root[path];` sees what it saw before (`f = id`) -/
theorem readK_touchWith_below {f : Json → Json} {ks : List Bytes} {j j' : Json} (h : touchWith f ks j = .ok j')
    (r : List Bytes) : readK (ks ++ r) j' = readK r (f (readK ks j)) :=
  touchWith_induct (fun j => by rw [readK_nil]; rfl)
    (fun k ks j c ih => by rw [List.cons_append, readK_cons_setLit, if_pos rfl, ih, readK_cons k ks j]) h

theorem readK_touchWith_self {f : Json → Json} {ks : List Bytes} {j j' : Json} (h : touchWith f ks j = .ok j') :
    readK ks j' = f (readK ks j) := by
  have := readK_touchWith_below h []
  rwa [List.append_nil, readK_nil] at this

/-- a path unrelated to `k :: ks` either leaves at `k` or is unrelated to `ks` below it -/
theorem readK_setLit_frame {k : Bytes} {ks : List Bytes} {c j : Json}
    (ih : ∀ qs, ¬ ks <+: qs → ¬ qs <+: ks → readK qs c = readK qs (readK [k] j)) (qs : List Bytes)
    (h1 : ¬ (k :: ks) <+: qs) (h2 : ¬ qs <+: (k :: ks)) : readK qs (setLit k c j) = readK qs j := by
  cases qs with
  | nil => exact absurd List.nil_prefix h2
  | cons q qs =>
    rw [readK_cons_setLit]
    split
    · next hq => subst hq; rw [List.prefix_cons_inj] at h1 h2; rw [ih qs h1 h2, ← readK_cons]
    · rfl

theorem readK_touchWith_frame {f : Json → Json} {ks qs : List Bytes} {j j' : Json} (h : touchWith f ks j = .ok j')
    (h1 : ¬ ks <+: qs) (h2 : ¬ qs <+: ks) : readK qs j' = readK qs j :=
  touchWith_induct (motive := fun ks j j' => ∀ qs, ¬ ks <+: qs → ¬ qs <+: ks → readK qs j' = readK qs j)
    (fun _ _ h1 => absurd List.nil_prefix h1) (fun _ _ _ _ ih => readK_setLit_frame ih) h qs h1 h2

theorem readK_touchWith_inter {f : Json → Json} {ks qs : List Bytes} {j j' : Json} (h : touchWith f ks j = .ok j')
    (h1 : qs <+: ks) (h2 : qs ≠ ks) : (readK qs j').isObj = true := by
  refine touchWith_induct (motive := fun ks j j' => ∀ qs, qs <+: ks → qs ≠ ks → (readK qs j').isObj = true)
    (fun _ _ h1 h2 => absurd (List.prefix_nil.mp h1) h2) (fun k ks j c ih qs h1 h2 => ?_) h qs h1 h2
  cases qs with
  | nil => rw [readK_nil]; exact isObj_setLit k c j
  | cons q qs =>
    obtain ⟨rfl, h1'⟩ := List.cons_prefix_cons.mp h1
    rw [readK_cons_setLit, if_pos rfl]
    exact ih qs h1' fun e => h2 (e ▸ rfl)

theorem removeK_cons2 (k k2 : Bytes) (ks : List Bytes) (j : Json) :
    removeK (k :: k2 :: ks) j =
      if hasK [k] j then setLit k (removeK (k2 :: ks) (readK [k] j)) j else j := by
  cases j with
  | obj kvs =>
    rw [hasK_one, readK_one, memberOf_obj]
    simp only [removeK]
    cases lookup k kvs <;> rfl
  | _ => rfl

mutual
/-- every object in the value is ordered like std::map -/
def WFJ : Json → Prop
  | .arr xs => WFL xs
  | .obj kvs => Sorted kvs ∧ WFO kvs
  | _ => True
def WFL : List Json → Prop
  | [] => True
  | x :: xs => WFJ x ∧ WFL xs
def WFO : Obj → Prop
  | [] => True
  | (_, v) :: r => WFJ v ∧ WFO r
end

theorem wfo_iff (kvs : Obj) : WFO kvs ↔ ∀ p ∈ kvs, WFJ p.2 := by
  induction kvs with
  | nil => exact ⟨nofun, fun _ => trivial⟩
  | cons p r ih => simp only [WFO, ih, List.forall_mem_cons]

theorem wfo_lookup {kvs : Obj} (h : WFO kvs) {k : Bytes} {v : Json} (hl : lookup k kvs = some v) : WFJ v :=
  (wfo_iff kvs).mp h _ (mem_of_lookup hl)

theorem wfo_insert {kvs : Obj} (h : WFO kvs) (k : Bytes) {v : Json} (hv : WFJ v) : WFO (insert k v kvs) :=
  (wfo_iff _).mpr fun _ hp => (mem_insert hp).elim (· ▸ hv) ((wfo_iff kvs).mp h _)

theorem wfo_erase {kvs : Obj} (h : WFO kvs) (k : Bytes) : WFO (erase k kvs) :=
  (wfo_iff _).mpr fun _ hp => (wfo_iff kvs).mp h _ (mem_erase hp)

theorem wfj_read1 {j : Json} (hw : WFJ j) (k : Bytes) : WFJ (readK [k] j) := by
  rw [readK_one]
  cases j with
  | obj kvs =>
    rw [memberOf_obj]
    cases hl : lookup k kvs with
    | none => trivial
    | some v => exact wfo_lookup hw.2 hl
  | _ => trivial

theorem wfj_setLit (k : Bytes) {v j : Json} (hv : WFJ v) (hj : WFJ j) : WFJ (setLit k v j) := by
  cases j with
  | obj kvs => exact ⟨sorted_insert k v hj.1, wfo_insert hj.2 k hv⟩
  | _ => exact ⟨sorted_insert k v sorted_nil, hv, trivial⟩

theorem wfj_removeK : ∀ (ks : List Bytes) {j : Json}, WFJ j → WFJ (removeK ks j)
  | [], j, h => by cases j <;> exact h
  | [k], j, h => by
    cases j with
    | obj kvs => exact ⟨sorted_erase k h.1, wfo_erase h.2 k⟩
    | _ => exact h
  | k :: k2 :: ks, j, h => by
    rw [removeK_cons2]
    split
    · exact wfj_setLit k (wfj_removeK (k2 :: ks) (wfj_read1 h k)) h
    · exact h

theorem hasK_removeK : ∀ (ks : List Bytes) {j : Json}, ks ≠ [] → WFJ j → hasK ks (removeK ks j) = false
  | [], _, h, _ => absurd rfl h
  | [k], j, _, hw => by
    rw [hasK_one]
    cases j with
    | obj kvs => rw [memberOf_remove1_self k hw.1]; rfl
    | _ => rfl
  | k :: k2 :: ks, j, _, hw => by
    rw [removeK_cons2, hasK_cons]
    split
    · rw [has_setLit, read_setLit]
      exact hasK_removeK (k2 :: ks) (List.cons_ne_nil _ _) (wfj_read1 hw k)
    · next h => rw [Bool.eq_false_iff.mpr h]; rfl

theorem readK_removeK_frame : ∀ (ks qs : List Bytes) (j : Json), ¬ ks <+: qs → ¬ qs <+: ks →
    readK qs (removeK ks j) = readK qs j
  | [], _, _, h1, _ => absurd List.nil_prefix h1
  | _ :: _, [], _, _, h2 => absurd List.nil_prefix h2
  | [k], q :: qs, j, h1, _ => by
    have hq : q ≠ k := fun e => h1 (e ▸ (List.prefix_cons_inj k).mpr List.nil_prefix)
    rw [readK_cons, readK_cons q qs j, readK_one, readK_one, memberOf_remove1_ne hq]
  | k :: k2 :: ks, qs, j, h1, h2 => by
    rw [removeK_cons2]
    split
    · exact readK_setLit_frame (fun qs => readK_removeK_frame (k2 :: ks) qs _) qs h1 h2
    · rfl

theorem wfj_touchWith {f : Json → Json} (hf : ∀ x, WFJ x → WFJ (f x)) {ks : List Bytes} {j j' : Json}
    (hw : WFJ j) (h : touchWith f ks j = .ok j') : WFJ j' := by
  revert hw
  exact touchWith_induct hf (fun k ks j c ih hw => wfj_setLit k (ih (wfj_read1 hw k)) hw) h

theorem mergeObj_nil (a : Obj) : mergeObj a [] = a := by simp [mergeObj]

theorem mergeObj_cons (a : Obj) (k : Bytes) (v : Json) (rest : Obj) :
    mergeObj a ((k, v) :: rest) = mergeObj (insert k (mergeVal (lookup k a) v) a) rest := by
  simp [mergeObj]

theorem mergeVal_none (v : Json) : mergeVal Option.none v = v := by
  cases v <;> simp [mergeVal]

theorem mergeVal_nonobj (old : Option Json) (v : Json) (h : v.isObj = false) : mergeVal old v = v := by
  cases v with
  | obj kvs => cases h
  | _ => simp [mergeVal]

theorem mergeVal_obj_obj (akvs bkvs : Obj) : mergeVal (some (.obj akvs)) (.obj bkvs) = .obj (mergeObj akvs bkvs) := by
  simp [mergeVal]

theorem mergeVal_obj_nonobj (o : Json) (bkvs : Obj) (h : o.isObj = false) : mergeVal (some o) (.obj bkvs) = .obj bkvs := by
  cases o with
  | obj kvs => cases h
  | _ => simp [mergeVal]

theorem lookup_mergeObj : ∀ (b a : Obj), Sorted b → ∀ k : Bytes,
    lookup k (mergeObj a b) =
      match lookup k b with
      | Option.none => lookup k a
      | some vb => some (mergeVal (lookup k a) vb)
  | [], a, _, k => by rw [mergeObj_nil]; rfl
  | (k', v') :: rest, a, hs, k => by
    rw [mergeObj_cons, lookup_mergeObj rest _ hs.2 k]
    by_cases hk : k = k'
    · subst hk
      rw [lookup_none_of_allGt hs.1, lookup_cons_eq, lookup_insert, if_pos rfl]
    · rw [lookup_cons_ne hk, lookup_insert, if_neg hk]

theorem sorted_mergeObj : ∀ (b a : Obj), Sorted a → Sorted (mergeObj a b)
  | [], a, h => by rw [mergeObj_nil]; exact h
  | (k, v) :: rest, a, h => by
    rw [mergeObj_cons]
    exact sorted_mergeObj rest _ (sorted_insert _ _ h)

mutual
theorem wfo_mergeObj : ∀ (b a : Obj), WFO a → WFO b → WFO (mergeObj a b)
  | [], a, ha, _ => by rw [mergeObj_nil]; exact ha
  | (k, v) :: rest, a, ha, hb => by
    rw [mergeObj_cons]
    exact wfo_mergeObj rest _ (wfo_insert ha k (wfj_mergeVal v (lookup k a) hb.1 fun o ho => wfo_lookup ha ho)) hb.2
theorem wfj_mergeVal : ∀ (v : Json) (old : Option Json), WFJ v → (∀ o, old = some o → WFJ o) → WFJ (mergeVal old v)
  | .obj bkvs, old, hv, ho => by
    cases old with
    | none => rw [mergeVal_none]; exact hv
    | some o =>
      cases o with
      | obj akvs =>
        rw [mergeVal_obj_obj]
        exact ⟨sorted_mergeObj bkvs akvs (ho _ rfl).1, wfo_mergeObj bkvs akvs (ho _ rfl).2 hv.2⟩
      | _ => rw [mergeVal_obj_nonobj _ _ rfl]; exact hv
  | .none, old, hv, _ | .null, old, hv, _ | .num _, old, hv, _ | .str _, old, hv, _ | .arr _, old, hv, _ => by
    rw [mergeVal_nonobj _ _ rfl]; exact hv
end

theorem mergeObj_empty (b : Obj) (hb : Sorted b) : mergeObj [] b = b := by
  refine sorted_ext (sorted_mergeObj b [] sorted_nil) hb fun k => ?_
  rw [lookup_mergeObj b [] hb k]
  cases lookup k b with
  | none => rfl
  | some vb => exact congrArg some (mergeVal_none vb)

theorem wfl_append {xs : List Json} {v : Json} (hx : WFL xs) (hv : WFJ v) : WFL (xs ++ [v]) := by
  induction xs with
  | nil => exact ⟨hv, trivial⟩
  | cons x t ih => exact ⟨hx.1, ih hx.2⟩

theorem wfj_add {a b r : Json} (ha : WFJ a) (hb : WFJ b) (h : add a b = .ok r) : WFJ r := by
  unfold add at h
  split at h
  · cases h; exact ha
  · split at h
    · cases h; trivial
    · split at h
      · cases h; trivial
      · cases h
    · cases h; trivial
    · cases h; exact ⟨hb, trivial⟩
    · cases h; exact ⟨sorted_mergeObj _ [] sorted_nil, wfo_mergeObj _ [] trivial hb.2⟩
    · cases h; exact wfl_append ha hb
    · cases h; trivial
    · split at h
      · cases h; trivial
      · cases h
    · cases h; trivial
    · cases h; exact ⟨sorted_mergeObj _ _ ha.1, wfo_mergeObj _ _ ha.2 hb.2⟩
    · cases h

/-- the mutating operations of the property (paths already split into keys) -/
inductive Op
  | new (v : Json)
  | touch (p : List Bytes)
  | write (p : List Bytes) (v : Json)
  | remove (p : List Bytes)
  | set (k : Bytes) (v : Json)
  | setAt (p : List Bytes) (k : Bytes) (v : Json)
  | merge (v : Json)

def Op.Wf : Op → Prop
  | .new v => WFJ v
  | .write _ v => WFJ v
  | .set _ v => WFJ v
  | .setAt _ _ v => WFJ v
  | .merge v => WFJ v
  | _ => True

/-- one operation; an operation that throws leaves the value unchanged -/
def step (j : Json) : Op → Json
  | .new v => v
  | .touch p => match touch p j with | .ok j' => j' | .error _ => j
  | .write p v => match write p v j with | .ok j' => j' | .error _ => j
  | .remove p => removeK p j
  | .set k v => setLit k v j
  | .setAt p k v => match touchWith (setLit k v) p j with | .ok j' => j' | .error _ => j
  | .merge v => match add j v with | .ok j' => j' | .error _ => j

def run (j : Json) (ops : List Op) : Json := ops.foldl step j

theorem wfj_step (j : Json) (op : Op) (hj : WFJ j) (ho : op.Wf) : WFJ (step j op) := by
  cases op with
  | new v => exact ho
  | touch p =>
    simp only [step]
    split
    · next h => exact wfj_touchWith (fun _ hx => hx) hj h
    · exact hj
  | write p v =>
    simp only [step]
    split
    · next h => exact wfj_touchWith (fun _ _ => ho) hj h
    · exact hj
  | remove p => exact wfj_removeK p hj
  | set k v => exact wfj_setLit k ho hj
  | setAt p k v =>
    simp only [step]
    split
    · next h => exact wfj_touchWith (fun _ hx => wfj_setLit k ho hx) hj h
    · exact hj
  | merge v =>
    simp only [step]
    split
    · next h => exact wfj_add hj ho h
    · exact hj

end Occa.Json
